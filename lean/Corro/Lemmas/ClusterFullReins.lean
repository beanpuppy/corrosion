/-
C01, protocol level — definitions for the counterexample that makes restriction R2 (`LogOK`: no
re-insertion of a deleted row) a NECESSITY of `held_inv` (`Props/C01ClusterFull.lean`,
`held_inv_needs_no_reinsertion_counterexample`): `LogOKre` is `LogOK` WITHOUT the single clause
`cl ≤ 2` of `ChgOK` (so causal lengths 3, 4, … — re-insertions — are allowed; everything else — versions
`1, 2, 3, …` per site, attribution, the shape of sentinels, deletes and column changes, strictly
increasing seqs — is kept), and the run of the known finding "relayed-sentinel-shares-seq".
-/
import Corro.Lemmas.ClusterLog

namespace Corro.ClusterSys
open Corro.Crdt Corro.Node

/-- `ChgOK` without the bound `cl ≤ 2` (the other clauses, the bound on `seq` included, are those of
`ChgOK`) -/
def ChgOKre (c : Chg) : Prop :=
  1 ≤ c.cl ∧ (c.cid = sentinel → c.val = .null ∧ c.colv = c.cl) ∧
  (c.cl = 2 → c.cid = sentinel) ∧ (c.cid ≠ sentinel → 1 ≤ c.colv) ∧ c.seq ≤ 1000000000

instance (c : Chg) : Decidable (ChgOKre c) := by unfold ChgOKre; exact inferInstance

theorem chgOK_iff (c : Chg) : ChgOK c ↔ ChgOKre c ∧ c.cl ≤ 2 := by
  unfold ChgOK ChgOKre
  constructor
  · rintro ⟨h1, h2, h3, h4, h5, h6⟩; exact ⟨⟨h1, h3, h4, h5, h6⟩, h2⟩
  · rintro ⟨⟨h1, h3, h4, h5, h6⟩, h2⟩; exact ⟨h1, h2, h3, h4, h5, h6⟩

/-- `EntryOK` with `ChgOKre` -/
def EntryOKre (e : (Nat × Nat) × List Chg) : Prop :=
  (∀ c ∈ e.2, c.site = e.1.1 ∧ c.dbv = e.1.2 ∧ ChgOKre c) ∧ e.2.Pairwise (fun x y => x.seq < y.seq)

instance (e : (Nat × Nat) × List Chg) : Decidable (EntryOKre e) := by unfold EntryOKre; exact inferInstance

/-- `LogOK` without the clause `cl ≤ 2` -/
def LogOKre : Log → Prop
  | [] => True
  | e :: L => LogOKre L ∧ e.1.2 = Log.head L e.1.1 + 1 ∧ EntryOKre e

instance : (L : Log) → Decidable (LogOKre L)
  | [] => isTrue trivial
  | e :: L =>
    have := instDecidableLogOKre L
    by unfold LogOKre; exact inferInstance

namespace ExR

/-- The history of the known finding "relayed-sentinel-shares-seq" (`corpus/C01/
relayed_sentinel_shares_seq.ops`), five nodes, in the ONE-CHANGESET-PER-BATCH model (`ClusterSys.step`).
Table `t` (key `id`, columns `a`, `b`), row `id = 1` (`pk = "i1"`); `'a' = [97]`, `'y' = [121]`,
`'b' = [98]`.

 1. node 0 inserts the row (`a = 'a'`, `b = 1`): version (0,1), seqs 0..1;
 2.-4. nodes 1, 2, 3 receive (0,1) whole;
 5. node 0 deletes the row: (0,2) = one sentinel, `cl = 2`;
 6. node 2 receives (0,2);
 7. node 0 RE-INSERTS the row (`a = 'y'`, `b = 5`): (0,3) = sentinel `cl = 3` @0, `a` @1, `b` @2;
 8. node 2 (row deleted there) RE-INSERTS it concurrently (`a = 'b'`): (2,1) = sentinel `cl = 3` @0,
    `a` @1, `b = NULL` @2;
 9. node 1 (row alive, `cl = 1`) receives (2,1) whole — the row is resurrected by node 2's sentinel;
 10. node 1 receives (0,3) whole: the sentinel of (0,3) is ignored (equal `cl`), `a = 'y'`, `b = 5` win;
 11. node 3 syncs with node 1 (all answers): node 1 serves (0,3) as ONE COMPLETE changeset `0..=2`
     carrying its live entries of the version only — `a` @1 and `b` @2; the sentinel of (0,3) is not
     live on node 1 (node 2's won) — and (2,1) as its sentinel alone.  Node 3 (row at `cl = 1`) merges
     `a` first, which resurrects the row and creates an IMPLICIT sentinel attributed to
     `(0, 3, seq 1)` — the same `(site, db_version, seq)` as the column change `a`;
 12. node 4 receives the chunk `p0of3 = [0, 0]` of (0,3) (its real sentinel) and buffers it;
 13. node 4 syncs with node 3: it asks for `1..=2` of (0,3); node 3 answers with its live entries
     attributed to (0,3) in that range — the implicit sentinel @1, `a` @1, `b` @2; buffering keeps the
     FIRST row per `(site, db_version, seq)`: the sentinel @1, and DROPS `a` @1; the version is now
     complete, applied and booked as held;
 14.-17. the further sessions `4 ← 3`, `4 ← 0`, `0 ← 4`, `4 ← 0` carry `Empty` answers only; at the end
     nodes 0 and 4 both hold every version of the log. -/
def opsR : List Op := [
  .write 0 [.ins "t" "i1" [("a", .text [97]), ("b", .int 1)]],
  .deliverOrigin 1 0 1 0 1, .deliverOrigin 2 0 1 0 1, .deliverOrigin 3 0 1 0 1,
  .write 0 [.del "t" "i1"],
  .deliverOrigin 2 0 2 0 0,
  .write 0 [.ins "t" "i1" [("a", .text [121]), ("b", .int 5)]],
  .write 2 [.ins "t" "i1" [("a", .text [98])]],
  .deliverOrigin 1 2 1 0 2,
  .deliverOrigin 1 0 3 0 2,
  .sync 3 1 [0, 1, 2],
  .deliverOrigin 4 0 3 0 0,
  .sync 4 3 [0, 1, 2], .sync 4 3 [0, 1, 2], .sync 4 0 [0, 1, 2],
  .sync 0 4 [0, 1, 2], .sync 4 0 [0, 1, 2]]

def cR : Cluster := run (Cluster.init 5) opsR

/-- the state in which node 4 asks node 3 for the rest of (0,3) (after step 12) -/
def cR12 : Cluster := run (Cluster.init 5) (opsR.take 12)

end ExR

end Corro.ClusterSys
