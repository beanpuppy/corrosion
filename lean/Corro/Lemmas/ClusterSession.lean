/-
C01, protocol level, batches and crashes — what one sync session achieves.  The client is ALIVE and has
nothing pending (`Crash.AInv`); the server is clean, dead or alive; the session is LOSSLESS; the client may
process the answers in ANY split into batches.  Afterwards the client holds every foreign version the
server holds (`session_progressB`).
The batches of a session do to the client's bookkeeping what their changesets do, delivered in any split
(`BatchEff` of `NodeEffect.lean` composes), so what is held stays held, an `Empty` range or a
complete changeset settles its versions, and the chunks of a version complete its partial.  What the
session contains is `ClusterServe.lean` / `ClusterLive.lean`.
-/
import Corro.Lemmas.ClusterFullEffect
import Corro.Lemmas.ClusterLive

namespace Corro.ClusterSys.Full
open Corro.Crdt Corro.Node

section Fold
variable {L : Log}

theorem gi_of_ainv {n : Node} {R : List Chg} (hA : Crash.AInv L n R) :
    GI False L n.booked n.seqRows n.buf R [] [] :=
  gi_of_cinv hA.ninv hA.cinv (fun _ _ h => h)

theorem ainv_step {n : Node} {R : List Chg} (hA : Crash.AInv L n R)
    (hL : LogOK L) {b : List Item} (hck : ∀ it ∈ b, ChunkOK L it) :
    Crash.AInv L (n.deliver b) (mergedByBatch n b ++ R) :=
  ⟨ninv_deliverB hA.ninv hL (fun it hit => chunkOK_changes hL (hck it hit)),
    ainv_deliverB hA.ninv hA.cinv hA.alive hL hck, (deliverB_alive n b).trans hA.alive⟩

theorem foldB_ainv (hL : LogOK L) (batches : List (List Item)) (s : Node × List Chg)
    (hA : Crash.AInv L s.1 s.2) (hck : ∀ b ∈ batches, ∀ it ∈ b, ChunkOK L it) :
    Crash.AInv L (batches.foldl deliverB s).1 (batches.foldl deliverB s).2 :=
  deliverB_foldl_inv (Crash.AInv L) batches s.1 s.2 hA (fun b hb _ _ h => ainv_step h hL (hck b hb))

theorem foldB_alive (batches : List (List Item)) (s : Node × List Chg) :
    (batches.foldl deliverB s).1.alive = s.1.alive :=
  deliverB_foldl_inv (fun n _ => n.alive = s.1.alive) batches s.1 s.2 rfl
    (fun b _ n _ h => (deliverB_alive n b).trans h)

theorem foldB_eff (hL : LogOK L) (batches : List (List Item)) (s : Node × List Chg)
    (hA : Crash.AInv L s.1 s.2) (hck : ∀ b ∈ batches, ∀ it ∈ b, ChunkOK L it) (a : Nat) :
    BatchEff batches.flatten a (s.1.booked a) ((batches.foldl deliverB s).1.booked a) := by
  induction batches generalizing s with
  | nil => exact BatchEff.idle (fun _ h => h) (fun _ => rfl)
  | cons b rest ih =>
    have hc := hck b (List.mem_cons_self ..)
    rw [List.flatten_cons]
    exact (deliver_eff (hA.cinv.needed_wf a) (hA.cinv.pwf a) (hA.cinv.keys a) b).trans
      (ih (deliverB s b) (ainv_step hA hL hc) (fun b' hb' => hck b' (List.mem_cons_of_mem _ hb')))

theorem foldB_held (hL : LogOK L) (batches : List (List Item)) (s : Node × List Chg)
    (hA : Crash.AInv L s.1 s.2) (hck : ∀ b ∈ batches, ∀ it ∈ b, ChunkOK L it) {a v : Nat}
    (h : WillHold ((batches.foldl deliverB s).1.booked a) v) : Held (batches.foldl deliverB s).1 a v :=
  held_of_willHold (gi_of_ainv (foldB_ainv hL batches s hA hck)) id h

theorem foldB_held_mono (hL : LogOK L) (batches : List (List Item)) (s : Node × List Chg)
    (hA : Crash.AInv L s.1 s.2) (hck : ∀ b ∈ batches, ∀ it ∈ b, ChunkOK L it) {a v : Nat}
    (h : Held s.1 a v) : Held (batches.foldl deliverB s).1 a v :=
  foldB_held hL batches s hA hck ((foldB_eff hL batches s hA hck a).willHold (willHold_of_held h))

end Fold

section Session
open Corro.Needs
variable {Pj : Nat → Nat → Prop} {L : Log} {ni nj : Node} {Ri Rj : List Chg}

theorem answers_no_full (hIj : Crash.CInv Pj L nj Rj) {a v : Nat} (hh : Held nj a v)
    (hl : (nj.live a v).isEmpty = true) :
    ∀ it ∈ answers ni nj, ∀ lo hi last cs, it ≠ Corro.Node.Item.full a v lo hi last cs := by
  intro it hit lo hi last cs heq
  obtain ⟨_, _, need, _, _, hit⟩ := of_mem_answers hit
  subst heq
  obtain ⟨rfl, _, ⟨hne, _⟩ | ⟨_, hb, _⟩⟩ := full_mem_handleNeed hit
  · rw [hl] at hne; cases hne
  · rw [Crash.held_no_buf hIj hh] at hb; cases hb

/-- **`sync_round_progress`, one version, BATCHED.**  After a LOSSLESS session — every answer of the
server is in at least one of the batches the client processes, and the batches contain nothing else —
the client holds every version of a foreign actor that the server holds. -/
theorem session_progressB (hL : LogOK L) (hAi : Crash.AInv L ni Ri) (hNj : NInv L nj Rj)
    (hIj : Crash.CInv Pj L nj Rj) (hcl : nodeClean nj = true) {a v : Nat} (ha : a ≠ ni.id) (hv : 1 ≤ v)
    (hh : Held nj a v) (batches : List (List Corro.Node.Item))
    (hsub : ∀ b ∈ batches, ∀ it ∈ b, it ∈ answers ni nj)
    (hcov : ∀ it ∈ answers ni nj, ∃ b ∈ batches, it ∈ b) :
    Held (batches.foldl deliverB (ni, Ri)).1 a v := by
  have hIi := hAi.cinv
  have hck : ∀ b ∈ batches, ∀ it ∈ b, ChunkOK L it :=
    fun b hb it hit => Crash.chunkOK_answers hNj hIj hL hcl (hsub b hb it hit)
  have hE := foldB_eff hL batches (ni, Ri) hAi hck a
  have hdel : ∀ it ∈ answers ni nj, it ∈ batches.flatten := fun it hit =>
    let ⟨b, hb, hib⟩ := hcov it hit
    List.mem_flatten.mpr ⟨b, hb, hib⟩
  -- no incomplete chunk of the version is delivered when the server sends none
  have hno : (∀ it ∈ answers ni nj, ∀ lo hi last cs, it = Corro.Node.Item.full a v lo hi last cs → lo = 0 ∧ hi = last) →
      ¬ HasChunk batches.flatten a v := by
    rintro hshape ⟨lo, hi, last, cs, hm, hinc⟩
    obtain ⟨b, hb, hib⟩ := List.mem_flatten.mp hm
    exact hinc (hshape _ (hsub b hb _ hib) lo hi last cs rfl)
  apply foldB_held hL batches (ni, Ri) hAi hck
  cases hp : (ni.booked a).partial? v with
  | none =>
    cases hcv : (ni.booked a).containsVersion v with
    | true => exact hE.willHold ⟨hcv, fun p hp' => by rw [hp] at hp'; cases hp'⟩
    | false =>
      have hno' := hno (Crash.answers_shape hIi hIj hh (fun p hp' => by rw [hp] at hp'; cases hp'))
      obtain ⟨ns, lo, hi, hns, hneed, h1, h2⟩ := Crash.need_full_exists hIi hIj ha hv hh hcv
      obtain ⟨it, hit, hF⟩ := Crash.final_item_exists hIj hh h1 h2
      have hmem := hdel it
        (mem_answers hns hneed (by rw [serve_of_held hh hv (need := .full lo hi) ⟨h1, h2⟩]; exact hit))
      rcases hF with ⟨last, cs, rfl⟩ | ⟨lo', hi', rfl, g1, g2⟩
      · exact hE.of_full hno' hp hmem
      · exact hE.of_empty hno' hmem g1 g2
  | some p =>
    cases hpc : p.complete with
    | true =>
      exact hE.willHold ⟨hIi.part_known a v p hp, fun q hq => by rw [hp] at hq; cases hq; exact hpc⟩
    | false =>
      obtain ⟨ns, hns, hneed⟩ := Crash.need_part_exists hIi hIj ha hv hh hp hpc
      have hserve := serve_of_held hh hv (need := .part v (RSet.gaps p.seqs (0, p.last))) rfl
      cases hl : (nj.live a v).isEmpty with
      | false =>
        -- one changeset per missing range: together with the partial they cover `0..=last`
        refine hE.of_ranges ((foldB_ainv hL batches (ni, Ri) hAi hck).cinv.pwf a) (hIi.part_known a v p hp) hp ?_
        intro x hx
        by_cases hm : RSet.Mem p.seqs x
        · exact Or.inl hm
        · obtain ⟨r, hr, hx1, hx2⟩ := (RSet.mem_gaps p.seqs 0 p.last x 0 ((hIi.pwf a).of_partial? hp)).mpr
            ⟨⟨Nat.zero_le _, hx⟩, hm⟩
          exact Or.inr ⟨r.1, r.2, _, _, hdel _ (mem_answers hns hneed (by
            rw [hserve]
            exact mem_handleNeed.mpr (.partLive hl hr))), hx1, hx2⟩
      | true =>
        -- the holder has no live entry of the version: `Empty`, and no `Full` changeset of it at all
        have hg : nj.inGaps a v = false := by
          cases hgg : nj.inGaps a v with
          | false => rfl
          | true => exact absurd (inGaps_iff.mp hgg) ((containsVersion_iff _ _).mp hh.1).1
        have hemp : Corro.Node.Item.empty a v v ∈ handleNeed nj a (.part v (RSet.gaps p.seqs (0, p.last))) :=
          mem_handleNeed.mpr (.partEmpty hl (Crash.held_no_buf hIj hh) hg)
        exact hE.of_empty
          (hno (fun it hit lo hi last cs he => absurd he (answers_no_full hIj hh hl it hit lo hi last cs)))
          (hdel _ (mem_answers hns hneed (by rw [hserve]; exact hemp))) (Nat.le_refl v) (Nat.le_refl v)

end Session

end Corro.ClusterSys.Full
