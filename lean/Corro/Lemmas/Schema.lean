/-
`submit` taken apart; execution of a plan on the abstract database; the invariant tying the in-memory
schema, the database and `__corro_schema` together, over any sequence of operations; re-submission.
-/
import Corro.Lemmas.SchemaPlan

namespace Corro.Schema
open AList

theorem step_submit (st : State) (s : List Stmt) : step st (.submit s) = (submit st s).1 := rfl
theorem step_rows (st : State) (t : Name) (k : Nat) : step st (.rows t k) = (insertRows st t k).getD st := rfl
theorem step_restart (st : State) : step st .restart = restart st := rfl

variable {st st' : State} {stmts : List Stmt} {r : Applied} {n : Name} {dt : DbTable}

theorem submit_err {e : Err} (h : submit st stmts = (st', .error e)) : st' = st := by
  unfold submit at h
  split at h
  · cases h; rfl
  · split at h
    · cases h; rfl
    · simp only at h
      split at h
      · cases h; rfl
      · split at h
        · cases h; rfl
        · cases h

theorem submit_ok_iff :
    submit st stmts = (st', .ok r) ↔ stmts.isEmpty = false ∧ ∃ part tables' imp,
      parse stmts = .ok part ∧
      constrain (merge st.mem part) = none ∧
      (planSteps st.mem (merge st.mem part)).2 = none ∧
      execAll st.db.tables (planSteps st.mem (merge st.mem part)).1 = .ok (tables', imp) ∧
      st' = { db := { tables := tables', persisted := rewritePersisted tables' (keys part) st.db.persisted },
              mem := reorderSchema st.mem (merge (merge st.mem part) imp) } ∧
      r = { acts := (planSteps st.mem (merge st.mem part)).1, imported := keys imp } := by
  constructor
  · intro h
    unfold submit at h
    split at h
    · cases h
    rename_i h0
    split at h
    · cases h
    rename_i part hp
    dsimp only at h
    split at h
    · cases h
    rename_i hc
    split at h
    · cases h
    rename_i T' new' acts imp' ha
    unfold applySchema at ha
    dsimp only at ha
    split at ha
    · cases ha
    rename_i db' imp he
    split at ha
    · cases ha
    rename_i hs
    cases ha
    cases h
    exact ⟨by simpa using h0, part, T', imp, hp, hc, hs, he, rfl, rfl⟩
  · rintro ⟨h0, part, T', imp, hp, hc, hs, he, rfl, rfl⟩
    simp [submit, applySchema, h0, hp, hc, hs, he]

theorem execAll_cons {db db' : Tables} {a : Action} {acts : List Action} {imp : List (Name × Table)}
    (h : execAll db (a :: acts) = .ok (db', imp)) :
    ∃ imp', execAll (effect db a) acts = .ok (db', imp') ∧ imp = imported db a ++ imp' := by
  unfold execAll at h
  split at h
  · cases h
  · split at h
    · cases h
    · cases h; exact ⟨_, ‹_›, rfl⟩

theorem execAll_ok {db db' : Tables} {acts : List Action} {imp : List (Name × Table)}
    (h : execAll db acts = .ok (db', imp)) :
    db' = acts.foldl effect db ∧ ∀ k ∈ keys imp, ∃ t, Action.createTable k t ∈ acts := by
  induction acts generalizing db imp with
  | nil => cases h; exact ⟨rfl, nofun⟩
  | cons a r ih =>
    obtain ⟨imp', he, rfl⟩ := execAll_cons h
    obtain ⟨h1, h2⟩ := ih he
    refine ⟨h1, fun k hk => ?_⟩
    rcases List.mem_append.mp (keys_append _ _ ▸ hk) with hk | hk
    · cases a with
      | createTable n t =>
        cases hl : lookup n db with
        | none => simp [imported, hl, keys] at hk
        | some dt =>
          simp only [imported, hl, keys, List.map_cons, List.map_nil, List.mem_singleton] at hk
          exact ⟨t, hk ▸ List.mem_cons_self⟩
      | _ => cases hk
    · exact (h2 k hk).imp fun t ht => List.mem_cons_of_mem _ ht

/-- what a sequence of operations keeps of a table: the key stays, columns are only appended, every old
row is still there, extended by the cells `ext`, and followed by the rows `more`; a replicated table
stays replicated -/
structure TableKeeps (dt dt' : DbTable) (ext : Row) (more : List Row) : Prop where
  pk : dt'.tbl.pk = dt.tbl.pk
  cols : ∃ cs, dt'.tbl.cols = dt.tbl.cols ++ cs
  rows : dt'.rows = dt.rows.map (fun r => r ++ ext) ++ more
  crr : dt.crr = true → dt'.crr = true

theorem TableKeeps.of_same {dt' : DbTable} (hp : dt'.tbl.pk = dt.tbl.pk) (hc : dt'.tbl.cols = dt.tbl.cols)
    (hr : dt'.rows = dt.rows) (h : dt.crr = true → dt'.crr = true) : TableKeeps dt dt' [] [] :=
  ⟨hp, ⟨[], by rw [hc, List.append_nil]⟩, by simp [hr], h⟩

theorem TableKeeps.refl (dt : DbTable) : TableKeeps dt dt [] [] := .of_same rfl rfl rfl id

theorem TableKeeps.trans {a b c : DbTable} {e1 e2 : Row} {m1 m2 : List Row} (h1 : TableKeeps a b e1 m1)
    (h2 : TableKeeps b c e2 m2) : TableKeeps a c (e1 ++ e2) (m1.map (fun r => r ++ e2) ++ m2) := by
  obtain ⟨c1, hc1⟩ := h1.cols
  obtain ⟨c2, hc2⟩ := h2.cols
  exact ⟨h2.pk.trans h1.pk, ⟨c1 ++ c2, by rw [hc2, hc1, List.append_assoc]⟩, by simp [h2.rows, h1.rows],
    fun h => h2.crr (h1.crr h)⟩

theorem tblEffect_keeps (dt : DbTable) (a : Action) : ∃ ext, TableKeeps dt (tblEffect dt a) ext [] := by
  cases a with
  | addColumn tbl col c =>
    refine ⟨if c.gen.isSome then [] else [(col, c.dflt.getD "NULL")], rfl, ⟨[(col, c)], rfl⟩, ?_, id⟩
    simp only [tblEffect, List.append_nil]
    exact List.map_congr_left fun r _ => by unfold extendRow; split <;> simp
  | createTable n t => exact ⟨[], .of_same rfl rfl rfl fun _ => rfl⟩
  | _ => exact ⟨[], .of_same rfl rfl rfl id⟩

def mkDbTable (t : Table) : DbTable := { tbl := t, rows := [], crr := true }

theorem effect_createTable (db : Tables) (n : Name) (t : Table) :
    effect db (.createTable n t) =
      if contains n db then AList.modify n (fun dt => tblEffect dt (.createTable n t)) db
      else db ++ [(n, mkDbTable t)] := rfl

theorem effect_of_not_create {a : Action} (h : ∀ k t, a ≠ .createTable k t) (db : Tables) :
    effect db a = AList.modify a.table (fun dt => tblEffect dt a) db := by
  cases a with
  | createTable k t => exact absurd rfl (h k t)
  | _ => rfl

theorem effect_keeps {db : Tables} (a : Action) (h : lookup n db = some dt) :
    ∃ dt' ext, lookup n (effect db a) = some dt' ∧ TableKeeps dt dt' ext [] := by
  have hmod : ∀ k, ∃ dt' ext, lookup n (AList.modify k (fun d => tblEffect d a) db) = some dt' ∧
      TableKeeps dt dt' ext [] := by
    intro k
    obtain ⟨e, he⟩ := tblEffect_keeps dt a
    rw [lookup_modify, h]
    split
    · exact ⟨_, e, rfl, he⟩
    · exact ⟨dt, [], rfl, .refl dt⟩
  cases a with
  | createTable k t =>
    rw [effect_createTable]
    split
    · exact hmod k
    · exact ⟨dt, [], by rw [lookup_append, h]; rfl, .refl dt⟩
  | _ => exact hmod _

theorem foldl_effect_keeps (acts : List Action) {db : Tables} (h : lookup n db = some dt) :
    ∃ dt' ext, lookup n (acts.foldl effect db) = some dt' ∧ TableKeeps dt dt' ext [] := by
  induction acts generalizing db dt with
  | nil => exact ⟨dt, [], h, .refl dt⟩
  | cons a r ih =>
    obtain ⟨d1, e1, h1, k1⟩ := effect_keeps a h
    obtain ⟨d2, e2, h2, k2⟩ := ih h1
    exact ⟨d2, e1 ++ e2, h2, k1.trans k2⟩

theorem submit_db_keeps (h : submit st stmts = (st', .ok r)) (hn : lookup n st.db.tables = some dt) :
    ∃ dt' ext, lookup n st'.db.tables = some dt' ∧ TableKeeps dt dt' ext [] := by
  obtain ⟨_, part, tables', imp, _, _, _, he, rfl, _⟩ := submit_ok_iff.mp h
  rw [(execAll_ok he).1]
  exact foldl_effect_keeps _ hn

theorem lookup_merge (n : Name) (m p : Schema) : lookup n (merge m p) = (lookup n p.reverse).or (lookup n m) := by
  unfold merge
  induction p generalizing m with
  | nil => rfl
  | cons e r ih =>
    obtain ⟨k, v⟩ := e
    rw [List.foldl_cons, ih, lookup_insert, List.reverse_cons, lookup_append]
    cases lookup n r.reverse with
    | some v => rfl
    | none => by_cases hk : k = n <;> simp [lookup_cons, hk]

theorem lookup_reverse_eq_none {α : Type} {p : AList α} : lookup n p.reverse = none ↔ n ∉ keys p := by
  rw [lookup_eq_none_iff, keys, List.map_reverse, List.mem_reverse]; rfl

theorem lookup_merge_of_not_mem (p m : Schema) (h : n ∉ keys p) : lookup n (merge m p) = lookup n m := by
  rw [lookup_merge, lookup_reverse_eq_none.mpr h]; rfl

theorem lookup_merge_some {v : Table} {m : Schema} (p : Schema) (h : lookup n (merge m p) = some v) :
    lookup n m = some v ∨ (n, v) ∈ p := by
  rw [lookup_merge] at h
  cases hr : lookup n p.reverse with
  | none => rw [hr] at h; exact Or.inl h
  | some w => rw [hr] at h; cases h; exact Or.inr (List.mem_reverse.mp (lookup_some_mem hr))

theorem mem_keys_merge {m : Schema} (p : Schema) {k : Name} (h : k ∈ keys p ∨ k ∈ keys m) : k ∈ keys (merge m p) := by
  rw [mem_keys_iff, lookup_merge]
  cases hr : lookup k p.reverse with
  | none => exact mem_keys_iff.mp (h.resolve_left (lookup_reverse_eq_none.mp hr))
  | some w => nofun

theorem keys_merge_of_subset {m : Schema} (p : Schema) (h : ∀ k ∈ keys p, k ∈ keys m) : keys (merge m p) = keys m := by
  unfold merge
  induction p generalizing m with
  | nil => rfl
  | cons e r ih =>
    have hm : keys (AList.insert e.1 e.2 m) = keys m := by rw [keys_insert, if_pos (h e.1 List.mem_cons_self)]
    rw [List.foldl_cons, ih, hm]
    exact fun j hj => hm ▸ h j (List.mem_cons_of_mem _ hj)

theorem nodupKeys_merge {m : Schema} (p : Schema) (h : NodupKeys m) : NodupKeys (merge m p) := by
  unfold merge
  induction p generalizing m with
  | nil => exact h
  | cons e r ih => exact ih (nodupKeys_insert _ h)

theorem lookup_reorderSchema (old new : Schema) (n : Name) :
    lookup n (reorderSchema old new) = (lookup n new).map (fun nt => match lookup n old with
      | some t => reorderCols t nt
      | none => nt) := by
  unfold reorderSchema
  induction new with
  | nil => rfl
  | cons e r ih =>
    obtain ⟨k, v⟩ := e
    by_cases h : k = n
    · subst h; cases ho : lookup k old <;> simp [lookup_cons, ho]
    · cases ho : lookup k old <;> simp [lookup_cons, ho, h, ih]

theorem keys_reorderSchema (old new : Schema) : keys (reorderSchema old new) = keys new := by
  unfold reorderSchema keys
  rw [List.map_map]
  exact List.map_congr_left fun e _ => by dsimp only [Function.comp]; split <;> rfl

theorem lookup_reorderCols (t nt : Table) (c : Name) : lookup c (reorderCols t nt).cols = lookup c nt.cols := by
  unfold reorderCols newCols
  dsimp only
  rw [lookup_append, lookup_filterMap_keys (fun k => lookup k nt.cols), lookup_filter_key (fun k => !contains k t.cols)]
  by_cases h : c ∈ keys t.cols
  · rw [if_pos h]; cases lookup c nt.cols <;> simp [mem_keys_iff.mp h]
  · rw [if_neg h]; simp [lookup_eq_none_iff.mpr h]

theorem reorderCols_cols {t nt : Table} (hc : ∀ c ∈ keys t.cols, lookup c nt.cols = lookup c t.cols)
    (hn : NodupKeys t.cols) : (reorderCols t nt).cols = t.cols ++ newCols t nt := by
  unfold reorderCols
  dsimp only
  rw [filterMap_congr' fun k hk => by rw [hc k hk], filterMap_keys_lookup hn]

theorem lookup_foldl_effect (acts : List Action) (h : ∀ a ∈ acts, ∀ k t, a ≠ .createTable k t) (db : Tables) (n : Name) :
    lookup n (acts.foldl effect db) =
      (lookup n db).map (fun dt => (acts.filter (fun a => decide (a.table = n))).foldl tblEffect dt) := by
  induction acts generalizing db with
  | nil => simp
  | cons a r ih =>
    rw [List.foldl_cons, ih (fun x hx => h x (List.mem_cons_of_mem _ hx)),
      effect_of_not_create (h a List.mem_cons_self), lookup_modify]
    by_cases hn : a.table = n <;> cases lookup n db <;> simp [hn]

theorem execAll_creates (L : Schema) {db db' : Tables} {rest : List Action} {imp : List (Name × Table)}
    (hn : NodupKeys L) (hf : ∀ k ∈ keys L, lookup k db = none)
    (h : execAll db (L.map (fun e => Action.createTable e.1 e.2) ++ rest) = .ok (db', imp)) :
    execAll (db ++ L.map (fun e => (e.1, mkDbTable e.2))) rest = .ok (db', imp) := by
  induction L generalizing db imp with
  | nil => simpa using h
  | cons e r ih =>
    obtain ⟨k, t⟩ := e
    obtain ⟨hk, hr⟩ := nodupKeys_cons.mp hn
    have hd : lookup k db = none := hf k List.mem_cons_self
    obtain ⟨imp', he, rfl⟩ := execAll_cons h
    rw [effect_createTable, contains_eq_false_iff.mpr hd, if_neg Bool.false_ne_true] at he
    have hfresh : ∀ j ∈ keys r, lookup j (db ++ [(k, mkDbTable t)]) = none := fun j hj => by
      have hkj : k ≠ j := fun h => mem_keys_iff.mp (h ▸ hj) hk
      rw [lookup_append, hf j (List.mem_cons_of_mem _ hj), lookup_cons, if_neg hkj]; rfl
    simpa [imported, hd] using ih hr hfresh he

theorem apply_tables {old new : Schema} {T T' : Tables} {imp : List (Name × Table)}
    (hU : ∀ k, lookup k old = none → lookup k T = none) (hN : NodupKeys new)
    (hs : (planSteps old new).2 = none) (he : execAll T (planSteps old new).1 = .ok (T', imp)) :
    imp = [] ∧ ∀ n, lookup n T' = match lookup n new, lookup n old with
      | none, _ => lookup n T
      | some nt, none => some (mkDbTable nt)
      | some _, some _ => (lookup n T).map fun dt => (tableAt old new n).1.foldl tblEffect dt := by
  obtain ⟨_, hacts, hinter⟩ := planSteps_ok hs
  rw [hacts, newTableActions] at he
  obtain ⟨rfl, himp⟩ := execAll_ok <| execAll_creates _ (nodupKeys_filter _ hN) (fun k hk => hU k
    (by simpa [lookup_filter_key (fun k => !contains k old)] using mem_keys_iff.mp hk : _ ∧ _).1) he
  have hnc : ∀ a ∈ (interSteps old new (keys new)).1, ∀ k t, a ≠ .createTable k t := fun a ha =>
    (tableAt_table (mem_interSteps ha).choose_spec.2).2
  refine ⟨?_, fun n => ?_⟩
  · cases imp with
    | nil => rfl
    | cons e r =>
      obtain ⟨t, ht⟩ := himp e.1 List.mem_cons_self
      exact absurd rfl (hnc _ ht e.1 t)
  · rw [lookup_foldl_effect _ hnc, interSteps_filter hN hinter, lookup_append, lookup_map_snd mkDbTable,
      lookup_filter_key (fun k => !contains k old)]
    cases hn : lookup n new with
    | none => simp [lookup_eq_none_iff.mp hn]
    | some nt =>
      rw [if_pos (mem_keys_of_lookup hn)]
      cases ho : lookup n old with
      | none => simp [hU n ho, tableAt, ho]
      | some t => cases lookup n T <;> simp [contains, ho]

def idxEffect (d : AList Index) : Action → AList Index
  | .createIndex _ i ix => AList.insert i ix d
  | .dropIndex _ i => AList.erase i d
  | _ => d

theorem foldl_addColumns (tbl : Name) (cs : AList Column) (dt : DbTable) :
    ((cs.map (fun e => Action.addColumn tbl e.1 e.2)).foldl tblEffect dt).tbl =
      { dt.tbl with cols := dt.tbl.cols ++ cs } := by
  induction cs generalizing dt with
  | nil => simp
  | cons e r ih => rw [List.map_cons, List.foldl_cons, ih]; simp [tblEffect]

theorem foldl_indexOnly {tbl : Name} (acts : List Action)
    (h : ∀ a ∈ acts, (∃ i ix, a = .createIndex tbl i ix) ∨ ∃ i, a = .dropIndex tbl i) (dt : DbTable) :
    (acts.foldl tblEffect dt).tbl = { dt.tbl with idx := acts.foldl idxEffect dt.tbl.idx } := by
  induction acts generalizing dt with
  | nil => rfl
  | cons a r ih =>
    rw [List.foldl_cons, ih fun x hx => h x (List.mem_cons_of_mem _ hx)]
    rcases h a List.mem_cons_self with ⟨i, ix, rfl⟩ | ⟨i, rfl⟩ <;> rfl

theorem fold_tableSteps {t nt : Table} (hts : (tableSteps n t nt).2 = none) :
    ((tableSteps n t nt).1.foldl tblEffect dt).tbl =
      { dt.tbl with cols := dt.tbl.cols ++ newCols t nt,
                    idx := (indexActions n t.idx nt.idx).foldl idxEffect dt.tbl.idx } := by
  rw [(tableSteps_ok hts).2.2, List.foldl_append, foldl_indexOnly _ fun a ha => mem_indexActions ha,
    foldl_addColumns]

theorem foldl_indexActions_lookup (tbl : Name) (O N D : AList Index) (h0 : ∀ i, lookup i D = lookup i O) (i : Name) :
    lookup i ((indexActions tbl O N).foldl idxEffect D) = lookup i N := by
  unfold indexActions
  rw [List.foldl_append, List.foldl_append, List.foldl_flatten, List.foldl_filterMap, List.foldl_filterMap,
    List.foldl_map]
  -- the three loops of `indexActions`, last first (changed indexes dropped and created again, vanished ones
  -- dropped, new ones created), are folds over key lists; by `foldl_keyed` each leaves `lookup i` alone or
  -- sets it to a value that `O`, `N` and `i` fix
  rw [foldl_keyed _ (lookup i) i (fun o => (changedIndex O N i).or o) (by intro o; cases changedIndex O N i <;> rfl)
      (fun D k => by
        by_cases hk : k = i
        · subst hk; cases changedIndex O N k <;> simp [idxEffect, lookup_insert]
        · cases changedIndex O N k <;> simp [idxEffect, lookup_insert, lookup_erase, hk]),
    foldl_keyed (fun D k => idxEffect D (.dropIndex tbl k)) (lookup i) i (fun _ => none) (fun _ => rfl)
      (fun D k => lookup_erase i k D),
    foldl_keyed _ (lookup i) i (fun o => (lookup i N).or o) (by intro o; cases lookup i N <;> rfl)
      (fun D k => by
        by_cases hk : k = i
        · subst hk; cases lookup k N <;> simp [idxEffect, lookup_insert]
        · cases lookup k N <;> simp [idxEffect, lookup_insert, hk])]
  unfold changedIndex
  simp only [List.mem_filter, mem_keys_iff, h0 i]
  cases hN : lookup i N <;> cases hO : lookup i O <;> simp [contains, hN, hO]
  case some.some ix ox => by_cases he : ox = ix <;> simp [he]

theorem lookup_rewritePersisted (T : Tables) (names : List Name) (p : Schema) (n : Name) :
    lookup n (rewritePersisted T names p) = if n ∈ names then (lookup n T).map (·.tbl) else lookup n p :=
  foldl_keyed (persistStep T) (lookup n) n (fun _ => (lookup n T).map DbTable.tbl) (fun _ => rfl) (fun p k => by
    unfold persistStep
    by_cases hk : k = n
    · subst hk; cases lookup k T <;> simp [lookup_insert, lookup_erase]
    · cases lookup k T <;> simp [lookup_insert, lookup_erase, hk]) names p

theorem nodupKeys_rewritePersisted (T : Tables) (names : List Name) {p : Schema} (h : NodupKeys p) :
    NodupKeys (rewritePersisted T names p) := by
  unfold rewritePersisted
  induction names generalizing p with
  | nil => exact h
  | cons m r ih =>
    apply ih
    unfold persistStep
    cases lookup m T with
    | none => exact nodupKeys_filter _ h
    | some dt => exact nodupKeys_insert _ h

theorem rewritePersisted_eq_self (T : Tables) (names : List Name) (p : Schema)
    (h : ∀ n ∈ names, lookup n p = (lookup n T).map (·.tbl)) : rewritePersisted T names p = p := by
  unfold rewritePersisted
  induction names with
  | nil => rfl
  | cons m r ih =>
    have hm := h m List.mem_cons_self
    have : persistStep T p m = p := by
      unfold persistStep
      cases hl : lookup m T with
      | none => exact erase_eq_self (by rw [hm, hl]; rfl)
      | some dt => exact insert_eq_self (by rw [hm, hl]; rfl)
    rw [List.foldl_cons, this]
    exact ih fun n hn => h n (List.mem_cons_of_mem _ hn)

theorem nodupKeys_foldl_insert {α β : Type} (g : Name × β → α) (l : List (Name × β)) {acc : AList α}
    (h : NodupKeys acc) : NodupKeys (l.foldl (fun a e => AList.insert e.1 (g e) a) acc) := by
  induction l generalizing acc with
  | nil => exact h
  | cons e r ih => exact ih (nodupKeys_insert _ h)

theorem prepareTable_nodupCols (cols : AList Column) (tpk : Option (List Name)) (ex : Bool) :
    NodupKeys (prepareTable cols tpk ex).cols :=
  nodupKeys_foldl_insert _ cols nodupKeys_nil

theorem parseFrom_nodupCols {s s' : Schema} (h : parseFrom s stmts = .ok s')
    (hs : ∀ n t, (n, t) ∈ s → NodupKeys t.cols) : ∀ n t, (n, t) ∈ s' → NodupKeys t.cols := by
  induction stmts generalizing s with
  | nil => cases h; exact hs
  | cons st r ih =>
    unfold parseFrom at h
    split at h
    · rename_i s1 h1
      refine ih h fun n t hm => ?_
      cases st with
      | table k cols tpk ex =>
        cases h1
        rcases mem_insert hm with h2 | h2
        · cases h2; exact prepareTable_nodupCols _ _ _
        · exact hs n t h2
      | index k tbl i =>
        simp only [parseStep] at h1
        split at h1
        · rename_i t0 hl
          cases h1
          rcases mem_insert hm with h2 | h2
          · cases h2; exact hs _ t0 (lookup_some_mem hl)
          · exact hs n t h2
        · cases h1
      | _ => cases h1
    · cases h

/-- same key (ordered), same columns (ordered, same definitions), same indexes (as a map) -/
structure TableSame (d m : Table) : Prop where
  pk : d.pk = m.pk
  cols : d.cols = m.cols
  idx : ∀ i, lookup i d.idx = lookup i m.idx

theorem TableSame.refl (t : Table) : TableSame t t := ⟨rfl, rfl, fun _ => rfl⟩

structure Inv (st : State) : Prop where
  known : ∀ n t, lookup n st.mem = some t →
    ∃ dt, lookup n st.db.tables = some dt ∧ lookup n st.db.persisted = some dt.tbl ∧ TableSame dt.tbl t
  unknown : ∀ n, lookup n st.mem = none → lookup n st.db.persisted = none ∧ lookup n st.db.tables = none
  nodupMem : NodupKeys st.mem
  nodupPersisted : NodupKeys st.db.persisted
  nodupCols : ∀ n t, lookup n st.mem = some t → NodupKeys t.cols

/-- the invariant at one table name: unknown everywhere, or known everywhere with the same definition -/
def Inv.At (st : State) (n : Name) : Prop :=
  (lookup n st.mem = none ∧ lookup n st.db.persisted = none ∧ lookup n st.db.tables = none) ∨
  ∃ t dt, lookup n st.mem = some t ∧ lookup n st.db.tables = some dt ∧ lookup n st.db.persisted = some dt.tbl ∧
    TableSame dt.tbl t ∧ NodupKeys t.cols

theorem Inv.atTable (hI : Inv st) (n : Name) : Inv.At st n := by
  cases h : lookup n st.mem with
  | none => exact Or.inl ⟨h, hI.unknown n h⟩
  | some t =>
    obtain ⟨dt, h1, h2, h3⟩ := hI.known n t h
    exact Or.inr ⟨t, dt, h, h1, h2, h3, hI.nodupCols n t h⟩

theorem Inv.of_at (h : ∀ n, Inv.At st n) (h1 : NodupKeys st.mem) (h2 : NodupKeys st.db.persisted) : Inv st := by
  refine ⟨fun n t hl => ?_, fun n hl => ?_, h1, h2, fun n t hl => ?_⟩
  · rcases h n with ⟨a, _⟩ | ⟨t', dt, a, b, c, d, _⟩
    · rw [a] at hl; cases hl
    · rw [a] at hl; cases hl; exact ⟨dt, b, c, d⟩
  · rcases h n with ⟨_, b, c⟩ | ⟨t', dt, a, _⟩
    · exact ⟨b, c⟩
    · rw [a] at hl; cases hl
  · rcases h n with ⟨a, _⟩ | ⟨t', dt, a, _, _, _, e⟩
    · rw [a] at hl; cases hl
    · rw [a] at hl; cases hl; exact e

theorem inv_init : Inv State.init := .of_at (fun _ => Or.inl ⟨rfl, rfl, rfl⟩) nodupKeys_nil nodupKeys_nil

theorem nodupKeys_append_newCols {t nt : Table} (h1 : NodupKeys t.cols) (h2 : NodupKeys nt.cols) :
    NodupKeys (t.cols ++ newCols t nt) := by
  unfold NodupKeys
  rw [keys_append]
  refine List.nodup_append.mpr ⟨h1, nodupKeys_filter _ h2, fun a ha b hb hab => ?_⟩
  subst hab
  obtain ⟨⟨k, c⟩, he, rfl⟩ := List.mem_map.mp hb
  exact lookup_eq_none_iff.mp (mem_newCols he).2 ha

theorem inv_submit_ok (hI : Inv st) (h : submit st stmts = (st', .ok r)) : Inv st' ∧ r.imported = [] := by
  obtain ⟨_, part, T', imp, hp, _, hs, he, rfl, rfl⟩ := submit_ok_iff.mp h
  have hN : NodupKeys (merge st.mem part) := nodupKeys_merge _ hI.nodupMem
  -- `unknown`: the database holds no table the node does not know, so no `CREATE TABLE` imports one
  obtain ⟨rfl, hT⟩ := apply_tables (fun k hk => (hI.unknown k hk).2) hN hs he
  have hpc := parseFrom_nodupCols hp nofun
  refine ⟨.of_at (fun n => ?_) ?_ (nodupKeys_rewritePersisted _ _ hI.nodupPersisted), rfl⟩
  · have hm := lookup_reorderSchema st.mem (merge st.mem part) n
    have hP := lookup_rewritePersisted T' (keys part) st.db.persisted n
    have hTn := hT n
    cases hn : lookup n (merge st.mem part) with
    | none =>
      have ho := (planSteps_ok hs).1 n hn
      have hpart : n ∉ keys part := fun hc => mem_keys_iff.mp (mem_keys_merge part (Or.inl hc)) hn
      rw [hn] at hm
      rw [hn, (hI.unknown n ho).2] at hTn
      rw [if_neg hpart, (hI.unknown n ho).1] at hP
      exact Or.inl ⟨hm, hP, hTn⟩
    | some nt =>
      have hnc : NodupKeys nt.cols := (lookup_merge_some part hn).elim (hI.nodupCols n nt) (hpc n nt)
      rcases hI.atTable n with ⟨ho, _, _⟩ | ⟨t, dt, ho, hd, hpers, hsame, hnd⟩
      · -- a new table
        have hpart : n ∈ keys part := Classical.byContradiction fun hc => by
          rw [lookup_merge_of_not_mem _ _ hc, ho] at hn; cases hn
        rw [hn, ho] at hm hTn
        rw [if_pos hpart, hTn] at hP
        exact Or.inr ⟨nt, mkDbTable nt, hm, hTn, hP, .refl nt, hnc⟩
      · -- a table the node knew
        have hts := planSteps_ok_table hs ho hn
        obtain ⟨hcols, hpk, _⟩ := tableSteps_ok hts
        -- `nodupCols`: looking the old column names up gives the old columns back only if none repeats
        have hrc := reorderCols_cols hcols hnd
        rw [hn, ho] at hm
        rw [hn, ho, hd, tableAt_eq ho hn] at hTn
        refine Or.inr ⟨reorderCols t nt, _, hm, hTn, ?_, ?_, ?_⟩
        · rw [hP, hTn]
          split
          · rfl
          · -- not submitted: the definition is the old one, and no statement touches the table
            rename_i hpart
            rw [lookup_merge_of_not_mem _ _ hpart, ho] at hn
            cases hn
            rw [hpers, tableSteps_same n rfl (fun _ => rfl) rfl]; rfl
        · rw [fold_tableSteps hts]
          exact ⟨hsame.pk.trans hpk, by rw [hsame.cols, hrc], foldl_indexActions_lookup n _ _ _ hsame.idx⟩
        · rw [hrc]; exact nodupKeys_append_newCols hnd hnc
  · unfold NodupKeys
    rw [keys_reorderSchema]
    exact hN

theorem insertRows_some {t : Name} {k : Nat} (h : insertRows st t k = some st') :
    st' = { db := { tables := AList.modify t (fun dt => { dt with rows := insertRowsAux dt.tbl.cols k dt.rows })
                      st.db.tables,
                    persisted := st.db.persisted },
            mem := st.mem } := by
  unfold insertRows at h
  split at h
  · cases h
  · exact (Option.some.inj h).symm

theorem inv_rows {t : Name} {k : Nat} (hI : Inv st) (h : insertRows st t k = some st') : Inv st' := by
  rw [insertRows_some h]
  refine .of_at (fun n => ?_) hI.nodupMem hI.nodupPersisted
  have hl := lookup_modify n t (fun dt => { dt with rows := insertRowsAux dt.tbl.cols k dt.rows }) st.db.tables
  rcases hI.atTable n with ⟨hm, hp, ht⟩ | ⟨tb, dt, hm, ht, hp, hs, hc⟩
  · exact Or.inl ⟨hm, hp, by rw [hl, ht]; split <;> rfl⟩
  · rw [ht] at hl
    split at hl
    · exact Or.inr ⟨tb, _, hm, hl, hp, hs, hc⟩
    · exact Or.inr ⟨tb, dt, hm, hl, hp, hs, hc⟩

theorem inv_restart (hI : Inv st) : Inv (restart st) := by
  refine .of_at (fun n => ?_) hI.nodupPersisted hI.nodupPersisted
  rcases hI.atTable n with ⟨_, hp, ht⟩ | ⟨t, dt, _, ht, hp, hs, hc⟩
  · exact Or.inl ⟨hp, hp, ht⟩
  · exact Or.inr ⟨dt.tbl, dt, hp, ht, hp, .refl _, hs.cols ▸ hc⟩

theorem step_cases (st : State) (op : Op) :
    step st op = st ∨ (∃ s r, submit st s = (step st op, .ok r)) ∨
    (∃ t k, insertRows st t k = some (step st op)) ∨ step st op = restart st := by
  cases op with
  | submit s =>
    rw [step_submit]
    cases h : submit st s with
    | mk st' out =>
      cases out with
      | error e => exact Or.inl (submit_err h)
      | ok r => exact Or.inr (Or.inl ⟨s, r, h⟩)
  | rows t k =>
    rw [step_rows]
    cases h : insertRows st t k with
    | none => exact Or.inl rfl
    | some st' => exact Or.inr (Or.inr (Or.inl ⟨t, k, h⟩))
  | restart => exact Or.inr (Or.inr (Or.inr rfl))

theorem inv_step (op : Op) (hI : Inv st) : Inv (step st op) := by
  rcases step_cases st op with h | ⟨s, r, h⟩ | ⟨t, k, h⟩ | h
  · rw [h]; exact hI
  · exact (inv_submit_ok hI h).1
  · exact inv_rows hI h
  · rw [h]; exact inv_restart hI

theorem inv_run (ops : List Op) (hI : Inv st) : Inv (run st ops) := by
  unfold run
  induction ops generalizing st with
  | nil => exact hI
  | cons op r ih => exact ih (inv_step op hI)

theorem insertRowsAux_prefix (cols : AList Column) (k : Nat) (rows : List Row) :
    ∃ more, insertRowsAux cols k rows = rows ++ more := by
  induction k generalizing rows with
  | zero => exact ⟨[], (List.append_nil _).symm⟩
  | succ k ih =>
    obtain ⟨m, hm⟩ := ih (rows ++ [mkRow (rows.length + 1) cols])
    exact ⟨[mkRow (rows.length + 1) cols] ++ m, by rw [insertRowsAux, hm, List.append_assoc]⟩

theorem step_db_keeps (op : Op) (hl : lookup n st.db.tables = some dt) :
    ∃ dt' ext more, lookup n (step st op).db.tables = some dt' ∧ TableKeeps dt dt' ext more := by
  rcases step_cases st op with h | ⟨s, r, h⟩ | ⟨tb, k, h⟩ | h
  · rw [h]; exact ⟨dt, [], [], hl, .refl dt⟩
  · obtain ⟨dt', ext, h1, h2⟩ := submit_db_keeps h hl
    exact ⟨dt', ext, [], h1, h2⟩
  · rw [insertRows_some h]
    dsimp only
    rw [lookup_modify, hl]
    split
    · obtain ⟨m, hm⟩ := insertRowsAux_prefix dt.tbl.cols k dt.rows
      exact ⟨_, [], m, rfl, rfl, ⟨[], (List.append_nil _).symm⟩, by simp [hm], id⟩
    · exact ⟨dt, [], [], rfl, .refl dt⟩
  · rw [h]; exact ⟨dt, [], [], hl, .refl dt⟩

theorem run_db_keeps (ops : List Op) (h : lookup n st.db.tables = some dt) :
    ∃ dt' ext more, lookup n (run st ops).db.tables = some dt' ∧ TableKeeps dt dt' ext more := by
  unfold run
  induction ops generalizing st dt with
  | nil => exact ⟨dt, [], [], h, .refl dt⟩
  | cons op r ih =>
    obtain ⟨d1, e1, m1, h1, k1⟩ := step_db_keeps op h
    obtain ⟨d2, e2, m2, h2, k2⟩ := ih h1
    exact ⟨d2, _, _, h2, k1.trans k2⟩

theorem run_mem_pk (ops : List Op) (hI : Inv st) {t : Table} (h : lookup n st.mem = some t) :
    ∃ t', lookup n (run st ops).mem = some t' ∧ t'.pk = t.pk := by
  obtain ⟨dt, hd, _, hs⟩ := hI.known n t h
  obtain ⟨dt', _, _, h1, h2⟩ := run_db_keeps ops hd
  rcases (inv_run ops hI).atTable n with ⟨_, _, h3⟩ | ⟨t', _, hm, h3, _, hs', _⟩
  · rw [h1] at h3; cases h3
  · rw [h1] at h3; cases h3
    exact ⟨t', hm, hs'.pk.symm.trans (h2.pk.trans hs.pk)⟩

theorem reorderCols_of_agree {m nt : Table} (hn : NodupKeys m.cols) (hc : ∀ c, lookup c nt.cols = lookup c m.cols) :
    reorderCols m nt = { nt with cols := m.cols } := by
  have := reorderCols_cols (fun c _ => hc c) hn
  rw [newCols_nil fun c => (hc c).symm, List.append_nil] at this
  show { nt with cols := (reorderCols m nt).cols } = _
  rw [this]

theorem resubmit_same (hI : Inv st) (h : submit st stmts = (st', .ok r)) :
    submit st' stmts = (st', .ok { acts := [], imported := [] }) := by
  have hI' := (inv_submit_ok hI h).1
  obtain ⟨h0, part, T', imp, hp, hc, hs, he, hst, _⟩ := submit_ok_iff.mp h
  have hN : NodupKeys (merge st.mem part) := nodupKeys_merge _ hI.nodupMem
  obtain ⟨rfl, _⟩ := apply_tables (fun k hk => (hI.unknown k hk).2) hN hs he
  have hmem : st'.mem = reorderSchema st.mem (merge st.mem part) := by rw [hst]; rfl
  have hkeysM : keys st'.mem = keys (merge st.mem part) := by rw [hmem, keys_reorderSchema]
  have hlookM : ∀ n, lookup n st'.mem = (lookup n (merge st.mem part)).map (fun nt => match lookup n st.mem with
      | some t => reorderCols t nt
      | none => nt) := fun n => by rw [hmem, lookup_reorderSchema]
  -- a table of the schema after the first run, against its submitted definition: the same as maps,
  -- and reordering the definition once more gives the table itself
  have hagree : ∀ n a b, lookup n st'.mem = some a → lookup n (merge st.mem part) = some b →
      reorderCols a b = a ∧ tableSteps n a b = ([], none) := by
    intro n a b ha hb
    have hnd := hI'.nodupCols n a ha
    rw [hlookM, hb] at ha
    cases ho : lookup n st.mem with
    | none =>
      rw [ho] at ha; cases ha
      exact ⟨reorderCols_of_agree hnd fun _ => rfl, tableSteps_same n rfl (fun _ => rfl) rfl⟩
    | some t =>
      rw [ho] at ha; cases ha
      exact ⟨reorderCols_of_agree hnd fun c => (lookup_reorderCols t b c).symm,
        tableSteps_same n rfl (lookup_reorderCols t b) rfl⟩
  -- the second run merges the same tables into the reordered schema and gets the same new schema
  have hnew2 : merge st'.mem part = merge st.mem part := by
    refine ext_of_keys_lookup ?_ (fun n => ?_) (nodupKeys_merge _ hI'.nodupMem)
    · rw [keys_merge_of_subset part fun k hk => hkeysM ▸ mem_keys_merge part (Or.inl hk), hkeysM]
    · rw [lookup_merge, lookup_merge]
      cases hr : lookup n part.reverse with
      | some v => rfl
      | none =>
        have hn := lookup_merge_of_not_mem part st.mem (lookup_reverse_eq_none.mp hr)
        show lookup n st'.mem = lookup n st.mem
        rw [hlookM, hn]
        cases ho : lookup n st.mem with
        | none => rfl
        | some t => exact congrArg some (reorderCols_of_agree (hI.nodupCols n t ho) fun _ => rfl)
  have hplan : planSteps st'.mem (merge st'.mem part) = ([], none) := by
    rw [hnew2]
    refine planSteps_noop hkeysM fun n => ?_
    unfold tableAt
    split
    · exact (hagree n _ _ ‹_› ‹_›).2
    · rfl
  have hfix : reorderSchema st'.mem (merge st.mem part) = st'.mem := by
    refine ext_of_keys_lookup (by rw [keys_reorderSchema, hkeysM]) (fun n => ?_)
      (by unfold NodupKeys; rw [keys_reorderSchema]; exact hN)
    rw [lookup_reorderSchema]
    cases hb : lookup n (merge st.mem part) with
    | none => rw [hlookM, hb]; rfl
    | some b =>
      obtain ⟨a, ha⟩ : ∃ a, lookup n st'.mem = some a := ⟨_, by rw [hlookM, hb]; rfl⟩
      rw [ha]
      exact congrArg some (hagree n a b ha hb).1
  have hpers : rewritePersisted st'.db.tables (keys part) st'.db.persisted = st'.db.persisted :=
    rewritePersisted_eq_self _ _ _ fun n hn => by
      rw [hst]
      dsimp only
      rw [lookup_rewritePersisted, if_pos hn]
  rw [submit_ok_iff]
  refine ⟨h0, part, st'.db.tables, [], hp, by rw [hnew2]; exact hc, by rw [hplan], by rw [hplan]; rfl, ?_, by rw [hplan]; rfl⟩
  rw [hpers, hnew2]
  show st' = ⟨st'.db, reorderSchema st'.mem (merge st.mem part)⟩
  rw [hfix]

end Corro.Schema
