/-
Well-formed inputs (`ItemWF`) and `Consistent`, the invariant tying a node's durable state (sequence
rows, buffered rows, db-version rows) to its in-memory bookkeeping: what lets `from_conn` rebuild
the bookkeeping after a crash (C06), and what C03's chunk-by-chunk delivery runs under.  `ConsP` is
the per-actor form inside a batch, with clear jobs for the ranges `cl` pending: rows of a version
`cl` covers may linger without a partial (`rows_part`, `cleared_none`), and `max` must be witnessed
by the db-version row or a row no pending clear deletes (`max_att`'s `¬ Covered`).  Steps that keep
an actor's bookkeeping preserve `ConsP` by one frame lemma, `ConsP.dropRows`.
Then the first consequences of `ConsP` and `HasRows`, and what holds of ANY node in these terms: what
the clear jobs of a batch leave of the durable tables, and that the applies create no sequence rows.
-/
import Corro.Lemmas.NodeRestart
namespace Corro.Node
open Corro.Crdt

/-- Well-formed changeset relative to the true `last_seq` `L actor version` of every version:
a `Full` changeset carries that `last_seq`, ends at or before it, and its changes belong to its
`(actor, version)` and lie in its seq range; an `Empty` changeset has a forward version range.
(A relay that lost the tail of a version to later versions answers with a smaller `last_seq`; such
answers are outside this predicate.) -/
def ItemWF (L : Nat → Nat → Nat) : Item → Prop
  | .full site ver lo hi last cs => last = L site ver ∧ hi ≤ last ∧ ChunkWF site ver lo hi cs
  | .empty _ vlo vhi => vlo ≤ vhi

/-- version `v` is covered by one of the pending clear ranges -/
def Covered (cl : List (Nat × Nat)) (v : Nat) : Prop := ∃ c ∈ cl, c.1 ≤ v ∧ v ≤ c.2

/-- "`(a, v)` has a sequence row" -/
def HasRows (n : Node) (a v : Nat) : Prop := ∃ r ∈ n.seqRows, r.site = a ∧ r.ver = v

/-- Consistency of actor `a`'s durable rows with its in-memory bookkeeping, with clear jobs for the
version ranges `cl` still pending. -/
structure ConsP (L : Nat → Nat → Nat) (n : Node) (a : Nat) (cl : List (Nat × Nat)) : Prop where
  pwf : (n.booked a).PWF
  keys : (n.booked a).KeysSorted
  rows_fwd : ∀ r ∈ n.seqRows, r.site = a → r.lo ≤ r.hi ∧ r.last = L a r.ver
  part_last : ∀ v p, (n.booked a).partial? v = some p → p.last = L a v
  rows_part : ∀ v, HasRows n a v → Covered cl v ∨
    ∃ p, (n.booked a).partial? v = some p ∧ ∀ x, RSet.Mem p.seqs x ↔ SeqMem n.seqRows a v x
  norows_part : ∀ v p, (n.booked a).partial? v = some p → ¬ HasRows n a v → p.complete = true
  cleared_none : ∀ v, Covered cl v → (n.booked a).partial? v = none
  buf_cov : ∀ c ∈ n.buf, c.site = a → SeqMem n.seqRows a c.dbv c.seq
  dbv_le : dbvOf n a ≤ (n.booked a).max
  rows_le : ∀ r ∈ n.seqRows, r.site = a → r.ver ≤ (n.booked a).max
  max_att : (n.booked a).max ≤ dbvOf n a ∨
    ∃ r ∈ n.seqRows, r.site = a ∧ (n.booked a).max ≤ r.ver ∧ ¬ Covered cl r.ver
  needed_wf : RSet.WF (n.booked a).needed
  part_known : ∀ v p, (n.booked a).partial? v = some p →
    v ≤ (n.booked a).max ∧ ¬ RSet.Mem (n.booked a).needed v

/-- no clear job pending -/
abbrev ConsA (L : Nat → Nat → Nat) (n : Node) (a : Nat) : Prop := ConsP L n a []

/-- **the durable state is consistent with the memory**: for every actor, and the in-memory map of
actors is sorted by actor id -/
structure Consistent (L : Nat → Nat → Nat) (n : Node) : Prop where
  actor : ∀ a, ConsA L n a
  sorted : n.book.Pairwise (fun x y => x.1 < y.1)

/-- every version with a complete partial has been applied (its rows are gone): what the background
apply loop of an alive node maintains -/
def NoPending (n : Node) : Prop :=
  ∀ a v p, (n.booked a).partial? v = some p → p.complete = true → ¬ HasRows n a v

theorem not_covered_nil (v : Nat) : ¬ Covered [] v := by
  rintro ⟨c, hc, _⟩; cases hc

/-- `n'` agrees with `n` on everything about actor `a` -/
structure SameActor (n n' : Node) (a : Nat) : Prop where
  booked : n'.booked a = n.booked a
  rows : ∀ r, r.site = a → (r ∈ n'.seqRows ↔ r ∈ n.seqRows)
  buf : ∀ c, c.site = a → (c ∈ n'.buf ↔ c ∈ n.buf)
  dbv : dbvOf n' a = dbvOf n a

theorem SameActor.refl (n : Node) (a : Nat) : SameActor n n a :=
  ⟨rfl, fun _ _ => Iff.rfl, fun _ _ => Iff.rfl, rfl⟩

theorem SameActor.trans {n n' n'' : Node} {a : Nat} (h1 : SameActor n n' a) (h2 : SameActor n' n'' a) :
    SameActor n n'' a :=
  ⟨h2.booked.trans h1.booked, fun r hr => (h2.rows r hr).trans (h1.rows r hr),
    fun c hc => (h2.buf c hc).trans (h1.buf c hc), h2.dbv.trans h1.dbv⟩

theorem SameActor.hasRows {n n' : Node} {a : Nat} (h : SameActor n n' a) (v : Nat) :
    HasRows n' a v ↔ HasRows n a v :=
  exists_congr fun r => and_congr_left fun hr => h.rows r hr.1

/-- **frame lemma**: `D` is the set of versions whose rows the step drops, `cl'` what is still pending
after it.  The clear jobs are the instances with rows to drop (`ConsP.clearAll`, `ConsP.clearApplied`);
with `D` empty it says that `ConsP` only looks at the actor (`ConsP.transfer`) -/
theorem ConsP.dropRows {L : Nat → Nat → Nat} {n N : Node} {a : Nat} {cl cl' : List (Nat × Nat)}
    (h : ConsP L n a cl) (D : Nat → Prop) (hbk : N.booked a = n.booked a) (hdbv : dbvOf N a = dbvOf n a)
    (hrows : ∀ r, r.site = a → (r ∈ N.seqRows ↔ r ∈ n.seqRows ∧ ¬ D r.ver))
    (hbuf : ∀ c, c.site = a → (c ∈ N.buf ↔ c ∈ n.buf ∧ ¬ D c.dbv))
    (hD : ∀ v, D v → ∀ p, (n.booked a).partial? v = some p → p.complete = true)
    (hcl : ∀ v, Covered cl v → D v ∨ Covered cl' v) (hcl' : ∀ v, Covered cl' v → Covered cl v)
    (hmax : ∀ v, D v → ¬ Covered cl v → (n.booked a).max ≤ v → (n.booked a).max ≤ dbvOf n a) :
    ConsP L N a cl' := by
  have hhr : ∀ v, HasRows N a v ↔ HasRows n a v ∧ ¬ D v := fun v =>
    ⟨fun ⟨r, hr, hs, hv⟩ => ⟨⟨r, ((hrows r hs).mp hr).1, hs, hv⟩, hv ▸ ((hrows r hs).mp hr).2⟩,
      fun ⟨⟨r, hr, hs, hv⟩, hd⟩ => ⟨r, (hrows r hs).mpr ⟨hr, hv ▸ hd⟩, hs, hv⟩⟩
  have hsm : ∀ v, ¬ D v → ∀ x, SeqMem N.seqRows a v x ↔ SeqMem n.seqRows a v x := fun v hd x =>
    ⟨fun ⟨r, hr, hs, h1⟩ => ⟨r, ((hrows r hs).mp hr).1, hs, h1⟩,
      fun ⟨r, hr, hs, hv, hx⟩ => ⟨r, (hrows r hs).mpr ⟨hr, hv ▸ hd⟩, hs, hv, hx⟩⟩
  refine ⟨hbk ▸ h.pwf, hbk ▸ h.keys, fun r hr hs => h.rows_fwd r ((hrows r hs).mp hr).1 hs,
    hbk ▸ h.part_last, ?_, ?_, fun v hv => hbk ▸ h.cleared_none v (hcl' v hv), ?_,
    by rw [hbk, hdbv]; exact h.dbv_le, fun r hr hs => hbk ▸ h.rows_le r ((hrows r hs).mp hr).1 hs, ?_,
    hbk ▸ h.needed_wf, hbk ▸ h.part_known⟩
  · intro v hv
    obtain ⟨hv1, hv2⟩ := (hhr v).mp hv
    rcases h.rows_part v hv1 with h1 | ⟨p, hp, hm⟩
    · exact Or.inl ((hcl v h1).resolve_left hv2)
    · exact Or.inr ⟨p, hbk ▸ hp, fun x => (hm x).trans (hsm v hv2 x).symm⟩
  · intro v p hp hnr
    rw [hbk] at hp
    by_cases hd : D v
    · exact hD v hd p hp
    · exact h.norows_part v p hp (fun hr => hnr ((hhr v).mpr ⟨hr, hd⟩))
  · rintro c hc rfl
    have hc' := (hbuf c rfl).mp hc
    exact (hsm c.dbv hc'.2 c.seq).mpr (h.buf_cov c hc'.1 rfl)
  · rw [hbk, hdbv]
    rcases h.max_att with h1 | ⟨r, hr, hs, h1, h2⟩
    · exact Or.inl h1
    · by_cases hd : D r.ver
      · exact Or.inl (hmax r.ver hd h2 h1)
      · exact Or.inr ⟨r, (hrows r hs).mpr ⟨hr, hd⟩, hs, h1, fun hc => h2 (hcl' _ hc)⟩

theorem ConsP.transfer {L : Nat → Nat → Nat} {n n' : Node} {a : Nat} {cl : List (Nat × Nat)}
    (hc : ConsP L n a cl) (h : SameActor n n' a) : ConsP L n' a cl :=
  hc.dropRows (fun _ => False) h.booked h.dbv (fun r hr => (h.rows r hr).trans (and_iff_left id).symm)
    (fun c hs => (h.buf c hs).trans (and_iff_left id).symm) (fun _ hf => hf.elim) (fun _ => Or.inr)
    (fun _ => id) (fun _ hf => hf.elim)

theorem hasRows_of_seqMem {n : Node} {a v x : Nat} (hm : SeqMem n.seqRows a v x) : HasRows n a v :=
  let ⟨r, hr, hs, hv, _⟩ := hm
  ⟨r, hr, hs, hv⟩

theorem seqMem_of_hasRows {n : Node} {a v : Nat} (hf : ∀ r ∈ n.seqRows, r.site = a → r.lo ≤ r.hi)
    (h : HasRows n a v) : ∃ x, SeqMem n.seqRows a v x :=
  let ⟨r, hr, hs, hv⟩ := h
  ⟨r.lo, r, hr, hs, hv, Nat.le_refl _, hf r hr hs⟩

theorem ConsP.partial_of_rows {L : Nat → Nat → Nat} {n : Node} {a v : Nat} (hc : ConsA L n a)
    (hr : HasRows n a v) :
    ∃ p, (n.booked a).partial? v = some p ∧ ∀ x, RSet.Mem p.seqs x ↔ SeqMem n.seqRows a v x :=
  (hc.rows_part v hr).resolve_left (not_covered_nil v)

theorem ConsP.no_rows_of_no_partial {L : Nat → Nat → Nat} {n : Node} {a v : Nat} (hc : ConsA L n a)
    (hp : (n.booked a).partial? v = none) : ¬ HasRows n a v := fun hr => by
  obtain ⟨q, hq, _⟩ := hc.partial_of_rows hr
  rw [hp] at hq; cases hq

theorem ConsP.rows_of_incomplete {L : Nat → Nat → Nat} {n : Node} {a v : Nat} {cl : List (Nat × Nat)}
    {p : Partial} (hc : ConsP L n a cl) (hp : (n.booked a).partial? v = some p)
    (hinc : p.complete = false) : HasRows n a v :=
  Classical.byContradiction fun hnr => Bool.false_ne_true (hinc.symm.trans (hc.norows_part v p hp hnr))

theorem noBuf_of_not_hasRows {L : Nat → Nat → Nat} {n : Node} {a v : Nat} (hc : ConsA L n a)
    (h : ¬ HasRows n a v) : bufOf n.buf a v = [] := by
  unfold bufOf
  apply List.filter_eq_nil_iff.mpr
  intro c hcm
  simp only [decide_eq_true_eq]
  rintro ⟨rfl, rfl⟩
  exact h (hasRows_of_seqMem (hc.buf_cov c hcm rfl))

theorem noRows_of_not_hasRows {n : Node} {a v : Nat} (h : ¬ HasRows n a v) : rowsOf n.seqRows a v = [] := by
  unfold rowsOf
  apply List.filter_eq_nil_iff.mpr
  intro r hr
  simp only [decide_eq_true_eq]
  rintro ⟨h1, h2⟩
  exact h ⟨r, hr, h1, h2⟩

theorem Consistent.bookWF {L : Nat → Nat → Nat} {n : Node} (hc : Consistent L n) : n.BookWF := by
  intro e he
  have : n.booked e.1 = e.2 := by
    rw [booked_eq, alook_of_mem_sorted hc.sorted (show (e.1, e.2) ∈ n.book from he)]; rfl
  rw [← this]; exact (hc.actor e.1).pwf

theorem Consistent.bufCovered {L : Nat → Nat → Nat} {n : Node} (hc : Consistent L n) : n.BufCovered :=
  fun c hcm => (hc.actor c.site).buf_cov c hcm rfl

theorem fresh_consistent (L : Nat → Nat → Nat) (i : Nat) : Consistent L (Node.fresh i) := by
  refine ⟨fun a => ?_, List.Pairwise.nil⟩
  -- the bookkeeping of `a` is `{}` and the durable tables are empty: every quantifier is over `[]`
  have hp : ∀ v p, ((Node.fresh i).booked a).partial? v = some p → False := fun _ _ hp => nomatch hp
  exact ⟨fun _ he => (List.not_mem_nil he).elim, List.Pairwise.nil, fun _ hr => (List.not_mem_nil hr).elim,
    fun v p h => (hp v p h).elim, fun _ ⟨_, hr, _⟩ => (List.not_mem_nil hr).elim,
    fun v p h => (hp v p h).elim, fun v hv => absurd hv (not_covered_nil v),
    fun _ hcm => (List.not_mem_nil hcm).elim, Nat.le_refl _, fun _ hr => (List.not_mem_nil hr).elim,
    Or.inl (Nat.zero_le _), trivial, fun v p h => (hp v p h).elim⟩

theorem hasBufferedMeta_of {n : Node} {site vlo vhi v : Nat} (h1 : vlo ≤ v) (h2 : v ≤ vhi)
    (h : HasRows n site v ∨ ∃ c ∈ n.buf, c.site = site ∧ c.dbv = v) :
    hasBufferedMeta n site vlo vhi = true := by
  unfold hasBufferedMeta
  simp only [Bool.or_eq_true, List.any_eq_true, decide_eq_true_eq]
  rcases h with ⟨r, hr, hs, hv⟩ | ⟨c, hc, hs, hv⟩
  · exact Or.inr ⟨r, hr, hs, hv ▸ h1, hv ▸ h2⟩
  · exact Or.inl ⟨c, hc, hs, hv ▸ h1, hv ▸ h2⟩

theorem hasBufferedMeta_false {n : Node} {site vlo vhi : Nat} (h : hasBufferedMeta n site vlo vhi = false) :
    (∀ c ∈ n.buf, ¬ (c.site = site ∧ vlo ≤ c.dbv ∧ c.dbv ≤ vhi)) ∧
    (∀ r ∈ n.seqRows, ¬ (r.site = site ∧ vlo ≤ r.ver ∧ r.ver ≤ vhi)) := by
  unfold hasBufferedMeta at h
  simp only [Bool.or_eq_false_iff, List.any_eq_false, decide_eq_true_eq] at h
  exact h

/-- pending clear ranges of actor `a` -/
def clearsOf (cl : List (Nat × Nat × Nat)) (a : Nat) : List (Nat × Nat) :=
  (cl.filter (fun c => c.1 = a)).map (·.2)

theorem clearsOf_append (c1 c2 : List (Nat × Nat × Nat)) (a : Nat) :
    clearsOf (c1 ++ c2) a = clearsOf c1 a ++ clearsOf c2 a := by
  unfold clearsOf; rw [List.filter_append, List.map_append]

theorem clearsOf_same {cl : List (Nat × Nat × Nat)} {a : Nat} (h : ∀ c ∈ cl, c.1 = a) :
    clearsOf cl a = cl.map (·.2) := by
  unfold clearsOf
  rw [List.filter_eq_self.mpr (fun c hc => by simpa using h c hc)]

theorem clearsOf_other {cl : List (Nat × Nat × Nat)} {a : Nat} (h : ∀ c ∈ cl, c.1 ≠ a) :
    clearsOf cl a = [] := by
  unfold clearsOf
  rw [List.filter_eq_nil_iff.mpr (fun c hc => by simpa using h c hc)]
  rfl

theorem covered_clearsOf_cons (c : Nat × Nat × Nat) (cl : List (Nat × Nat × Nat)) (a v : Nat) :
    Covered (clearsOf (c :: cl) a) v ↔ (c.1 = a ∧ c.2.1 ≤ v ∧ v ≤ c.2.2) ∨ Covered (clearsOf cl a) v := by
  unfold Covered clearsOf
  by_cases hc : c.1 = a
  · rw [List.filter_cons_of_pos (by simpa using hc)]
    simp only [List.map_cons, List.mem_cons, exists_eq_or_imp, hc, true_and]
  · rw [List.filter_cons_of_neg (by simpa using hc)]
    simp only [hc, false_and, false_or]

theorem mem_clearAll_of {α : Type} (f : Node → List α) (key : α → Nat × Nat)
    (hstep : ∀ (n : Node) (s lo hi : Nat) (x : α), x ∈ f (n.clearMeta s lo hi) ↔
      x ∈ f n ∧ ¬ ((key x).1 = s ∧ lo ≤ (key x).2 ∧ (key x).2 ≤ hi))
    {n : Node} {cl : List (Nat × Nat × Nat)} {x : α} :
    x ∈ f (clearAll n cl) ↔ x ∈ f n ∧ ¬ Covered (clearsOf cl (key x).1) (key x).2 := by
  induction cl generalizing n with
  | nil => exact ⟨fun h => ⟨h, not_covered_nil _⟩, fun h => h.1⟩
  | cons c cl ih =>
    show x ∈ f (clearAll (n.clearMeta c.1 c.2.1 c.2.2) cl) ↔ _
    rw [ih, hstep, covered_clearsOf_cons, not_or, and_assoc, eq_comm]

theorem mem_clearAll_rows {n : Node} {cl : List (Nat × Nat × Nat)} {r : SeqRow} :
    r ∈ (clearAll n cl).seqRows ↔ r ∈ n.seqRows ∧ ¬ Covered (clearsOf cl r.site) r.ver :=
  mem_clearAll_of (·.seqRows) (fun r => (r.site, r.ver)) (fun _ _ _ _ _ => mem_clearMeta_rows)

theorem mem_clearAll_buf {n : Node} {cl : List (Nat × Nat × Nat)} {x : Chg} :
    x ∈ (clearAll n cl).buf ↔ x ∈ n.buf ∧ ¬ Covered (clearsOf cl x.site) x.dbv :=
  mem_clearAll_of (·.buf) (fun c => (c.site, c.dbv)) (fun _ _ _ _ _ => mem_clearMeta_buf)

theorem booked_clearAll (n : Node) (cl : List (Nat × Nat × Nat)) (a : Nat) :
    (clearAll n cl).booked a = n.booked a := by
  unfold Node.booked; rw [clearAll_book]

theorem mem_rows_applyBuffered {n : Node} {a v : Nat} {r : SeqRow}
    (h : r ∈ (n.applyBuffered a v).seqRows) : r ∈ n.seqRows := by
  rcases applyBuffered_cases n a v with ⟨h1, _⟩ | ⟨_, _, _, h1⟩ <;> rw [h1] at h
  · exact h
  · exact applyCore_seqRows n a v ▸ (mem_clearMeta_rows.mp h).1

theorem hasRows_applyAll_sub {n : Node} {ap : List (Nat × Nat)} {a v : Nat}
    (h : HasRows (applyAll n ap) a v) : HasRows n a v := by
  induction ap generalizing n with
  | nil => exact h
  | cons t ap ih =>
    obtain ⟨r, hr, hs⟩ := ih (n := n.applyBuffered t.1 t.2) h
    exact ⟨r, mem_rows_applyBuffered hr, hs⟩

end Corro.Node
