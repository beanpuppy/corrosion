/-
For C02: the bookkeeping against the *history* of operations — which versions were ever handed to
`insert_db` (`Touched`), which were inserted as complete/cleared changesets (`Completed`) — so that "held"
has a meaning that does not come from the state itself.  `contains(v, None)`, known as a whole, is never
lost and holds of every version that arrived as a whole (`known_run`).
-/
import Corro.Lemmas.BookReach

namespace Corro.Book
open Corro Corro.RSet

theorem isComplete_iff {p : Partial} (hw : WF p.seqs) :
    p.isComplete = true ↔ ∀ q, q ≤ p.last → Mem p.seqs q :=
  (gaps_isEmpty_iff hw 0 p.last).trans ⟨fun h q => h q (Nat.zero_le q), fun h q _ => h q⟩

/-- versions that operation `op`, executed in state `st`, passes through `insert_db`
(a partial chunk that is skipped, invalid or rolled back touches nothing) -/
def touchedBy (st : Node) : Op → Nat → Prop
  | .ins rs, x => ∃ r ∈ rs, r.1 ≤ x ∧ x ≤ r.2
  | .part v seqs last, x => x = v ∧ ∃ st', opPartial st v seqs last = .done st'
  | .reload, _ => False

/-- versions touched by running `ops` from `st` -/
def Touched : Node → List Op → Nat → Prop
  | _, [], _ => False
  | st, op :: t, x => touchedBy st op x ∨ Touched (step st op) t x

theorem step_arrive {L : Nat → Nat} {st : Node} (h : Inv L st) {op : Op} (hop : OpOk L op) :
    Arrive (st.book.max.getD 0) (Mem st.book.needed) ((step st op).book.max.getD 0)
      (Mem (step st op).book.needed) (touchedBy st op) := by
  cases op with
  | ins rs => exact (opInsert_inv h hop.2).2.2
  | part v seqs last =>
    obtain ⟨hv, rfl⟩ := hop
    rcases opPartial_cases h seqs hv with ⟨hstep, hnd⟩ | ⟨st', hc, hstep, _, _, arr, _⟩
    · exact hstep.symm ▸ Arrive.refl.congr fun x => ⟨False.elim, fun hh => hnd hh.2⟩
    · exact hstep.symm ▸ arr.congr fun x => ⟨fun hx => ⟨hx, st', hc⟩, fun hx => hx.1⟩
  | reload => exact (step_reload h).symm ▸ Arrive.refl

theorem run_arrive {L : Nat → Nat} : ∀ (ops : List Op) (st : Node), Inv L st → (∀ op ∈ ops, OpOk L op) →
    Arrive (st.book.max.getD 0) (Mem st.book.needed) ((run st ops).book.max.getD 0)
      (Mem (run st ops).book.needed) (Touched st ops)
  | [], _, _, _ => Arrive.refl
  | op :: t, st, h, hops =>
    have hops' := List.forall_mem_cons.mp hops
    (step_arrive h hops'.1).trans (run_arrive t (step st op) (step_inv h hops'.1) hops'.2)

/-- `x` was covered by a whole-version changeset of `ops` (whether or not the `contains_all` guard
then dropped it as already known) -/
def Completed (ops : List Op) (x : Nat) : Prop :=
  ∃ rs, Op.ins rs ∈ ops ∧ ∃ r ∈ rs, r.1 ≤ x ∧ x ≤ r.2

theorem lookup_pmPut_eq (m : PMap) (v : Nat) (p : Partial) : (pmPut m v p).lookup v = some p := by
  induction m with
  | nil => exact List.lookup_cons_self
  | cons a t ih =>
    obtain ⟨k, q⟩ := a
    rw [pmPut]
    split
    · exact List.lookup_cons_self
    · split
      · rename_i hk; exact hk ▸ List.lookup_cons_self
      · rename_i hk; exact (lookup_cons_ne hk _ _).trans ih

theorem lookup_pmPut_ne (m : PMap) {v x : Nat} (p : Partial) (hx : ¬ x = v) :
    (pmPut m v p).lookup x = m.lookup x := by
  induction m with
  | nil => exact lookup_cons_ne hx _ _
  | cons a t ih =>
    obtain ⟨k, q⟩ := a
    rw [pmPut]
    split
    · exact lookup_cons_ne hx _ _
    · split
      · rename_i hk; subst hk; rw [lookup_cons_ne hx, lookup_cons_ne hx]
      · by_cases hxk : x = k
        · subst hxk; rw [List.lookup_cons_self, List.lookup_cons_self]
        · rw [lookup_cons_ne hxk, lookup_cons_ne hxk]; exact ih

theorem lookup_filter_some {lb : Nat} {P : PMap} (hk : KeysFrom lb P) {f : Nat × Partial → Bool}
    {x : Nat} {p : Partial} (h : (P.filter f).lookup x = some p) :
    P.lookup x = some p ∧ f (x, p) = true :=
  have hm := List.mem_filter.mp (mem_of_lookup h)
  ⟨lookup_of_mem hk hm.1, hm.2⟩

theorem containsAll_single (b : Book) (v : Nat) (s : Option (Nat × Nat)) :
    containsAll b (v, v) s = contains b v s := by
  rw [containsAll, show v + 1 - v = 1 by omega]
  exact Bool.and_true _

theorem contains_none_iff (b : Book) (x : Nat) :
    contains b x none = true ↔ (¬ Mem b.needed x ∧ x ≤ b.max.getD 0) ∧
      ∀ p, b.partials.lookup x = some p → p.isComplete = true := by
  unfold contains
  rw [Bool.and_eq_true, containsVersion_iff]
  refine and_congr_right fun _ => ?_
  cases b.partials.lookup x with
  | none => exact ⟨fun _ _ hp => (nomatch hp), fun _ => rfl⟩
  | some p => exact ⟨fun hc _ hp => Option.some.inj hp ▸ hc, fun hc => hc p rfl⟩

theorem known_step {L : Nat → Nat} {st : Node} (h : Inv L st) {op : Op} (hop : OpOk L op) {x : Nat}
    (hx : contains st.book x none = true) : contains (step st op).book x none = true := by
  obtain ⟨⟨c1, c2⟩, c3⟩ := (contains_none_iff _ x).mp hx
  refine (contains_none_iff _ x).mpr ⟨(step_arrive h hop).held c1 c2, fun p hpl => ?_⟩
  cases op with
  | ins rs =>
    rw [(opInsert_inv h hop.2).2.1] at hpl
    exact c3 p (lookup_filter_some h.keys hpl).1
  | part v seqs last =>
    obtain ⟨hv, rfl⟩ := hop
    rcases opPartial_cases h seqs hv with ⟨hstep, _⟩ | ⟨st', _, hstep, hnc, _, _, hparts⟩
    · exact c3 p (hstep ▸ hpl)
    · rw [hstep] at hpl
      rcases hparts with hparts | ⟨hlh, hparts⟩
      · exact c3 p (lookup_filter_some h.keys (hparts ▸ hpl)).1
      · rw [hparts] at hpl
        by_cases hxv : x = v
        · subst hxv
          rw [lookup_pmPut_eq] at hpl
          cases hpl
          -- `x` is known, yet the chunk was not skipped: it is a (complete) partial
          rw [containsAll_single] at hnc
          unfold contains at hnc
          rw [(containsVersion_iff _ _).mpr ⟨c1, c2⟩] at hnc
          cases hl : st.book.partials.lookup x with
          | none => rw [hl] at hnc; cases hnc
          | some p0 =>
            -- complete by `c3`, and inserting into a complete seq set keeps it complete
            have hpw := h.pwf _ (mem_of_lookup hl)
            rw [seqsOf, hl]
            refine (isComplete_iff (p := ⟨RSet.insert p0.seqs seqs, L x⟩)
              (insert_wf _ seqs.1 seqs.2 hlh hpw.1)).mpr fun q hq => ?_
            exact (mem_insert _ seqs.1 seqs.2 q hlh).mpr
              (.inl ((isComplete_iff hpw.1).mp (c3 p0 hl) q (hpw.2.2 ▸ hq)))
        · exact c3 p (lookup_pmPut_ne _ _ hxv ▸ hpl)
  | reload => exact c3 p (step_reload h ▸ hpl)

/-- either the `contains_all` guard knew the range already, or the range is processed and a partial of the
version is dropped -/
theorem known_of_ins {L : Nat → Nat} {st : Node} (h : Inv L st) {rs : List (Nat × Nat)}
    (hop : OpOk L (.ins rs)) {x : Nat} (hx : Mem rs x) :
    contains (step st (.ins rs)).book x none = true := by
  obtain ⟨r, hr, hxr⟩ := hx
  by_cases hg : containsAll st.book r none = true
  · exact known_step h hop (containsAll_true hg x hxr.1 hxr.2)
  · have arr := step_arrive h hop
    have ht : touchedBy st (.ins rs) x := ⟨r, hr, hxr⟩
    refine (contains_none_iff _ x).mpr ⟨arr.arrived ht, fun p hpl => ?_⟩
    rw [(opInsert_inv h hop.2).2.1] at hpl
    have hf := (lookup_filter_some h.keys hpl).2
    have hin : r ∈ rs.filter (fun r => !containsAll st.book r none) :=
      List.mem_filter.mpr ⟨hr, by rw [Bool.not_eq_true] at hg; rw [hg]; rfl⟩
    simp only [(coveredBy_iff _ x).mpr ⟨r, hin, hxr⟩, Bool.not_true] at hf
    cases hf

theorem known_run {L : Nat → Nat} {x : Nat} : ∀ (ops : List Op) (st : Node), Inv L st →
    (∀ op ∈ ops, OpOk L op) → (contains st.book x none = true ∨ Completed ops x) →
    contains (run st ops).book x none = true
  | [], _, _, _, hx => hx.resolve_right fun ⟨_, hrs, _⟩ => nomatch hrs
  | op :: t, st, h, hops, hx => by
    have hops' := List.forall_mem_cons.mp hops
    refine known_run t (step st op) (step_inv h hops'.1) hops'.2 ?_
    rcases hx with hx | ⟨rs, hrs, hx⟩
    · exact .inl (known_step h hops'.1 hx)
    · rcases List.mem_cons.mp hrs with rfl | hrs
      · exact .inl (known_of_ins h hops'.1 hx)
      · exact .inr ⟨rs, hrs, hx⟩

end Corro.Book
