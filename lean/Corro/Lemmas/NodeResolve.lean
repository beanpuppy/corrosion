/-
`BookedVersions::contains` read once (`contains_iff`), with its consequences: a version held only as an
incomplete partial, a complete partial, a one-version range, a backward range.  Also `containsVersion`
read once (`containsVersion_iff`) and through `insertDb` / `dropPartials`, and `containsAll` as a
quantifier over the range.
-/
import Corro.Lemmas.NodeBook
namespace Corro.Node

/-- `BookedVersions::contains`: the version is booked, and its partial (if any) has no gap in the
asked range, resp. none at all -/
theorem contains_iff (b : Booked) (v : Nat) (s : Option (Nat × Nat)) :
    b.contains v s = true ↔ b.containsVersion v = true ∧ ∀ p, b.partial? v = some p →
      (match s with | some r => (RSet.gaps p.seqs r).isEmpty | none => p.complete) = true := by
  unfold Booked.contains
  rw [Bool.and_eq_true]
  refine and_congr_right fun _ => ?_
  cases b.partial? v with
  | none => cases s <;> exact ⟨fun _ _ h => (nomatch h), fun _ => rfl⟩
  | some p => cases s <;> exact ⟨fun h _ hq => Option.some.inj hq ▸ h, fun h => h p rfl⟩

theorem contains_of_cv_none {b : Booked} {v : Nat} (s : Option (Nat × Nat))
    (h1 : b.containsVersion v = true) (h2 : b.partial? v = none) : b.contains v s = true :=
  (contains_iff b v s).mpr ⟨h1, fun _ hp => nomatch h2.symm.trans hp⟩

theorem contains_some_eq (b : Booked) (v : Nat) (s : Nat × Nat) :
    b.contains v (some s) = (b.containsVersion v &&
      match b.partial? v with
      | some p => (RSet.gaps p.seqs s).isEmpty
      | none => true) := by
  unfold Booked.contains
  cases b.partial? v <;> rfl

/-- a whole version held only as an incomplete partial is not "contained": /repo commit 0a29c94
(a version that arrives or is cleared as a whole supersedes its partially buffered copy) -/
theorem contains_none_incomplete (b : Booked) (v : Nat) (p : Partial) (hp : b.partial? v = some p)
    (hc : p.complete = false) : b.contains v none = false :=
  Bool.eq_false_iff.mpr fun h => Bool.false_ne_true (hc.symm.trans (((contains_iff b v none).mp h).2 p hp))

theorem containsVersion_iff (b : Booked) (v : Nat) :
    b.containsVersion v = true ↔ ¬ RSet.Mem b.needed v ∧ v ≤ b.max := by
  unfold Booked.containsVersion
  rw [Bool.and_eq_true, decide_eq_true_eq, ← RSet.contains_iff]
  cases RSet.contains b.needed v <;> simp

theorem contains_of_complete {b : Booked} {v lo hi : Nat} {p0 : Partial} (hw : RSet.WF p0.seqs)
    (hp : b.partial? v = some p0) (hc : p0.complete = true) (hhi : hi ≤ p0.last)
    (hk : v ≤ b.max ∧ ¬ RSet.Mem b.needed v) : b.contains v (some (lo, hi)) = true := by
  refine (contains_iff b v _).mpr ⟨?_, fun p hp' => ?_⟩
  · exact (containsVersion_iff b v).mpr ⟨hk.2, hk.1⟩
  · cases hp.symm.trans hp'
    exact (RSet.gaps_isEmpty_iff hw lo hi).mpr fun x _ hx =>
      (complete_iff hw).mp hc x (Nat.le_trans hx hhi)

theorem containsAll_backward (b : Booked) (vlo vhi : Nat) (s : Option (Nat × Nat)) (h : vhi < vlo) :
    b.containsAll vlo vhi s = true := by
  unfold Booked.containsAll
  have : vhi + 1 - vlo = 0 := by omega
  rw [this]; rfl

theorem containsAll_single (b : Booked) (v : Nat) (s : Option (Nat × Nat)) :
    b.containsAll v v s = b.contains v s := by
  unfold Booked.containsAll
  simp [show v + 1 - v = 1 by omega, List.range_succ]

theorem containsAll_iff (b : Booked) (vlo vhi : Nat) (s : Option (Nat × Nat)) :
    b.containsAll vlo vhi s = true ↔ ∀ w, vlo ≤ w → w ≤ vhi → b.contains w s = true :=
  all_range_iff (f := fun w => b.contains w s)

/-- what lies between the old head and `hi` outside `lo..=hi` becomes needed, so nothing else becomes known -/
theorem containsVersion_insertDb {b : Booked} (hw : RSet.WF b.needed) {lo hi : Nat} (hlh : lo ≤ hi)
    (v : Nat) :
    (b.insertDb [(lo, hi)]).containsVersion v = true ↔
      (lo ≤ v ∧ v ≤ hi) ∨ b.containsVersion v = true := by
  rw [containsVersion_iff, containsVersion_iff,
    mem_insertDb_needed hw [(lo, hi)] (by intro r hr; rw [List.mem_singleton] at hr; subst hr; exact hlh) (by simp),
    insertDb_single_max]
  simp only [List.mem_singleton, exists_eq_left]
  by_cases hm : RSet.Mem b.needed v
  · simp only [hm, true_or, true_and, not_true_eq_false, false_and, or_false]
    constructor
    · intro h; exact Classical.not_not.mp h.1
    · intro h; exact ⟨fun h' => h' h, by omega⟩
  · simp only [hm, false_or, not_false_eq_true, true_and]
    constructor
    · rintro ⟨h1, h2⟩
      by_cases h3 : lo ≤ v ∧ v ≤ hi
      · exact Or.inl h3
      · right
        by_cases h4 : b.max + 1 ≤ v ∧ v ≤ hi
        · exact absurd ⟨h4, h3⟩ h1
        · omega
    · rintro (h | h)
      · exact ⟨fun h' => h'.2 h, by omega⟩
      · exact ⟨fun h' => by omega, by omega⟩

theorem containsVersion_dropPartials (b : Booked) (lo hi w : Nat) :
    (b.dropPartials lo hi).containsVersion w = b.containsVersion w := rfl

end Corro.Node
