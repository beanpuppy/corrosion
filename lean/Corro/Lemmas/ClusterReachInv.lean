/-
C01, protocol level — the invariants of every node of every reachable cluster, each by one induction
over the runs of the batched model through `allNodes_stepB`: the store-level invariant `NInv` over all
runs (`reachB_ninv`), and, over the runs whose sync servers are clean, the full node invariant
`Crash.FullK` together with "every node knows its own versions" (`Full.reachF_all`).  The statements
about runs of the one-changeset-per-batch model are read off them, since those runs are runs of the
batched model on the same cluster state.
-/
import Corro.Lemmas.ClusterFullEffect
import Corro.Lemmas.ClusterRuns

namespace Corro.ClusterSys
open Corro.Crdt Corro.Node

/-- **`received_set` / `store_from_log`, batched cluster**: in every reachable cluster of the batched
model whose log is well formed, every node's store is a merge of exactly its ghost list `R i`, every
live entry is literally a change of `R i`, and `R i` and the buffered rows consist of changes of the
log -/
theorem reachB_ninv {k : Nat} {c : Cluster} (h : ReachB k c) (hL : LogOK c.log) :
    AllNodes k (fun _ => NInv c.log) c := by
  induction h with
  | init => exact allNodes_init _ k (fun i _ => ninv_fresh i)
  | @step c op _ hok ih =>
    have hL0 := logOK_of_stepB hL
    have ih := ih hL0
    exact allNodes_stepB (P := fun L _ => NInv L) (Src := fun L it => ∀ e ∈ itemChanges it, e ∈ L.all) ih hok
      -- the writer of a local write; the other nodes under the longer log
      (fun _ _ _ _ _ _ _ hw hlog hag h => ninv_write h hw hag (hlog ▸ hL))
      (fun _ _ _ _ _ _ _ _ _ _ _ _ _ h => h.cons_log _)
      -- where the delivered changesets come from: original chunks; the answers of a session
      (fun _ _ _ _ _ => originItem_changes hL0 _ _ _ _)
      (fun _ j _ _ nj _ _ hj => answers_changes (ih.node j nj hj))
      -- a batch; kill; restart
      (fun _ _ _ _ h hs => ninv_deliverB h hL0 hs)
      (fun _ _ _ h => ninv_kill h)
      (fun _ _ _ h => ninv_restart h hL0)

theorem reach_ninv {k : Nat} {c : Cluster} (h : Reach k c) (hL : LogOK c.log) :
    AllNodes k (fun _ => NInv c.log) c := reachB_ninv (reachB_of_reach h) hL

namespace Full

theorem chunkOK_pickBatches {P : Nat → Nat → Prop} {L : Log} {ni nj : Node} {Rj : List Chg}
    (hN : NInv L nj Rj) (hI : Crash.CInv P L nj Rj)
    (hL : LogOK L) (hcl : nodeClean nj = true) (batches : List (List Pick)) :
    ∀ b ∈ batches.map (pickBatch L (answers ni nj)), ∀ it ∈ b, ChunkOK L it := by
  intro b hb it hit
  obtain ⟨ps, _, rfl⟩ := List.mem_map.mp hb
  rcases mem_pickBatch hit with h | ⟨site, ver, lo, hi, hhas, rfl⟩
  · exact Crash.chunkOK_answers hN hI hL hcl h
  · exact chunkOK_origin hL hhas

theorem fullK_deliverB {L : Log} {n : Node} {R : List Chg} {batch : List Item} (h : Crash.FullK L n R)
    (hL : LogOK L) (hck : ∀ it ∈ batch, ChunkOK L it) :
    Crash.FullK L (n.deliver batch) (mergedByBatch n batch ++ R) :=
  ⟨ninv_deliverB h.1 hL (fun it hit => chunkOK_changes hL (hck it hit)), kinv_deliverB h.1 h.2 hL hck⟩

/-- **`held_inv`, cluster level, batches and crashes**: in every cluster reachable by any steps of the
batched model (sync steps with a clean server), with a well-formed log, every node — dead or alive —
satisfies the full invariant and knows its own versions -/
theorem reachF_all {k : Nat} {c : Cluster} (h : ReachF k c) (hL : LogOK c.log) :
    AllNodes k (fun i n R => Crash.FullK c.log n R ∧ Crash.OwnAt k c.log i n) c := by
  induction h with
  | init => exact allNodes_init _ k (fun i hi => ⟨⟨ninv_fresh i, Crash.cinv_fresh _ i⟩, Crash.ownAt_fresh hi⟩)
  | @step c op _ hok hclean ih =>
    have hL0 := logOK_of_stepB hL
    have ih := ih hL0
    exact allNodes_stepB (P := fun L i n R => Crash.FullK L n R ∧ Crash.OwnAt k L i n) (Src := ChunkOK) ih hok
      -- the writer of a local write; the other nodes under the longer log
      (fun _ _ _ _ _ _ _ hw hlog hag h =>
        ⟨Crash.fullK_write h.1 hw hag (hlog ▸ hL), h.2.write h.1 hw (hlog ▸ hL)⟩)
      (fun i _ n _ _ _ hi _ hlog j _ hij _ h =>
        have hn := (ih.node i n hi).2
        ⟨⟨h.1.1.cons_log _, h.1.2.cons_log h.1.1.rsub (hlog ▸ hL)⟩,
          h.2.cons_log (hn.id ▸ hn.lt) (hn.id ▸ hij)⟩)
      -- where the delivered changesets come from: original chunks; the answers of a clean server
      (fun _ _ _ _ => chunkOK_origin hL0)
      (fun _ j _ _ nj hop _ hj _ => Crash.chunkOK_answers (ih.node j nj hj).1.1 (ih.node j nj hj).1.2 hL0
        (serverCleanB_sync (hop ▸ hclean) hj))
      -- a batch; kill; restart
      (fun i n _ b h hck => ⟨fullK_deliverB h.1 hL0 hck,
        h.2.lt, (deliverB_id n b).trans h.2.id, h.2.sites,
        fun v h1 h2 => deliverB_keeps h.1.2 b (h.2.own v h1 h2),
        Nat.le_trans h.2.own_dbv (dbvOf_deliverB_ge n b i)⟩)
      (fun _ _ _ h => ⟨⟨ninv_kill h.1.1, Crash.kinv_kill h.1.2⟩, h.2.lt, h.2.id, h.2.sites, h.2.own, h.2.own_dbv⟩)
      (fun i n _ h => ⟨⟨ninv_restart h.1.1 hL0, Crash.kinv_restart h.1.1 h.1.2 hL0⟩,
        h.2.lt, (restart_id n).trans h.2.id, h.2.sites,
        fun v h1 h2 => Crash.restart_keeps h.1.1 h.1.2 hL0 (h.2.own v h1 h2) (Nat.le_trans h2 h.2.own_dbv),
        Nat.le_trans h.2.own_dbv (Crash.dbvOf_restart_ge n i)⟩)

theorem reachF_inv {k : Nat} {c : Cluster} (h : ReachF k c) (hL : LogOK c.log) :
    AllNodes k (fun _ => Crash.FullK c.log) c := (reachF_all h hL).imp (fun _ _ _ h => h.1)

theorem reachF_own {k : Nat} {c : Cluster} (h : ReachF k c) (hL : LogOK c.log) :
    AllNodes k (fun i n _ => Crash.OwnAt k c.log i n) c := (reachF_all h hL).imp (fun _ _ _ h => h.2)

end Full

namespace Crash

/-- **`held_inv`, cluster level, with crashes**: in every cluster reachable by any steps (the server
of every sync step clean), with a well-formed log, every node — dead or alive — satisfies the full
invariant -/
theorem reachC_inv {k : Nat} {c : Cluster} (h : ReachC k c) (hL : LogOK c.log) :
    AllNodes k (fun _ => FullK c.log) c := Full.reachF_inv (Full.reachF_of_reachC h) hL

theorem reachC_own {k : Nat} {c : Cluster} (h : ReachC k c) (hL : LogOK c.log) :
    AllNodes k (fun i n _ => OwnAt k c.log i n) c :=
  Full.reachF_own (Full.reachF_of_reachC h) hL

end Crash

end Corro.ClusterSys
