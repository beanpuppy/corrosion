/-
The wire codec model (`Corro/Model/Codec.lean`): the decoder monad, little-endian
integers, and three families of facts, each built from one lemma per combinator and one line per
decoder: round trips (`Reads`), the reservation accounting (`Good`, `Tight`) and text validity
(`Yields`).
-/
import Corro.Model.Codec
import Corro.Lemmas.Pack

namespace Corro.Codec
open Corro.Pack (Bytes Val validUtf8 ofPat64)

theorem bind_def (d : Dec α) (f : α → Dec β) (bs : Bytes) :
    (d >>= f) bs = match (d bs).val with
      | .error e => ⟨(d bs).alloc, (d bs).rest, .error e⟩
      | .ok a => ⟨(d bs).alloc + (f a (d bs).rest).alloc, (f a (d bs).rest).rest,
          (f a (d bs).rest).val⟩ := rfl

theorem pure_def (a : α) (bs : Bytes) : (pure a : Dec α) bs = ⟨0, bs, .ok a⟩ := rfl

@[simp] theorem run_pure (a : α) (bs : Bytes) : Dec.run (pure a) bs = (.ok a, bs) := rfl

@[simp] theorem run_fail (e : Err) (bs : Bytes) : Dec.run (fail e : Dec α) bs = (.error e, bs) := rfl

@[simp] theorem run_bind (d : Dec α) (f : α → Dec β) (bs : Bytes) :
    Dec.run (d >>= f) bs = match Dec.run d bs with
      | (.error e, r) => (.error e, r)
      | (.ok a, r) => Dec.run (f a) r := by
  simp only [Dec.run, bind_def]
  cases (d bs).val <;> rfl

theorem run_map (d : Dec α) (g : α → β) (bs : Bytes) (a : α) (r : Bytes)
    (h : Dec.run d bs = (.ok a, r)) : Dec.run (d >>= fun x => pure (g x)) bs = (.ok (g a), r) := by
  rw [run_bind, h]; rfl

theorem leBytes_length (k n : Nat) : (leBytes k n).length = k := by
  induction k generalizing n with
  | zero => rfl
  | succ k ih => rw [leBytes, List.length_cons, ih]

theorem leNat_leBytes (k n : Nat) : leNat (leBytes k n) = n % 256 ^ k := by
  induction k generalizing n with
  | zero => exact (Nat.mod_one n).symm
  | succ k ih =>
    have : n % 256 % 2 ^ 8 = n % 256 := Nat.mod_mod n 256
    rw [leBytes, leNat, ih, UInt8.toNat_ofNat', this, Nat.pow_succ, Nat.mul_comm (256 ^ k),
      Nat.mod_mul]

theorem leNat_leBytes_of_lt (k n : Nat) (h : n < 256 ^ k) : leNat (leBytes k n) = n := by
  rw [leNat_leBytes, Nat.mod_eq_of_lt h]

@[simp] theorem length_encU8 (n : Nat) : (encU8 n).length = 1 := leBytes_length 1 n
@[simp] theorem length_encU16 (n : Nat) : (encU16 n).length = 2 := leBytes_length 2 n
@[simp] theorem length_encU32 (n : Nat) : (encU32 n).length = 4 := leBytes_length 4 n
@[simp] theorem length_encU64 (n : Nat) : (encU64 n).length = 8 := leBytes_length 8 n
@[simp] theorem length_encI64 (v : Int) : (encI64 v).length = 8 := leBytes_length 8 _
@[simp] theorem length_encStr (b : Bytes) : (encStr b).length = 4 + b.length := by simp [encStr]
@[simp] theorem length_encRange (r : Range) : (encRange r).length = 16 := by simp [encRange]

theorem length_encOpt_ge (e : α → Bytes) (o : Option α) : 1 ≤ (encOpt e o).length := by
  cases o with
  | none => exact Nat.le_refl 1
  | some a => exact Nat.le_add_left 1 _

theorem length_encMany_ge (e : α → Bytes) (as : List α) (m : Nat)
    (h : ∀ a ∈ as, m ≤ (e a).length) : as.length * m ≤ (encMany e as).length := by
  induction as with
  | nil => rw [List.length_nil, Nat.zero_mul]; exact Nat.zero_le _
  | cons a as ih =>
    rw [List.length_cons, Nat.succ_mul, encMany, List.length_append, Nat.add_comm]
    exact Nat.add_le_add (h a (List.mem_cons_self ..)) (ih fun b hb => h b (List.mem_cons_of_mem _ hb))

theorem length_encSqliteValue_ge (v : Val) : 1 ≤ (encSqliteValue v).length := by
  cases v <;> exact Nat.le_add_left 1 _

theorem length_encChange_ge (c : Change) : changeMinBytes ≤ (encChange c).length := by
  have := length_encSqliteValue_ge c.val
  simp only [encChange, changeMinBytes, List.length_append, length_encStr, length_encI64,
    length_encU64]
  omega

theorem length_encSyncNeed_ge (n : SyncNeed) : syncNeedMinBytes ≤ (encSyncNeed n).length := by
  cases n with
  | full vs => simp [encSyncNeed, syncNeedMinBytes]
  | part v seqs => simp [encSyncNeed, syncNeedMinBytes]; omega
  | empty ts =>
    have := length_encOpt_ge encU64 ts
    simp only [encSyncNeed, syncNeedMinBytes, List.length_cons]; omega

theorem length_encNeedEntry_ge (e : Bytes × List Range) (h : WFActor e.1) :
    24 ≤ (encNeedEntry e).length := by
  simp only [WFActor] at h
  simp [encNeedEntry, encRangeVec, h]; omega

theorem length_encVersionEntry_ge (e : Nat × List Range) : 16 ≤ (encVersionEntry e).length := by
  simp [encVersionEntry, encRangeVec]; omega

theorem length_encPartialEntry_ge (e : Bytes × List (Nat × List Range)) (h : WFActor e.1) :
    24 ≤ (encPartialEntry e).length := by
  simp only [WFActor] at h
  simp [encPartialEntry, h]; omega

theorem length_encRequestEntry_ge (e : Bytes × List SyncNeed) (h : WFActor e.1) :
    requestEntryMinBytes ≤ (encRequestEntry e).length := by
  simp only [WFActor] at h
  simp [encRequestEntry, requestEntryMinBytes, h]; omega

/-! `Reads d x a`: the decoder `d` reads the bytes `x` as the value `a` and stops right after them,
whatever follows.  A sequence of decoders reads the concatenation of what each of them reads
(`reads_bind`), so a round trip is proved field by field. -/

def Reads (d : Dec α) (x : Bytes) (a : α) : Prop := ∀ rest, Dec.run d (x ++ rest) = (.ok a, rest)

theorem run_bind_reads {d : Dec α} {x : Bytes} {a : α} (h : Reads d x a) (f : α → Dec β)
    (rest : Bytes) : Dec.run (d >>= f) (x ++ rest) = Dec.run (f a) rest := by
  rw [run_bind, h rest]

theorem reads_bind {d : Dec α} {f : α → Dec β} {x y : Bytes} {a : α} {b : β}
    (h1 : Reads d x a) (h2 : Reads (f a) y b) : Reads (d >>= f) (x ++ y) b := fun rest => by
  rw [List.append_assoc, run_bind_reads h1, h2 rest]

theorem reads_bind_nil {d : Dec α} {f : α → Dec β} {x : Bytes} {a : α} {b : β}
    (h1 : Reads d x a) (h2 : Reads (f a) [] b) : Reads (d >>= f) x b := fun rest => by
  rw [run_bind_reads h1]; exact h2 rest

theorem reads_pure (a : α) : Reads (pure a) [] a := fun _ => rfl

theorem reads_map {d : Dec α} {x : Bytes} {a : α} (h : Reads d x a) (g : α → β) :
    Reads (d >>= fun v => pure (g v)) x (g a) := reads_bind_nil h (reads_pure _)

theorem reads_take {n : Nat} {x : Bytes} (h : x.length = n) : Reads (take n) x x := fun rest => by
  have : ¬ (x ++ rest).length < n := by rw [List.length_append]; omega
  rw [Dec.run, take, if_neg this, List.take_left' h, List.drop_left' h]

theorem reads_uN {k n : Nat} (h : n < 256 ^ k) : Reads (uN k) (leBytes k n) n := by
  have := reads_map (reads_take (leBytes_length k n)) leNat
  rwa [leNat_leBytes_of_lt k n h] at this

theorem reads_u8 {n : Nat} (h : n < 256) : Reads u8 (encU8 n) n := reads_uN h
theorem reads_u16 {n : Nat} (h : n < 65536) : Reads u16 (encU16 n) n := reads_uN h
theorem reads_u32 {n : Nat} (h : n < 4294967296) : Reads u32 (encU32 n) n := reads_uN h
theorem reads_u64 {n : Nat} (h : U64 n) : Reads u64 (encU64 n) n := reads_uN h

theorem reads_i64 {v : Int} (h : I64 v) : Reads i64 (encI64 v) v := by
  have := reads_map (reads_u64 (Corro.Pack.pat64_lt v)) ofPat64
  rwa [Corro.Pack.ofPat64_pat64 v h.1 h.2] at this

theorem u8_toNat_lit0 : (0 : UInt8).toNat = 0 := rfl
theorem u8_toNat_lit1 : (1 : UInt8).toNat = 1 := rfl
theorem u8_toNat_lit2 : (2 : UInt8).toNat = 2 := rfl

theorem reads_tag (b : UInt8) {f : Nat → Dec β} {y : Bytes} {a : β} (h : Reads (f b.toNat) y a) :
    Reads (u8 >>= f) (b :: y) a := by
  have hb : Reads u8 [b] b.toNat := fun _ => rfl
  exact reads_bind hb h

theorem reads_takeOwned (x : Bytes) : Reads (takeOwned x.length) x x := fun rest => by
  have : x.length * 1 ≤ (x ++ rest).length := by rw [List.length_append]; omega
  rw [takeOwned, run_bind, Dec.run, reserve, if_pos this]
  exact reads_take rfl rest

theorem reads_bytes {b : Bytes} (h : Len32 b) : Reads bytes (encStr b) b :=
  reads_bind (reads_u32 h) (reads_takeOwned b)

theorem reads_str {b : Bytes} (h : WFText b) : Reads str (encStr b) b :=
  reads_bind (reads_u32 h.1) <|
    reads_bind_nil (reads_takeOwned b) (by rw [if_pos h.2]; exact reads_pure b)

theorem reads_opt {d : Dec α} {e : α → Bytes} {o : Option α}
    (h : ∀ a, o = some a → Reads d (e a) a) : Reads (opt d) (encOpt e o) o := by
  cases o with
  | none => exact reads_tag 0 (reads_pure none)
  | some a => exact reads_tag 1 (reads_map (h a rfl) some)

theorem reads_many {d : Dec α} {e : α → Bytes} {as : List α} (h : ∀ a ∈ as, Reads d (e a) a) :
    Reads (many d as.length) (encMany e as) as := by
  induction as with
  | nil => exact reads_pure []
  | cons a as ih =>
    exact reads_bind (h a (List.mem_cons_self ..))
      (reads_map (ih fun b hb => h b (List.mem_cons_of_mem _ hb)) (a :: ·))

/-! `Good D m d`: on success the decoder has consumed at least `m` bytes more than it has booked; on
failure it has booked at most `D` times the input it was given.  `Tight d`: booked + remaining never
exceeds the input, on both paths (what `default_on_eof` needs, because it turns a failure into a
success). -/

def Good (D m : Nat) (d : Dec α) : Prop := ∀ bs,
  match (d bs).val with
  | .ok _ => (d bs).alloc + m + (d bs).rest.length ≤ bs.length
  | .error _ => (d bs).alloc ≤ D * bs.length

def Tight (d : Dec α) : Prop := ∀ bs, (d bs).alloc + (d bs).rest.length ≤ bs.length

namespace Good

theorem ok {D m : Nat} {d : Dec α} (h : Good D m d) {bs : Bytes} {a : α}
    (hv : (d bs).val = .ok a) : (d bs).alloc + m + (d bs).rest.length ≤ bs.length := by
  have := h bs; rwa [hv] at this

theorem error {D m : Nat} {d : Dec α} (h : Good D m d) {bs : Bytes} {e : Err}
    (hv : (d bs).val = .error e) : (d bs).alloc ≤ D * bs.length := by
  have := h bs; rwa [hv] at this

theorem weaken {D D' m m' : Nat} {d : Dec α} (h : Good D m d) (hm : m' ≤ m := by decide)
    (hD : D ≤ D' := by decide) : Good D' m' d := by
  intro bs
  cases hv : (d bs).val with
  | ok a => exact Nat.le_trans (Nat.add_le_add_right (Nat.add_le_add_left hm _) _) (h.ok hv)
  | error e => exact Nat.le_trans (h.error hv) (Nat.mul_le_mul_right _ hD)

end Good

theorem good_pure {D : Nat} (a : α) : Good D 0 (pure a : Dec α) :=
  fun _ => Nat.le_of_eq (Nat.zero_add _)

theorem good_fail {D m : Nat} (e : Err) : Good D m (fail e : Dec α) := fun _ => Nat.zero_le _

theorem good_take (n : Nat) : Good 0 n (take n) := by
  intro bs
  by_cases h : bs.length < n
  · rw [take, if_pos h]; exact Nat.zero_le _
  · rw [take, if_neg h]; show 0 + n + (bs.drop n).length ≤ bs.length
    rw [List.length_drop]; omega

/-- Budgets are handed down a sequence: if `d` is good for `m1` of the `m` bytes to be consumed,
the rest has to be good for `m - m1`; what is left of the budget is checked where the sequence ends
(`good_map`).  On a concrete decoder `hD1` and `hD` compare numerals. -/
theorem good_bind {D D1 m m1 : Nat} {d : Dec α} {f : α → Dec β}
    (h1 : Good D1 m1 d) (h2 : ∀ a, Good D (m - m1) (f a))
    (hD1 : D1 ≤ D := by decide) (hD : 1 ≤ D := by decide) : Good D m (d >>= f) := by
  intro bs
  rw [bind_def]
  cases hv : (d bs).val with
  | error e => exact Nat.le_trans (h1.error hv) (Nat.mul_le_mul_right _ hD1)
  | ok a =>
    have a1 := h1.ok hv
    dsimp only
    cases hw : (f a (d bs).rest).val with
    | ok b => have a2 := (h2 a).ok hw; dsimp only; omega
    | error e =>
      -- booked by `d`, plus at most `D` times what `d` left over
      have a2 := (h2 a).error hw
      calc (d bs).alloc + (f a (d bs).rest).alloc
          ≤ D * (d bs).alloc + D * (d bs).rest.length :=
            Nat.add_le_add (Nat.le_mul_of_pos_left _ hD) a2
        _ = D * ((d bs).alloc + (d bs).rest.length) := (Nat.mul_add ..).symm
        _ ≤ D * bs.length := Nat.mul_le_mul_left _ (by omega)

theorem good_map {D D1 m m1 : Nat} {d : Dec α} (h : Good D1 m1 d) (g : α → β)
    (hm : m ≤ m1 := by decide) (hD1 : D1 ≤ D := by decide) :
    Good D m (d >>= fun x => pure (g x)) := by
  intro bs
  have := h.weaken hm hD1 bs
  rw [bind_def]
  cases hv : (d bs).val with
  | error e => rwa [hv] at this
  | ok a => rwa [hv] at this

theorem good_uN (k : Nat) : Good 0 k (uN k) :=
  good_map (good_take k) leNat (Nat.le_refl k) (Nat.le_refl 0)

theorem good_u8 : Good 0 1 u8 := good_uN 1
theorem good_u16 (D : Nat) (hD : 1 ≤ D) : Good D 2 u16 :=
  (good_uN 2).weaken (Nat.le_refl 2) (Nat.le_of_succ_le hD)
theorem good_u32 : Good 0 4 u32 := good_uN 4
theorem good_u64 : Good 0 8 u64 := good_uN 8
theorem good_i64 : Good 0 8 i64 := good_map good_u64 ofPat64

theorem good_many {D m : Nat} {d : Dec α} (h : Good D m d) (n : Nat) :
    Good (max 1 D) (n * m) (many d n) := by
  induction n with
  | zero => rw [Nat.zero_mul]; exact good_pure []
  | succ n ih =>
    refine good_bind h (fun a => good_map ih (a :: ·) ?_ (Nat.le_refl _)) (Nat.le_max_right ..)
      (Nat.le_max_left ..)
    rw [Nat.succ_mul]; omega

/-- the guarded vector: `k` items are booked only if `k * minsz` bytes remain, and every item
consumes at least `minsz` beyond what it books itself -/
theorem good_vec {D m minsz : Nat} {d : Dec α} {e : Err} {k : Nat} (h : Good D m d)
    (hm : minsz ≤ m) (h1 : 1 ≤ minsz) :
    Good (max 1 D + 1) 0 (vec e minsz d k) := by
  intro bs
  rw [vec, bind_def, reserve]
  by_cases hk : k * minsz ≤ bs.length
  · rw [if_pos hk, Nat.max_eq_left h1]
    cases hv : (many d k bs).val with
    | error e =>
      -- the guard has booked at most the input once, the items at most `max 1 D` times
      show k * minsz + (many d k bs).alloc ≤ (max 1 D + 1) * bs.length
      rw [Nat.add_mul, Nat.one_mul, Nat.add_comm]
      exact Nat.add_le_add ((good_many h k).error hv) hk
    | ok as =>
      have a := (good_many h k).ok hv
      have : k * minsz ≤ k * m := Nat.mul_le_mul_left _ hm
      show k * minsz + (many d k bs).alloc + 0 + (many d k bs).rest.length ≤ bs.length
      omega
  · rw [if_neg hk]; exact Nat.zero_le _

theorem tight_good {d : Dec α} (h : Tight d) : Good 1 0 d := by
  intro bs
  have := h bs
  split
  · exact this
  · omega

theorem tight_pure (a : α) : Tight (pure a : Dec α) := fun _ => Nat.le_of_eq (Nat.zero_add _)
theorem tight_fail (e : Err) : Tight (fail e : Dec α) := fun _ => Nat.le_of_eq (Nat.zero_add _)

theorem tight_take (n : Nat) : Tight (take n) := by
  intro bs
  by_cases h : bs.length < n
  · rw [take, if_pos h]; exact Nat.le_of_eq (Nat.zero_add _)
  · rw [take, if_neg h]; show 0 + (bs.drop n).length ≤ bs.length
    rw [List.length_drop]; omega

theorem tight_bind {d : Dec α} {f : α → Dec β} (h1 : Tight d) (h2 : ∀ a, Tight (f a)) :
    Tight (d >>= f) := by
  intro bs
  rw [bind_def]
  have a1 := h1 bs
  cases hv : (d bs).val with
  | error e => exact a1
  | ok a =>
    have a2 := h2 a (d bs).rest
    dsimp only
    omega

theorem tight_uN (k : Nat) : Tight (uN k) := tight_bind (tight_take k) fun _ => tight_pure _

theorem tight_takeOwned (n : Nat) : Tight (takeOwned n) := by
  intro bs
  rw [takeOwned, bind_def, reserve, Nat.mul_one, Nat.max_self, Nat.mul_one]
  by_cases h : n ≤ bs.length
  · rw [if_pos h, take, if_neg (Nat.not_lt_of_le h)]
    show n + 0 + (bs.drop n).length ≤ bs.length
    rw [List.length_drop]; omega
  · rw [if_neg h]; exact Nat.le_of_eq (Nat.zero_add _)

theorem tight_str : Tight str :=
  tight_bind (tight_uN 4) fun n => tight_bind (tight_takeOwned n) fun b => by
    split
    · exact tight_pure b
    · exact tight_fail _

theorem tight_opt {d : Dec α} (h : Tight d) : Tight (opt d) :=
  tight_bind (tight_uN 1) fun f => by
    split
    · exact tight_bind h fun _ => tight_pure _
    · exact tight_pure _

theorem defaultOnEof_eq (d : Dec α) (dflt : α) (bs : Bytes) :
    defaultOnEof d dflt bs = ⟨(d bs).alloc, (d bs).rest, match (d bs).val with
      | .error .eof => .ok dflt
      | v => v⟩ := by
  unfold defaultOnEof
  generalize d bs = o
  obtain ⟨_, _, v⟩ := o
  cases v with
  | ok a => rfl
  | error e => cases e <;> rfl

theorem tight_defaultOnEof {d : Dec α} (dflt : α) (h : Tight d) : Tight (defaultOnEof d dflt) :=
  fun bs => by rw [defaultOnEof_eq]; exact h bs

theorem reads_defaultOnEof {d : Dec α} {x : Bytes} {a : α} (h : Reads d x a) (dflt : α) :
    Reads (defaultOnEof d dflt) x a := fun rest => by
  have := h rest
  rw [Dec.run, Prod.mk.injEq] at this
  rw [Dec.run, defaultOnEof_eq, this.1, this.2]

theorem run_defaultOnEof_eof (d : Dec α) (dflt : α) (bs r : Bytes)
    (h : Dec.run d bs = (.error .eof, r)) : Dec.run (defaultOnEof d dflt) bs = (.ok dflt, r) := by
  rw [Dec.run, Prod.mk.injEq] at h
  rw [Dec.run, defaultOnEof_eq, h.1, h.2]

theorem good_opt {D m : Nat} {d : Dec α} (h : Good D m d) : Good (max 1 D) 1 (opt d) :=
  good_bind good_u8 (hD1 := Nat.zero_le _) (hD := Nat.le_max_left ..) fun f => by
    split
    · exact good_map h some (Nat.zero_le m) (Nat.le_max_right ..)
    · exact good_pure none

theorem good_takeOwned (n : Nat) : Good 1 0 (takeOwned n) := tight_good (tight_takeOwned n)

theorem good_str : Good 1 4 str :=
  good_bind good_u32 fun n => good_bind (good_takeOwned n) fun b => by
    split
    · exact good_pure b
    · exact good_fail _

theorem good_bytes : Good 1 4 bytes := good_bind good_u32 fun n => (good_takeOwned n).weaken

/-! For every decoder, `Good D m d` with `m` = what `minimum_bytes_needed()` promises for the type (or more) and `D` = one
more than the nesting depth of guarded collections below it (0 for the primitives, which book
nothing). -/

theorem good_range : Good 1 16 range := good_bind good_u64 fun _ => good_map good_u64 _

theorem good_actor : Good 0 16 actor := good_take 16

theorem good_optTs : Good 1 1 optTs := good_opt good_u64

theorem good_rangeVec : Good 2 8 rangeVec :=
  good_bind good_u64 fun _ => (good_vec good_range (by decide) (by decide)).weaken

theorem good_tag0 : Good 1 4 tag0 :=
  good_bind good_u32 fun t => by
    split
    · exact good_pure ()
    · exact good_fail _

theorem good_sqliteValue : Good 1 1 sqliteValue :=
  good_bind good_u8 fun t => by
    split
    · exact good_pure _
    · exact good_map good_i64 _
    · exact good_map good_u64 _
    · exact good_map good_str _
    · exact good_map good_bytes _
    · exact good_fail _

/-- `Change` consumes at least 61 bytes beyond what it books (≥ the 37 the derive promises) -/
theorem good_change : Good 1 61 change :=
  good_bind good_str fun _ => good_bind good_bytes fun _ => good_bind good_str fun _ =>
  good_bind good_sqliteValue fun _ => good_bind good_i64 fun _ => good_bind good_u64 fun _ =>
  good_bind good_u64 fun _ => good_bind (good_take 16) fun _ => good_map good_i64 _

theorem good_changeset : Good 2 2 changeset :=
  good_bind good_u8 fun t => by
    split
    · exact good_bind good_range fun _ => good_map good_optTs _
    · exact good_bind good_u64 fun _ => good_bind good_u32 fun _ =>
        good_bind (good_vec good_change (by decide) (by decide)) fun _ => good_bind good_range fun _ =>
        good_bind good_u64 fun _ => good_map good_u64 _
    · exact good_bind good_rangeVec fun _ => good_map good_u64 _
    · exact good_fail _

/-- 18: the actor's 16 and the 2 of `changeset` -/
theorem good_changeV1 : Good 2 18 changeV1 := good_bind good_actor fun _ => good_map good_changeset _

/-- `SyncNeedV1` consumes at least the 2 bytes its `minimum_bytes_needed()` promises -/
theorem good_syncNeed : Good 2 2 syncNeed :=
  good_bind good_u8 fun t => by
    split
    · exact good_map good_range _
    · exact good_bind good_u64 fun _ => good_map good_rangeVec _
    · exact good_map good_optTs _
    · exact good_fail _

theorem good_headEntry : Good 1 24 headEntry := good_bind good_actor fun _ => good_map good_u64 _

theorem good_needEntry : Good 2 24 needEntry := good_bind good_actor fun _ => good_map good_rangeVec _

theorem good_versionEntry : Good 2 16 versionEntry :=
  good_bind good_u64 fun _ => good_map good_rangeVec _

theorem good_partialEntry : Good 3 24 partialEntry :=
  good_bind good_actor fun _ => good_bind good_u64 fun _ =>
  good_map (good_vec good_versionEntry (by decide) (by decide)) _

/-- 37 = 16 + 4 + 0 + 8 + 0 + 8 + 0 + 1, field by field: a vector counts 0, since what it consumes it
has booked -/
theorem good_syncState : Good 4 37 syncState :=
  good_bind good_actor fun _ => good_bind good_u32 fun nh =>
  good_bind ((good_many good_headEntry nh).weaken (Nat.zero_le _) (Nat.le_refl _)) fun _ =>
  good_bind good_u64 fun _ =>
  good_bind (good_vec good_needEntry (by decide) (by decide)) fun _ => good_bind good_u64 fun _ =>
  good_bind (good_vec good_partialEntry (by decide) (by decide)) fun _ => good_map good_optTs _

theorem tight_traceCtx : Tight traceCtx :=
  tight_bind (tight_opt tight_str) fun _ => tight_bind (tight_opt tight_str) fun _ => tight_pure _

theorem good_clusterId : Good 1 0 (defaultOnEof u16 0) :=
  tight_good (tight_defaultOnEof 0 (tight_uN 2))

/-- 30: three tags of 4, the 18 of `changeV1`, nothing for the `default_on_eof` field -/
theorem good_uniPayload : Good 2 30 uniPayload :=
  good_bind good_tag0 fun _ => good_bind good_tag0 fun _ => good_bind good_tag0 fun _ =>
  good_bind good_changeV1 fun _ => good_map good_clusterId _

theorem good_biPayload : Good 2 24 biPayload :=
  good_bind good_tag0 fun _ => good_bind good_tag0 fun _ => good_bind good_actor fun _ =>
  good_bind (tight_good (tight_defaultOnEof _ tight_traceCtx)) fun _ => good_map good_clusterId _

/-- a request entry, provided `SyncNeedV1` declares a minimum of at most the 2 bytes every need
really takes -/
theorem good_requestEntry (needMin : Nat) (h : needMin ≤ 2) (h1 : 1 ≤ needMin) :
    Good 3 20 (requestEntry needMin) :=
  good_bind good_actor fun _ => good_bind good_u32 fun _ => good_map (good_vec good_syncNeed h h1) _

theorem good_syncMsgP (needMin : Nat) (h : needMin ≤ 2) (h1 : 1 ≤ needMin) :
    Good 4 8 (syncMsgP needMin) :=
  good_bind good_tag0 fun _ => good_bind good_u32 fun t => by
    split
    · exact good_map good_syncState _
    · exact good_map good_changeV1 _
    · exact good_map good_u64 _
    · exact good_bind good_u32 fun r => by
        split
        · exact good_pure _
        · exact good_fail _
    · exact good_bind good_u32 fun _ =>
        good_map (good_vec (good_requestEntry needMin h h1) (by decide) (by decide)) _
    · exact good_fail _

theorem good_alloc_le {D m : Nat} {d : Dec α} (hD : 1 ≤ D) (h : Good D m d) (bs : Bytes) :
    (d bs).alloc ≤ D * bs.length := by
  cases hv : (d bs).val with
  | error e => exact h.error hv
  | ok a =>
    have := h.ok hv
    have : bs.length ≤ D * bs.length := Nat.le_mul_of_pos_left _ hD
    omega

/-! A decoder never accepts fewer bytes than it is known to consume (`reads_length_ge`): that is what
lets the encoding of a list pass the guard in front of `vec`. -/

theorem reads_length_ge {d : Dec α} {x : Bytes} {a : α} {D m : Nat} (h : Reads d x a)
    (hg : Good D m d) : m ≤ x.length := by
  have := h []
  rw [List.append_nil, Dec.run, Prod.mk.injEq] at this
  have := hg.ok this.1
  omega

theorem reads_vec {d : Dec α} {e : α → Bytes} {as : List α} {D m minsz : Nat} {err : Err}
    (hg : Good D m d) (hm : minsz ≤ m) (h : ∀ a ∈ as, Reads d (e a) a) :
    Reads (vec err minsz d as.length) (encMany e as) as := fun rest => by
  have hl := reads_length_ge (reads_many h) (good_many hg as.length)
  have : as.length * minsz ≤ (encMany e as ++ rest).length := by
    rw [List.length_append]
    exact Nat.le_trans (Nat.le_trans (Nat.mul_le_mul_left _ hm) hl) (Nat.le_add_right ..)
  rw [vec, run_bind, Dec.run, reserve, if_pos this]
  exact reads_many h rest

theorem reads_tag0 : Reads tag0 (encU32 0) () :=
  reads_bind_nil (reads_u32 (by decide)) (reads_pure ())

theorem reads_range {r : Range} (h : WFRange r) : Reads range (encRange r) r :=
  reads_bind (reads_u64 h.1) (reads_map (reads_u64 h.2) _)

theorem reads_actor {a : Bytes} (h : WFActor a) : Reads actor a a := reads_take h

theorem reads_optTs {o : Option Nat} (h : WFOptTs o) : Reads optTs (encOpt encU64 o) o :=
  reads_opt fun a ha => reads_u64 (by subst ha; exact h)

theorem reads_sqliteValue {v : Val} (h : WFWireVal v) : Reads sqliteValue (encSqliteValue v) v := by
  cases v with
  | null => exact reads_tag 0 (reads_pure _)
  | int i => exact reads_tag 1 (reads_map (reads_i64 h) _)
  | real b => exact reads_tag 2 (reads_map (reads_u64 h) _)
  | text s => exact reads_tag 3 (reads_map (reads_str h) _)
  | blob b => exact reads_tag 4 (reads_map (reads_bytes h) _)

theorem reads_change {c : Change} (h : WFChange c) : Reads change (encChange c) c := by
  obtain ⟨h1, h2, h3, h4, h5, h6, h7, h8, h9⟩ := h
  simp only [encChange, List.append_assoc]
  exact reads_bind (reads_str h1) <| reads_bind (reads_bytes h2) <| reads_bind (reads_str h3) <|
    reads_bind (reads_sqliteValue h4) <| reads_bind (reads_i64 h5) <| reads_bind (reads_u64 h6) <|
    reads_bind (reads_u64 h7) <| reads_bind (reads_take h8) <| reads_map (reads_i64 h9) _

theorem reads_rangeVec {rs : List Range} (h : WFRanges rs) :
    Reads rangeVec (encRangeVec rs) rs :=
  reads_bind (reads_u64 h.1) <|
    reads_vec good_range (Nat.le_refl 16) fun r hr => reads_range (h.2 r hr)

theorem reads_changeset {c : Changeset} (h : WFChangeset c) :
    Reads changeset (encChangeset c) c := by
  cases c with
  | empty vs ts => exact reads_tag 0 <| reads_bind (reads_range h.1) <| reads_map (reads_optTs h.2) _
  | full version changes seqs lastSeq ts =>
    obtain ⟨h1, h2, h3, h4, h5, h6⟩ := h
    simp only [encChangeset, List.append_assoc]
    exact reads_tag 1 <| reads_bind (reads_u64 h1) <| reads_bind (reads_u32 h2) <|
      reads_bind (reads_vec good_change (by decide) fun c hc => reads_change (h3 c hc)) <|
      reads_bind (reads_range h4) <| reads_bind (reads_u64 h5) <| reads_map (reads_u64 h6) _
  | emptySet vs ts =>
    exact reads_tag 2 <| reads_bind (reads_rangeVec h.1) <| reads_map (reads_u64 h.2) _

theorem reads_changeV1 {c : ChangeV1} (h : WFChangeV1 c) : Reads changeV1 (encChangeV1 c) c :=
  reads_bind (reads_actor h.1) <| reads_map (reads_changeset h.2) _

theorem reads_syncNeed {n : SyncNeed} (h : WFSyncNeed n) : Reads syncNeed (encSyncNeed n) n := by
  cases n with
  | full vs => exact reads_tag 0 <| reads_map (reads_range h) _
  | part version seqs =>
    simp only [encSyncNeed, List.append_assoc]
    exact reads_tag 1 <| reads_bind (reads_u64 h.1) <| reads_map (reads_rangeVec h.2) _
  | empty ts => exact reads_tag 2 <| reads_map (reads_optTs h) _

theorem reads_headEntry {e : Bytes × Nat} (h : WFActor e.1 ∧ U64 e.2) :
    Reads headEntry (encHeadEntry e) e :=
  reads_bind (reads_actor h.1) <| reads_map (reads_u64 h.2) _

theorem reads_needEntry {e : Bytes × List Range} (h : WFActor e.1 ∧ WFRanges e.2) :
    Reads needEntry (encNeedEntry e) e :=
  reads_bind (reads_actor h.1) <| reads_map (reads_rangeVec h.2) _

theorem reads_versionEntry {e : Nat × List Range} (h : U64 e.1 ∧ WFRanges e.2) :
    Reads versionEntry (encVersionEntry e) e :=
  reads_bind (reads_u64 h.1) <| reads_map (reads_rangeVec h.2) _

theorem reads_partialEntry {e : Bytes × List (Nat × List Range)}
    (h : WFActor e.1 ∧ e.2.length < 18446744073709551616 ∧ ∀ v ∈ e.2, U64 v.1 ∧ WFRanges v.2) :
    Reads partialEntry (encPartialEntry e) e := by
  simp only [encPartialEntry, List.append_assoc]
  exact reads_bind (reads_actor h.1) <| reads_bind (reads_u64 h.2.1) <| reads_map
    (reads_vec good_versionEntry (Nat.le_refl 16) fun v hv => reads_versionEntry (h.2.2 v hv)) _

theorem reads_syncState {s : SyncState} (h : WFSyncState s) :
    Reads syncState (encSyncState s) s := by
  obtain ⟨h1, ⟨h2a, h2b⟩, ⟨h3a, h3b⟩, ⟨h4a, h4b⟩, h5⟩ := h
  simp only [encSyncState, List.append_assoc]
  exact reads_bind (reads_actor h1) <| reads_bind (reads_u32 h2a) <|
    reads_bind (reads_many fun e he => reads_headEntry (h2b e he)) <| reads_bind (reads_u64 h3a) <|
    reads_bind (reads_vec good_needEntry (Nat.le_refl 24) fun e he => reads_needEntry (h3b e he)) <|
    reads_bind (reads_u64 h4a) <|
    reads_bind (reads_vec good_partialEntry (Nat.le_refl 24) fun e he =>
      reads_partialEntry (h4b e he)) <|
    reads_map (reads_optTs h5) _

theorem reads_uniPayload {u : UniPayload} (h : WFUniPayload u) :
    Reads uniPayload (encUniPayload u) u := by
  simp only [encUniPayload, encUniData, List.append_assoc]
  exact reads_bind reads_tag0 <| reads_bind reads_tag0 <| reads_bind reads_tag0 <|
    reads_bind (reads_changeV1 h.1) <| reads_map (reads_defaultOnEof (reads_u16 h.2) 0) _

theorem reads_optText {o : Option Bytes} (h : WFOptText o) : Reads (opt str) (encOpt encStr o) o :=
  reads_opt fun a ha => reads_str (by subst ha; exact h)

theorem reads_traceCtx {t : TraceCtx} (h : WFTraceCtx t) : Reads traceCtx (encTraceCtx t) t :=
  reads_bind (reads_optText h.1) <| reads_map (reads_optText h.2) _

theorem reads_biPayload {b : BiPayload} (h : WFBiPayload b) :
    Reads biPayload (encBiPayload b) b := by
  simp only [encBiPayload, List.append_assoc]
  exact reads_bind reads_tag0 <| reads_bind reads_tag0 <| reads_bind (reads_actor h.1) <|
    reads_bind (reads_defaultOnEof (reads_traceCtx h.2.1) _) <|
    reads_map (reads_defaultOnEof (reads_u16 h.2.2) 0) _

theorem reads_requestEntry {e : Bytes × List SyncNeed}
    (h : WFActor e.1 ∧ e.2.length < 4294967296 ∧ ∀ n ∈ e.2, WFSyncNeed n) :
    Reads (requestEntry syncNeedMinBytes) (encRequestEntry e) e := by
  simp only [encRequestEntry, List.append_assoc]
  exact reads_bind (reads_actor h.1) <| reads_bind (reads_u32 h.2.1) <| reads_map
    (reads_vec good_syncNeed (Nat.le_refl 2) fun n hn => reads_syncNeed (h.2.2 n hn)) _

theorem reads_syncMsg {m : SyncMsg} (h : WFSyncMsg m) : Reads syncMsg (encSyncMsg m) m := by
  cases m <;> simp only [encSyncMsg, List.append_assoc]
  case state s =>
    exact reads_bind reads_tag0 <| reads_bind (reads_u32 (by decide)) <| reads_map (reads_syncState h) _
  case changeset c =>
    exact reads_bind reads_tag0 <| reads_bind (reads_u32 (by decide)) <| reads_map (reads_changeV1 h) _
  case clock ts =>
    exact reads_bind reads_tag0 <| reads_bind (reads_u32 (by decide)) <| reads_map (reads_u64 h) _
  case rejection r =>
    have h : r < 2 := h
    exact reads_bind reads_tag0 <| reads_bind (reads_u32 (by decide)) <|
      reads_bind_nil (reads_u32 (Nat.lt_trans h (by decide))) (by rw [if_pos h]; exact reads_pure _)
  case request es =>
    exact reads_bind reads_tag0 <| reads_bind (reads_u32 (by decide)) <| reads_bind (reads_u32 h.1) <|
      reads_map (reads_vec (good_requestEntry _ (Nat.le_refl 2) (by decide)) (Nat.le_refl 20)
        fun e he => reads_requestEntry (h.2 e he)) _

def Yields (d : Dec α) (P : α → Prop) : Prop := ∀ bs a r, Dec.run d bs = (.ok a, r) → P a

theorem run_bind_ok {d : Dec α} {f : α → Dec β} {bs r : Bytes} {b : β}
    (h : Dec.run (d >>= f) bs = (.ok b, r)) :
    ∃ a r', Dec.run d bs = (.ok a, r') ∧ Dec.run (f a) r' = (.ok b, r) := by
  rw [run_bind] at h
  cases hd : Dec.run d bs with
  | mk v r' =>
    rw [hd] at h
    cases v with
    | error e => cases h
    | ok a => exact ⟨a, r', rfl, h⟩

theorem yields_bind {d : Dec α} {f : α → Dec β} {P : α → Prop} {Q : β → Prop}
    (hd : Yields d P) (hf : ∀ a, P a → Yields (f a) Q) : Yields (d >>= f) Q := fun _ _ _ h => by
  obtain ⟨a, _, h1, h2⟩ := run_bind_ok h
  exact hf a (hd _ _ _ h1) _ _ _ h2

theorem yields_skip {d : Dec α} {f : α → Dec β} {Q : β → Prop} (hf : ∀ a, Yields (f a) Q) :
    Yields (d >>= f) Q :=
  yields_bind (P := fun _ => True) (fun _ _ _ _ => trivial) fun a _ => hf a

theorem yields_pure {P : α → Prop} {a : α} (h : P a) : Yields (pure a) P := fun _ _ _ hb => by
  cases hb; exact h

theorem yields_fail {P : α → Prop} {e : Err} : Yields (fail e : Dec α) P := fun _ _ _ h => by
  cases h

theorem str_valid : Yields str (validUtf8 · = true) :=
  yields_skip fun _ => yields_skip fun b => by
    split
    · exact yields_pure ‹_›
    · exact yields_fail

theorem sqliteValue_valid : Yields sqliteValue ValTextValid :=
  yields_skip fun t => by
    split
    · exact yields_pure trivial
    · exact yields_skip fun _ => yields_pure trivial
    · exact yields_skip fun _ => yields_pure trivial
    · exact yields_bind str_valid fun _ hs => yields_pure hs
    · exact yields_skip fun _ => yields_pure trivial
    · exact yields_fail

theorem change_valid : Yields change ChangeTextValid :=
  yields_bind str_valid fun _ h1 => yields_skip fun _ => yields_bind str_valid fun _ h3 =>
  yields_bind sqliteValue_valid fun _ h4 => yields_skip fun _ => yields_skip fun _ =>
  yields_skip fun _ => yields_skip fun _ => yields_skip fun _ => yields_pure ⟨h1, h3, h4⟩

theorem yields_many {d : Dec α} {P : α → Prop} (h : Yields d P) (n : Nat) :
    Yields (many d n) (∀ a ∈ ·, P a) := by
  induction n with
  | zero => exact yields_pure fun _ ha => nomatch ha
  | succ n ih =>
    exact yields_bind h fun a ha => yields_bind ih fun as has =>
      yields_pure (List.forall_mem_cons.2 ⟨ha, has⟩)

theorem changeset_valid : Yields changeset ChangesetTextValid :=
  yields_skip fun t => by
    split
    · exact yields_skip fun _ => yields_skip fun _ => yields_pure trivial
    · exact yields_skip fun _ => yields_skip fun n =>
        yields_bind (yields_skip fun _ => yields_many change_valid n) fun _ hc =>
        yields_skip fun _ => yields_skip fun _ => yields_skip fun _ => yields_pure hc
    · exact yields_skip fun _ => yields_skip fun _ => yields_pure trivial
    · exact yields_fail

theorem changeV1_valid : Yields changeV1 (ChangesetTextValid ·.changeset) :=
  yields_skip fun _ => yields_bind changeset_valid fun _ hc => yields_pure hc

theorem optStr_valid : Yields (opt str) OptTextValid :=
  yields_skip fun f => by
    split
    · exact yields_bind str_valid fun _ hs => yields_pure hs
    · exact yields_pure trivial

end Corro.Codec
