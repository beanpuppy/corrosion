/-
`generate_sync` (`Node.syncState`) as a function of the per-actor bookkeeping lookups: two nodes with
sorted actor maps whose bookkeeping agrees actor by actor (head, needed, incomplete partials)
advertise the same sync state.
-/
import Corro.Lemmas.NodeBook
namespace Corro.Node

section Assoc
variable {β γ : Type}

/-- the shape of every list in `syncState` ("normal form"): keep the entries on which `g` is
defined, with the value `g` gives -/
def nf (g : β → Option γ) (l : List (Nat × β)) : List (Nat × γ) :=
  l.filterMap (fun e => (g e.2).map (fun y => (e.1, y)))

theorem nf_cons (g : β → Option γ) (e : Nat × β) (l : List (Nat × β)) :
    nf g (e :: l) = match g e.2 with | some y => (e.1, y) :: nf g l | none => nf g l := by
  unfold nf
  cases h : g e.2 <;> simp [h]

theorem nf_key_mem {g : β → Option γ} {l : List (Nat × β)} {x : Nat × γ} (h : x ∈ nf g l) :
    ∃ e ∈ l, e.1 = x.1 := by
  unfold nf at h
  obtain ⟨e, he, h1⟩ := List.mem_filterMap.mp h
  cases hg : g e.2 with
  | none => rw [hg] at h1; cases h1
  | some y => rw [hg] at h1; simp only [Option.map_some, Option.some.injEq] at h1; exact ⟨e, he, by rw [← h1]⟩

theorem nf_sorted (g : β → Option γ) {l : List (Nat × β)} (h : l.Pairwise (fun x y => x.1 < y.1)) :
    (nf g l).Pairwise (fun x y => x.1 < y.1) := by
  induction l with
  | nil => exact List.Pairwise.nil
  | cons e l ih =>
    have h' := List.pairwise_cons.mp h
    rw [nf_cons]
    cases hg : g e.2 with
    | none => exact ih h'.2
    | some y =>
      refine List.pairwise_cons.mpr ⟨?_, ih h'.2⟩
      intro x hx
      obtain ⟨e', he', hk⟩ := nf_key_mem hx
      have := h'.1 e' he'
      simp only; omega

theorem nf_alook (g : β → Option γ) {l : List (Nat × β)} (h : l.Pairwise (fun x y => x.1 < y.1)) (k : Nat) :
    alook (nf g l) k = (alook l k).bind g := by
  induction l with
  | nil => rfl
  | cons e l ih =>
    have h' := List.pairwise_cons.mp h
    rw [nf_cons, alook_cons]
    by_cases hk : e.1 = k
    · subst hk
      rw [if_pos rfl]
      cases hg : g e.2 with
      | none =>
        simp only [Option.bind_some, hg]
        rw [ih h'.2, alook_none_of_lt h'.1]; rfl
      | some y => simp [alook_cons, hg]
    · rw [if_neg hk]
      cases hg : g e.2 with
      | none => exact ih h'.2
      | some y => simp only; rw [alook_cons, if_neg hk]; exact ih h'.2

theorem assoc_ext {l₁ l₂ : List (Nat × γ)} (h1 : l₁.Pairwise (fun x y => x.1 < y.1))
    (h2 : l₂.Pairwise (fun x y => x.1 < y.1)) (h : ∀ k, alook l₁ k = alook l₂ k) : l₁ = l₂ := by
  induction l₁ generalizing l₂ with
  | nil =>
    cases l₂ with
    | nil => rfl
    | cons b t => have := h b.1; rw [alook_cons, if_pos rfl] at this; cases this
  | cons a s ih =>
    cases l₂ with
    | nil => have := h a.1; rw [alook_cons, if_pos rfl] at this; cases this
    | cons b t =>
      have h1' := List.pairwise_cons.mp h1
      have h2' := List.pairwise_cons.mp h2
      -- each head is found in the other list; were it in the tail, the heads would be out of order
      have ha : a ∈ b :: t := alook_some_mem ((h a.1).symm.trans (by rw [alook_cons, if_pos rfl]))
      have hb : b ∈ a :: s := alook_some_mem ((h b.1).trans (by rw [alook_cons, if_pos rfl]))
      have hab : a = b := by
        rcases List.mem_cons.mp ha with hab | ha'
        · exact hab
        · rcases List.mem_cons.mp hb with hba | hb'
          · exact hba.symm
          · exact absurd (h1'.1 b hb') (Nat.lt_asymm (h2'.1 a ha'))
      subst hab
      congr 1
      refine ih h1'.2 h2'.2 (fun k => ?_)
      by_cases hka : a.1 = k
      · subst hka
        rw [alook_none_of_lt h1'.1, alook_none_of_lt h2'.1]
      · have := h k
        rw [alook_cons, alook_cons, if_neg hka, if_neg hka] at this
        exact this

theorem nf_congr (g : β → Option γ) {l₁ l₂ : List (Nat × β)} (h1 : l₁.Pairwise (fun x y => x.1 < y.1))
    (h2 : l₂.Pairwise (fun x y => x.1 < y.1)) (h : ∀ k, (alook l₁ k).bind g = (alook l₂ k).bind g) :
    nf g l₁ = nf g l₂ :=
  assoc_ext (nf_sorted g h1) (nf_sorted g h2) (fun k => by rw [nf_alook g h1, nf_alook g h2]; exact h k)

end Assoc

/-! What `syncState` advertises of an entry, as a `g` for `nf`: the gaps of an incomplete partial
(`gP`), and of an actor with a non-zero head its head (`gH`), its needed set if non-empty (`gN`),
its incomplete partials if any (`gPN`). -/

def gP (p : Partial) : Option RSet := if p.complete then none else some (RSet.gaps p.seqs (0, p.last))

def gH (b : Booked) : Option Nat := if b.max ≠ 0 then some b.max else none

def gN (b : Booked) : Option RSet :=
  if b.max ≠ 0 then (if b.needed.isEmpty then none else some b.needed) else none

def gPN (b : Booked) : Option (List (Nat × RSet)) :=
  if b.max ≠ 0 then (if (nf gP b.partials).isEmpty then none else some (nf gP b.partials)) else none

theorem partials_nf (ps : List (Nat × Partial)) :
    ps.filterMap (fun vp => if vp.2.complete then none else some (vp.1, RSet.gaps vp.2.seqs (0, vp.2.last))) =
      nf gP ps := by
  unfold nf
  congr 1
  funext vp
  unfold gP
  split <;> rfl

theorem filterMap_filter_nf {β γ : Type} (c : β → Prop) [DecidablePred c] (f : β → Option γ)
    (h : Nat × β → Option (Nat × γ)) (hh : ∀ e, h e = (f e.2).map (fun y => (e.1, y)))
    (l : List (Nat × β)) :
    (l.filter (fun e => c e.2)).filterMap h = nf (fun b => if c b then f b else none) l := by
  unfold nf
  rw [List.filterMap_filter]
  congr 1
  funext e
  rw [hh]
  by_cases hc : c e.2 <;> simp [hc]

theorem syncState_nf (n : Node) :
    n.syncState = ⟨n.id, nf gH n.book, nf gN n.book, nf gPN n.book⟩ := by
  unfold Node.syncState
  simp only [partials_nf]
  congr 1
  · rw [← List.filterMap_eq_map]
    exact filterMap_filter_nf (fun b : Booked => b.max ≠ 0) (fun b => some b.max) _ (fun _ => rfl) _
  · exact filterMap_filter_nf (fun b : Booked => b.max ≠ 0)
      (fun b => if b.needed.isEmpty then none else some b.needed) _ (fun _ => by split <;> rfl) _
  · exact filterMap_filter_nf (fun b : Booked => b.max ≠ 0)
      (fun b => if (nf gP b.partials).isEmpty then none else some (nf gP b.partials))
      _ (fun _ => by split <;> rfl) _

/-- the two bookkeepings advertise the same: head, needed, and gaps of the incomplete partials -/
def BookEqv (b b' : Booked) : Prop :=
  b.max = b'.max ∧ b.needed = b'.needed ∧ ∀ v, (b.partial? v).bind gP = (b'.partial? v).bind gP

theorem BookEqv.refl (b : Booked) : BookEqv b b := ⟨rfl, rfl, fun _ => rfl⟩

theorem bind_booked (g : Booked → Option γ) (hg : g {} = none) (n : Node) (a : Nat) :
    (alook n.book a).bind g = g (n.booked a) := by
  rw [booked_eq]
  cases alook n.book a with
  | none => exact hg.symm
  | some b => rfl

theorem syncState_congr {A B : Node} (hid : A.id = B.id)
    (hA : A.book.Pairwise (fun x y => x.1 < y.1)) (hB : B.book.Pairwise (fun x y => x.1 < y.1))
    (hkA : ∀ a, (A.booked a).KeysSorted) (hkB : ∀ a, (B.booked a).KeysSorted)
    (h : ∀ a, BookEqv (A.booked a) (B.booked a)) : A.syncState = B.syncState := by
  rw [syncState_nf, syncState_nf, hid]
  have hps : ∀ a, nf gP (A.booked a).partials = nf gP (B.booked a).partials := by
    intro a
    exact nf_congr gP (hkA a) (hkB a) (fun v => (h a).2.2 v)
  congr 1
  · apply nf_congr gH hA hB
    intro a
    rw [bind_booked gH rfl, bind_booked gH rfl]
    unfold gH; rw [(h a).1]
  · apply nf_congr gN hA hB
    intro a
    rw [bind_booked gN rfl, bind_booked gN rfl]
    unfold gN; rw [(h a).1, (h a).2.1]
  · apply nf_congr gPN hA hB
    intro a
    rw [bind_booked gPN rfl, bind_booked gPN rfl]
    unfold gPN; rw [(h a).1, hps a]

end Corro.Node
