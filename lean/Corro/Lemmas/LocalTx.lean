/-
For C07: the case analysis of `LocalTx.submit` (`Outcome`), and what `announce` (the model of
`broadcast_changes`) produces for a strictly increasing change list.  `Good n` is the invariant of
a node written through `submit` (and by remote changes of other actors): the store belongs to the
node's id and holds nothing attributed to a version not yet produced (`DbOk`), the own bookkeeping
has no gap and its head is the store's version — so the next acknowledged version is `max + 1`.
-/
import Corro.Model.LocalTx
import Corro.Props.C08
import Corro.Lemmas.LocalTxSeq

namespace Corro.Node

/-- `insert_db([max+1 ..= max+1])` on a gap-free own bookkeeping: still gap-free, head advanced by one
(`needed' = (needed ∪ [max+1, max+1]) \ {max+1}`) -/
theorem insertDb_succ (b : Booked) (hn : b.needed = []) :
    (b.insertDb [(b.max + 1, b.max + 1)]).needed = [] ∧
    (b.insertDb [(b.max + 1, b.max + 1)]).max = b.max + 1 := by
  unfold Booked.insertDb
  simp only [List.isEmpty_cons, Bool.false_eq_true, if_false, sup, List.foldl_cons, List.foldl_nil, hn]
  have h1 : Nat.max 0 (b.max + 1) = b.max + 1 := Nat.max_eq_right (Nat.zero_le _)
  have h2 : Nat.max b.max (b.max + 1) = b.max + 1 := Nat.max_eq_right (Nat.le_succ _)
  simp only [h1, h2, Nat.le_refl, if_true, RSet.insert, RSet.removeAll, List.foldl_cons,
    List.foldl_nil, RSet.remove]
  simp

end Corro.Node

namespace Corro.LocalTx
open Corro.Crdt Corro.Node
open Corro.Chunker (Incr Tiles Inside chunks Chunk chunks_contiguous chunks_partition_changes chunks_inside)

/-- the request fails: no statement at all, an injected failing statement, or a statement the cell
store rejects in front of it (version `dbv + 1` is the one the transaction would produce) -/
def Failing (n : LNode) (req : Request) : Prop :=
  req = [] ∨ (split req).2.isSome = true ∨
    ∃ e, applyStmts n.node.db (n.node.db.dbv + 1) 0 (split req).1 = .error e

/-- the node after an acknowledged transaction: new store, own db-version row, own bookkeeping
`insert_db([ver ..= ver])` -/
def ackNode (nd : Node) (d : Db) (ver : Nat) : Node :=
  (({ nd with db := d } : Node).bumpDbv nd.id ver).setBooked nd.id
    ((({ nd with db := d } : Node).booked nd.id).insertDb [(ver, ver)])

inductive Outcome (cfg : Cfg) (n : LNode) (req : Request) : Prop where
  | failed (hf : Failing n req) (e : ErrKind) (h : submit cfg n req = (n, .err e))
  | noop (hf : ¬ Failing n req) (d : Db) (ht : localTx n.node.db (split req).1 = .ok (d, none))
      (h : submit cfg n req = (n, .noop))
  | acked (hf : ¬ Failing n req) (d : Db) (ver : Nat) (chs : List Chg)
      (ht : localTx n.node.db (split req).1 = .ok (d, some (ver, chs)))
      (h : submit cfg n req =
        ({ node := ackNode n.node d ver, outbox := n.outbox ++ [(ver, announce cfg ver chs)] },
          .ack ver chs (announce cfg ver chs)))

theorem submit_outcome (cfg : Cfg) (n : LNode) (req : Request) : Outcome cfg n req := by
  by_cases hemp : req = []
  · subst hemp
    exact .failed (Or.inl rfl) .empty (by simp [submit])
  have hne : req.isEmpty = false := by cases req <;> simp_all
  cases hk : (split req).2 with
  | some k =>
    cases ha : applyStmts n.node.db (n.node.db.dbv + 1) 0 (split req).1 with
    | error e =>
      exact .failed (Or.inr (Or.inl (by simp [hk]))) (ofWErr e) (by simp [submit, hne, hk, ha])
    | ok r =>
      exact .failed (Or.inr (Or.inl (by simp [hk]))) (.injected k) (by simp [submit, hne, hk, ha])
  | none =>
    cases ht : localTx n.node.db (split req).1 with
    | error e =>
      have ha := localTx_error.mp ht
      exact .failed (Or.inr (Or.inr ⟨e, ha⟩)) (ofWErr e)
        (by simp [submit, hne, hk, Node.localWrite, ht])
    | ok r =>
      obtain ⟨d, o⟩ := r
      have hnf : ¬ Failing n req := by
        rintro (h | h | ⟨e, he⟩)
        · exact hemp h
        · simp [hk] at h
        · have := localTx_error.mpr he; rw [ht] at this; cases this
      cases o with
      | none => exact .noop hnf d ht (by simp [submit, hne, hk, Node.localWrite, ht])
      | some vc =>
        obtain ⟨ver, chs⟩ := vc
        exact .acked hnf d ver chs ht (by simp [submit, hne, hk, Node.localWrite, ht, ackNode])

theorem ackNode_db (nd : Node) (d : Db) (ver : Nat) : (ackNode nd d ver).db = d := by
  simp [ackNode]
theorem ackNode_id (nd : Node) (d : Db) (ver : Nat) : (ackNode nd d ver).id = nd.id := by
  simp [ackNode]
theorem ackNode_own (nd : Node) (d : Db) (ver : Nat) :
    (ackNode nd d ver).booked nd.id = (nd.booked nd.id).insertDb [(ver, ver)] := by
  unfold ackNode
  rw [booked_setBooked_same]
  rfl

theorem submit_version (cfg : Cfg) (n : LNode) (req : Request) :
    ((submit cfg n req).2.version? = none ∧ (submit cfg n req).1 = n) ∨
    ((submit cfg n req).2.version? = some (n.node.db.dbv + 1) ∧
      (submit cfg n req).1.node.db.dbv = n.node.db.dbv + 1) := by
  cases submit_outcome cfg n req with
  | failed _ e h => rw [h]; exact Or.inl ⟨rfl, rfl⟩
  | noop _ d _ h => rw [h]; exact Or.inl ⟨rfl, rfl⟩
  | acked _ d ver chs ht h =>
    rw [h]
    obtain ⟨rfl, hd⟩ := localTx_ver ht
    exact Or.inr ⟨rfl, (congrArg Db.dbv (ackNode_db _ _ _)).trans hd⟩

theorem submit_ack {cfg : Cfg} {n : LNode} {req : Request} {v : Nat} {chs : List Chg}
    {msgs : List Msg} (h : (submit cfg n req).2 = .ack v chs msgs) :
    msgs = announce cfg v chs ∧ ∃ d, localTx n.node.db (split req).1 = .ok (d, some (v, chs)) ∧
      (submit cfg n req).1 = { node := ackNode n.node d v, outbox := n.outbox ++ [(v, msgs)] } := by
  cases submit_outcome cfg n req with
  | failed _ _ h' => rw [h'] at h; cases h
  | noop _ _ _ h' => rw [h'] at h; cases h
  | acked _ d _ _ ht h' =>
    rw [h'] at h ⊢
    cases h
    exact ⟨rfl, d, ht, rfl⟩

theorem runE_req (cfg : Cfg) (n : LNode) (reqs : List Request) :
    runE cfg n (reqs.map .req) = run cfg n reqs := by
  induction reqs generalizing n with
  | nil => rfl
  | cons r rs ih => simp only [List.map_cons, runE, run, ih]

structure Good (n : LNode) : Prop where
  site : n.node.db.site = n.node.id
  db : DbOk n.node.db
  needed : n.own.needed = []
  max : n.own.max = n.node.db.dbv

theorem good_fresh (i : Nat) : Good (LNode.fresh i) :=
  ⟨rfl, dbOk_empty i, rfl, rfl⟩

theorem good_ack {n : LNode} (hg : Good n) {stmts : List Stmt} {d : Db} {ver : Nat} {chs : List Chg}
    (ht : localTx n.node.db stmts = .ok (d, some (ver, chs))) (ob : List (Nat × List Msg)) :
    Good { node := ackNode n.node d ver, outbox := ob } := by
  have hs := localTx_some hg.db ht
  obtain ⟨hv, hdv, hsite, hok, _⟩ := hs
  have hown : (ackNode n.node d ver).booked n.node.id = (n.own).insertDb [(n.own.max + 1, n.own.max + 1)] := by
    rw [ackNode_own, hv, ← hg.max]; rfl
  have hi := insertDb_succ n.own hg.needed
  refine ⟨?_, ?_, ?_, ?_⟩
  · simp only [ackNode_db, ackNode_id]; rw [hsite]; exact hg.site
  · simp only [ackNode_db]; exact hok
  · show ((ackNode n.node d ver).booked (ackNode n.node d ver).id).needed = []
    rw [ackNode_id, hown]; exact hi.1
  · show ((ackNode n.node d ver).booked (ackNode n.node d ver).id).max = (ackNode n.node d ver).db.dbv
    rw [ackNode_id, hown, hi.2, ackNode_db, hdv, hv, hg.max]

theorem good_submit (cfg : Cfg) {n : LNode} (hg : Good n) (req : Request) :
    Good (submit cfg n req).1 := by
  cases submit_outcome cfg n req with
  | failed _ e h => rw [h]; exact hg
  | noop _ d _ h => rw [h]; exact hg
  | acked _ d ver chs ht h => rw [h]; exact good_ack hg ht _

theorem good_run (cfg : Cfg) {n : LNode} (hg : Good n) (reqs : List Request) :
    Good (run cfg n reqs).1 := by
  induction reqs generalizing n with
  | nil => exact hg
  | cons r rs ih => exact ih (good_submit cfg hg r)

theorem mem_run {cfg : Cfg} {n : LNode} (hg : Good n) {reqs : List Request} {r : Response}
    (hr : r ∈ (run cfg n reqs).2) :
    ∃ m q, Good m ∧ m.node.id = n.node.id ∧ r = (submit cfg m q).2 := by
  induction reqs generalizing n with
  | nil => cases hr
  | cons q qs ih =>
    rcases List.mem_cons.mp hr with rfl | hr
    · exact ⟨n, q, hg, rfl, rfl⟩
    · obtain ⟨m, q', hm, hid, he⟩ := ih (good_submit cfg hg q) hr
      refine ⟨m, q', hm, hid.trans ?_, he⟩
      cases submit_outcome cfg n q with
      | failed _ _ h' => rw [h']
      | noop _ _ _ h' => rw [h']
      | acked _ _ _ _ _ h' => rw [h']; exact ackNode_id _ _ _

theorem incr_of_strict (cfg : Cfg) (last : Nat) :
    ∀ (chs : List Chg) (lb : Nat), chs.Pairwise (fun a b => a.seq < b.seq) →
      (∀ c ∈ chs, lb ≤ c.seq ∧ c.seq ≤ last) → Incr last lb (chs.map (toCk cfg)) := by
  intro chs
  induction chs with
  | nil => intro lb _ _; simp [Incr]
  | cons c cs ih =>
    intro lb hp hb
    rw [List.pairwise_cons] at hp
    simp only [List.map_cons, Incr]
    have hc := hb c List.mem_cons_self
    refine ⟨hc.1, hc.2, ih (c.seq + 1) hp.2 ?_⟩
    intro x hx
    have := hp.1 x hx
    have := hb x (List.mem_cons_of_mem _ hx)
    show c.seq + 1 ≤ x.seq ∧ x.seq ≤ last
    omega

theorem incr_announce (cfg : Cfg) {chs : List Chg} (hp : chs.Pairwise (fun a b => a.seq < b.seq)) :
    Incr (maxSeq chs) 0 (chs.map (toCk cfg)) :=
  incr_of_strict cfg (maxSeq chs) chs 0 hp (fun _ hc => ⟨Nat.zero_le _, le_maxSeq hc⟩)

theorem filterMap_self {α β : Type} (f : β → Option α) (g : α → β) :
    ∀ (l : List α), (∀ x ∈ l, f (g x) = some x) → (l.map g).filterMap f = l := by
  intro l
  induction l with
  | nil => intro _; rfl
  | cons a l ih =>
    intro h
    simp only [List.map_cons]
    rw [List.filterMap_cons_some (h a List.mem_cons_self), ih (fun x hx => h x (List.mem_cons_of_mem _ hx))]

/-- the ranges of the announced messages, as chunks without payload (for `Chunker.Tiles`) -/
def Msg.range (m : Msg) : Chunk := ⟨[], m.lo, m.hi⟩

theorem tiles_range_congr : ∀ (cs : List Chunk) (f : Chunk → Chunk),
    (∀ c, (f c).lo = c.lo ∧ (f c).hi = c.hi) → ∀ s l, Tiles s l cs → Tiles s l (cs.map f) := by
  intro cs f hf
  induction cs with
  | nil => intro s l h; simp [Tiles] at h
  | cons c cs ih =>
    intro s l h
    cases cs with
    | nil =>
      simp only [Tiles, List.map_cons, List.map_nil] at h ⊢
      rw [(hf c).1, (hf c).2]; exact h
    | cons c2 r =>
      simp only [Tiles, List.map_cons] at h ⊢
      rw [(hf c).1, (hf c).2]
      exact ⟨h.1, h.2.1, h.2.2.1, by simpa using ih _ _ h.2.2.2⟩

theorem announce_ranges (cfg : Cfg) (ver : Nat) (chs : List Chg) :
    (announce cfg ver chs).map Msg.range =
      (chunks 0 (maxSeq chs) cfg.lim (chs.map (toCk cfg))).map (fun ck => ⟨[], ck.lo, ck.hi⟩) := by
  simp [announce, Msg.range, List.map_map, Function.comp_def]

theorem announce_tiles (cfg : Cfg) (ver : Nat) {chs : List Chg}
    (hp : chs.Pairwise (fun a b => a.seq < b.seq)) :
    Tiles 0 (maxSeq chs) ((announce cfg ver chs).map Msg.range) := by
  rw [announce_ranges]
  exact tiles_range_congr _ (fun ck => ⟨[], ck.lo, ck.hi⟩) (fun _ => ⟨rfl, rfl⟩) _ _
    (chunks_contiguous 0 (maxSeq chs) cfg.lim _ (Nat.zero_le _) (incr_announce cfg hp))

theorem announce_flatten (cfg : Cfg) (ver : Nat) {chs : List Chg}
    (hp : chs.Pairwise (fun a b => a.seq < b.seq)) :
    ((announce cfg ver chs).map (·.changes)).flatten = chs := by
  have hpart := chunks_partition_changes 0 (maxSeq chs) cfg.lim _ (incr_announce cfg hp)
  have : (announce cfg ver chs).map (·.changes) =
      ((chunks 0 (maxSeq chs) cfg.lim (chs.map (toCk cfg))).map Chunk.changes).map
        (List.filterMap (fun k => chs.find? (fun c => c.seq = k.seq))) := by
    simp [announce, List.map_map, Function.comp_def]
  rw [this, ← List.filterMap_flatten, hpart]
  exact filterMap_self _ _ chs (fun x hx =>
    find_of_mem_pairwise (fun x : Chg => x.seq) (hp.imp fun h => Nat.ne_of_lt h) hx)

theorem mem_announce {cfg : Cfg} {ver : Nat} {chs : List Chg} {m : Msg} (hm : m ∈ announce cfg ver chs) :
    m.ver = ver ∧ m.last = maxSeq chs ∧
    ∃ ck ∈ chunks 0 (maxSeq chs) cfg.lim (chs.map (toCk cfg)), m.lo = ck.lo ∧ m.hi = ck.hi ∧
      m.changes = ck.changes.filterMap (fun k => chs.find? (fun c => c.seq = k.seq)) := by
  unfold announce at hm
  obtain ⟨ck, hck, rfl⟩ := List.mem_map.mp hm
  exact ⟨rfl, rfl, ck, hck, rfl, rfl, rfl⟩

theorem announce_inside (cfg : Cfg) (ver : Nat) {chs : List Chg}
    (hp : chs.Pairwise (fun a b => a.seq < b.seq)) {m : Msg} (hm : m ∈ announce cfg ver chs) :
    ∀ c ∈ m.changes, c ∈ chs ∧ m.lo ≤ c.seq ∧ c.seq ≤ m.hi := by
  obtain ⟨_, _, ck, hck, hlo, hhi, hch⟩ := mem_announce hm
  have hin := chunks_inside 0 (maxSeq chs) cfg.lim _ (Nat.zero_le _) (incr_announce cfg hp) ck hck
  intro c hc
  rw [hch, List.mem_filterMap] at hc
  obtain ⟨k, hk, hf⟩ := hc
  have h1 := List.find?_some hf
  have h2 := List.mem_of_find?_eq_some hf
  simp only [decide_eq_true_eq] at h1
  have := hin k hk
  rw [hlo, hhi, h1]
  exact ⟨h2, this⟩

end Corro.LocalTx
