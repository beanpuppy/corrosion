/-
The ingest model (C10, `Corro/Props/C10.lean`) as a state machine: the vocabulary of the property
statements, the spawn loop, the few moves every event is made of with the induction principle for
runs that rests on them, where a changeset can be (queue, running batches, delivered, failed),
draining.  The `seen` cache is the subject of `IngestSeen.lean`.
-/
import Corro.Model.Ingest
import Corro.Lemmas.Ranges

namespace Corro.Ingest
open Corro Corro.Node

/-- changesets waiting or running, oldest first -/
def pending (s : State) : List Item := s.inflight.flatten ++ s.queue

/-- everything that was accepted and not dropped: running, queued, delivered by a successful batch
and (with `withFailed`) the contents of failed batches -/
def pool (withFailed : Bool) (s : State) : List Item :=
  s.inflight.flatten ++ s.queue ++ s.delivered.flatten ++ (if withFailed then s.failed.flatten else [])

/-- changeset `it` is about `(actor, version)` -/
def Backs (it : Item) (k : Key) : Prop := it.site = k.1 ∧ it.versions.1 ≤ k.2 ∧ k.2 ≤ it.versions.2

/-- changeset `it` carries seq `x` of `(actor, version)` -/
def Covers (it : Item) (k : Key) (x : Nat) : Prop :=
  Backs it k ∧ ∃ r, it.seqs = some r ∧ r.1 ≤ x ∧ x ≤ r.2

/-- forward ranges (the loop skips a `Full` changeset whose seq range is inverted: `accepts`) -/
def ItemWF (it : Item) : Prop := ∀ r, it.seqs = some r → r.1 ≤ r.2

/-- one cache entry is justified by the changesets of `P` -/
def EntrySound (P : List Item) (e : Key × RSet) : Prop :=
  (∃ it ∈ P, Backs it e.1) ∧ ∀ x, RSet.Mem e.2 x → ∃ it ∈ P, Covers it e.1 x

/-- representation invariant of the cache: keys are unique, seq sets canonical -/
def SeenInv (sn : Seen) : Prop := (sn.map (·.1)).Nodup ∧ ∀ e ∈ sn, RSet.WF e.2

def SoundWrt (P : List Item) (sn : Seen) : Prop := ∀ e ∈ sn, EntrySound P e

/-- the invariant behind `seen_sound` (`withFailed = true`) and `NoResidue` (`false`) -/
def Inv (withFailed : Bool) (s : State) : Prop :=
  SeenInv s.seen ∧ SoundWrt (pool withFailed s) s.seen ∧ ∀ it ∈ s.queue, ItemWF it

/-- every part of `it` is carried by some changeset of `D` -/
def CoveredBy (D : List Item) : Item → Prop
  | .full site ver lo hi _ _ => ∀ x, lo ≤ x → x ≤ hi → ∃ i ∈ D, Covers i (site, ver) x
  | .empty site vlo vhi => ∀ v, vlo ≤ v → v ≤ vhi → ∃ i ∈ D, Backs i (site, v)

/-- some part of `it` is carried by no changeset of `P` -/
def Fresh (P : List Item) : Item → Prop
  | .full site ver lo hi _ _ => ∃ x, lo ≤ x ∧ x ≤ hi ∧ ∀ i ∈ P, ¬ Covers i (site, ver) x
  | .empty site vlo vhi => ∃ v, vlo ≤ v ∧ v ≤ vhi ∧ ∀ i ∈ P, ¬ Backs i (site, v)

/-- nothing waiting, nothing running -/
def Idle (s : State) : Prop := s.inflight = [] ∧ s.queue = []

/-- what the top of the loop guarantees: something is running whenever something is queued -/
def Stable (s : State) : Prop := s.inflight = [] → s.queue = []

def measure (s : State) : Nat := s.queue.length + s.inflight.length

theorem takeBatch_append (chunk : Nat) (q : List Item) (acc : Nat) :
    (takeBatch chunk acc q).1 ++ (takeBatch chunk acc q).2.1 = q := by
  induction q generalizing acc with
  | nil => rfl
  | cons it rest ih =>
    unfold takeBatch
    split
    · rfl
    · exact congrArg (it :: ·) (ih _)

theorem costs_cons (it : Item) (q : List Item) : costs (it :: q) = cost it + costs q := by
  simp only [costs, List.map_cons, List.sum_cons]

theorem costs_append (a b : List Item) : costs (a ++ b) = costs a + costs b := by
  simp only [costs, List.map_append, List.sum_append]

theorem costs_concat (q : List Item) (it : Item) : costs (q ++ [it]) = costs q + cost it := by
  rw [costs_append, costs_cons]; rfl

theorem takeBatch_cost (chunk : Nat) (q : List Item) (acc : Nat) :
    (takeBatch chunk acc q).2.2 = acc + costs (takeBatch chunk acc q).1 := by
  induction q generalizing acc with
  | nil => rfl
  | cons it rest ih =>
    unfold takeBatch
    split
    · simp only [costs_cons]; rfl
    · simp only [ih, costs_cons, Nat.add_assoc]

theorem takeBatch_eq_nil {chunk acc : Nat} {q : List Item} (h : (takeBatch chunk acc q).1 = []) : q = [] := by
  cases q with
  | nil => rfl
  | cons it rest => unfold takeBatch at h; split at h <;> cases h

/-- The spawn loop repeats one move: while there is room for another batch, a non-empty prefix of the
queue becomes the newest running batch and its cost is taken off `bufCost`.  What every such move
preserves, the loop preserves. -/
theorem spawnLoop_induction (p : Params) {I : State → Prop}
    (spawn : ∀ (s : State) (b rest : List Item), b ≠ [] → s.queue = b ++ rest →
      s.inflight.length < p.maxConcurrent → I s →
      I { s with queue := rest, inflight := s.inflight ++ [b], bufCost := s.bufCost - costs b }) :
    ∀ (fuel : Nat) (s : State), I s → I (spawnLoop p fuel s) := by
  intro fuel
  induction fuel with
  | zero => exact fun _ h => h
  | succ f ih =>
    intro s h
    rw [spawnLoop]
    by_cases hc : spawnCond p s = true
    · rw [if_pos hc]
      by_cases hb : (takeBatch p.maxChangesChunk 0 s.queue).1.isEmpty = true
      · rw [if_pos hb]; exact h
      · have hcost := takeBatch_cost p.maxChangesChunk s.queue 0
        rw [Nat.zero_add] at hcost
        rw [if_neg hb, spawned, hcost]
        rw [spawnCond, Bool.and_eq_true, decide_eq_true_eq] at hc
        exact ih _ (spawn s _ _ (mt List.isEmpty_iff.2 hb) (takeBatch_append ..).symm hc.2 h)
    · rw [if_neg hc]; exact h

theorem loopTop_seen (p : Params) (s : State) : (loopTop p s).seen = s.seen :=
  spawnLoop_induction p (I := fun t => t.seen = s.seen) (fun _ _ _ _ _ _ h => h) _ s rfl

theorem loopTop_node (p : Params) (s : State) : (loopTop p s).node = s.node :=
  spawnLoop_induction p (I := fun t => t.node = s.node) (fun _ _ _ _ _ _ h => h) _ s rfl

theorem loopTop_delivered (p : Params) (s : State) : (loopTop p s).delivered = s.delivered :=
  spawnLoop_induction p (I := fun t => t.delivered = s.delivered) (fun _ _ _ _ _ _ h => h) _ s rfl

theorem loopTop_failed (p : Params) (s : State) : (loopTop p s).failed = s.failed :=
  spawnLoop_induction p (I := fun t => t.failed = s.failed) (fun _ _ _ _ _ _ h => h) _ s rfl

theorem loopTop_droppedItems (p : Params) (s : State) : (loopTop p s).droppedItems = s.droppedItems :=
  spawnLoop_induction p (I := fun t => t.droppedItems = s.droppedItems) (fun _ _ _ _ _ _ h => h) _ s rfl

theorem pending_move {t : State} {b rest : List Item} (hq : t.queue = b ++ rest) (c : Nat) (sn : Seen) :
    pending { t with queue := rest, inflight := t.inflight ++ [b], bufCost := c, seen := sn } = pending t := by
  rw [pending, pending, hq, List.flatten_append, List.flatten_cons, List.flatten_nil, List.append_nil,
    List.append_assoc]

theorem pool_move (withFailed : Bool) {t : State} {b rest : List Item} (hq : t.queue = b ++ rest) (c : Nat)
    (sn : Seen) :
    pool withFailed { t with queue := rest, inflight := t.inflight ++ [b], bufCost := c, seen := sn } =
      pool withFailed t :=
  congrArg (· ++ _ ++ _) (pending_move hq c sn)

theorem loopTop_pending (p : Params) (s : State) : pending (loopTop p s) = pending s :=
  spawnLoop_induction p (I := fun t => pending t = pending s)
    (fun _ _ _ _ hq _ h => (pending_move hq _ _).trans h) _ s rfl

theorem loopTop_pool (p : Params) (withFailed : Bool) (s : State) : pool withFailed (loopTop p s) = pool withFailed s :=
  spawnLoop_induction p (I := fun t => pool withFailed t = pool withFailed s)
    (fun _ _ _ _ hq _ h => (pool_move withFailed hq _ _).trans h) _ s rfl

theorem loopTop_queue_suffix (p : Params) (s : State) : (loopTop p s).queue <:+ s.queue :=
  spawnLoop_induction p (I := fun t => t.queue <:+ s.queue)
    (fun _ b rest _ hq _ h => (List.suffix_append b rest).trans (hq ▸ h)) _ s (List.suffix_refl _)

/-- a spawn takes at least one changeset off the queue and adds one batch -/
theorem loopTop_measure (p : Params) (s : State) : measure (loopTop p s) ≤ measure s :=
  spawnLoop_induction p (I := fun t => measure t ≤ measure s)
    (fun t b rest hb hq _ h => by
      refine Nat.le_trans ?_ h
      show rest.length + (t.inflight ++ [b]).length ≤ t.queue.length + t.inflight.length
      have := List.length_pos_iff.2 hb
      rw [hq, List.length_append, List.length_append, List.length_singleton]
      omega) _ s (Nat.le_refl _)

/-- The loop stops when the queue is empty, or right after a spawn (then something is running), or
because its condition fails — which, with nothing running and room for a batch, means an empty
queue. -/
theorem loopTop_stable (p : Params) (hc : 1 ≤ p.maxConcurrent) (s : State) : Stable (loopTop p s) := by
  rw [loopTop, spawnLoop]
  by_cases hcond : spawnCond p s = true
  · rw [if_pos hcond]
    by_cases hb : (takeBatch p.maxChangesChunk 0 s.queue).1.isEmpty = true
    · rw [if_pos hb]
      exact fun _ => takeBatch_eq_nil (List.isEmpty_iff.1 hb)
    · rw [if_neg hb]
      have run : ∀ t : State, t.inflight ≠ [] → (spawnLoop p s.queue.length t).inflight ≠ [] :=
        spawnLoop_induction p (fun _ _ _ _ _ _ _ => List.concat_ne_nil _ _) _
      exact fun hinf => absurd hinf (run _ (List.concat_ne_nil _ _))
  · rw [if_neg hcond]
    intro hinf
    cases hq : s.queue with
    | nil => rfl
    | cons it rest =>
      refine absurd ?_ hcond
      rw [spawnCond, hinf, hq]
      exact Bool.and_eq_true_iff.2 ⟨Bool.or_eq_true_iff.2 (.inr rfl), decide_eq_true hc⟩

theorem shed_cases (p : Params) (s : State) (it : Item) :
    (shed p s it = s ∧ (s.queue.length < p.maxQueueLen ∨ s.queue = [])) ∨
    ∃ d rest, s.queue = d :: rest ∧ shed p s it =
      { s with queue := rest
               seen := evictAll p.evictDropped d (if p.evictDropped then d.site else it.site) s.seen
               bufCost := s.bufCost - cost d
               droppedItems := s.droppedItems ++ [d] } := by
  by_cases h : s.queue.length ≥ p.maxQueueLen
  · rw [shed, if_pos h, dropOldest]
    cases hq : s.queue with
    | nil => exact .inl ⟨rfl, .inr rfl⟩
    | cons d rest => exact .inr ⟨d, rest, rfl, rfl⟩
  · exact .inl ⟨if_neg h, .inl (Nat.lt_of_not_le h)⟩

theorem trim_seen (p : Params) (s : State) :
    (trim p s).seen = if s.seen.length > p.maxQueueLen then s.seen.drop (s.seen.length - p.keepSeen) else s.seen := by
  unfold trim
  split <;> rfl

theorem trim_seen_sublist (p : Params) (s : State) : (trim p s).seen.Sublist s.seen := by
  rw [trim_seen]
  by_cases h : s.seen.length > p.maxQueueLen
  · rw [if_pos h]; exact List.drop_sublist _ _
  · rw [if_neg h]; exact List.Sublist.refl _

theorem tick_cases (p : Params) (s : State) :
    tick p s = { s with seen := (trim p s).seen } ∨
    s.inflight.length < p.maxConcurrent ∧
      tick p s = { s with seen := (trim p s).seen, inflight := s.inflight ++ [s.queue], queue := [], bufCost := 0 } := by
  unfold tick flush
  split
  · rename_i hc
    refine .inr ⟨hc.2.2, ?_⟩
    unfold trim; split <;> rfl
  · left; unfold trim; split <;> rfl

theorem batchDone_cases (p : Params) (s : State) (i : Nat) (ok : Bool) :
    batchDone p s i ok = s ∨ ∃ b, s.inflight[i]? = some b ∧
      (ok = true ∧ batchDone p s i ok =
          { s with inflight := s.inflight.eraseIdx i, node := s.node.deliver b, delivered := s.delivered ++ [b] } ∨
       ok = false ∧ batchDone p s i ok =
          { s with inflight := s.inflight.eraseIdx i, failed := s.failed ++ [b],
                   seen := if p.clearOnFail then [] else s.seen }) := by
  unfold batchDone
  split
  · exact .inl rfl
  · rename_i b hb
    refine .inr ⟨b, hb, ?_⟩
    cases ok
    · exact .inr ⟨rfl, rfl⟩
    · exact .inl ⟨rfl, rfl⟩

/-- Every event is one of a few moves — nothing; an accepted changeset goes to the back of the queue,
perhaps after the oldest one was dropped; a tick trims the cache and perhaps turns the queue into a
batch; a batch ends well or badly — followed by spawns.  What all of them preserve holds throughout
a run. -/
theorem run_induction (p : Params) {I : State → Prop} {evs : List Event}
    (hpush : ∀ t it b, .offer it b ∈ evs → accepts t it = true →
      t.queue.length < p.maxQueueLen ∨ t.queue = [] → I t → I (enqueue t it))
    (hdrop : ∀ t it b d rest, .offer it b ∈ evs → accepts t it = true → t.queue = d :: rest → I t →
      I (enqueue { t with queue := rest
                          seen := evictAll p.evictDropped d (if p.evictDropped then d.site else it.site) t.seen
                          bufCost := t.bufCost - cost d
                          droppedItems := t.droppedItems ++ [d] } it))
    (htrim : ∀ t, I t → I { t with seen := (trim p t).seen })
    (hflush : ∀ t, t.inflight.length < p.maxConcurrent → I t →
      I { t with seen := (trim p t).seen, inflight := t.inflight ++ [t.queue], queue := [], bufCost := 0 })
    (hdone : ∀ t i b, t.inflight[i]? = some b → I t →
      I { t with inflight := t.inflight.eraseIdx i, node := t.node.deliver b, delivered := t.delivered ++ [b] })
    (hfail : ∀ t i b, .batchDone i false ∈ evs → t.inflight[i]? = some b → I t →
      I { t with inflight := t.inflight.eraseIdx i, failed := t.failed ++ [b],
                 seen := if p.clearOnFail then [] else t.seen })
    (hspawn : ∀ t b rest, b ≠ [] → t.queue = b ++ rest → t.inflight.length < p.maxConcurrent → I t →
      I { t with queue := rest, inflight := t.inflight ++ [b], bufCost := t.bufCost - costs b }) :
    ∀ s, I s → I (run p s evs) := by
  have step : ∀ ev ∈ evs, ∀ t, I t → I (step p t ev) := by
    intro ev hev t h
    cases ev with
    | offer it b =>
      refine spawnLoop_induction p hspawn _ _ ?_
      unfold offer
      split
      · rename_i hacc
        rcases shed_cases p t it with ⟨h', hroom⟩ | ⟨d, rest, hq, h'⟩ <;> rw [h']
        · exact hpush t it b hev hacc hroom h
        · exact hdrop t it b d rest hev hacc hq h
      · exact h
    | tick =>
      refine spawnLoop_induction p hspawn _ _ ?_
      rcases tick_cases p t with h' | ⟨hroom, h'⟩ <;> rw [h']
      · exact htrim t h
      · exact hflush t hroom h
    | batchDone i ok =>
      refine spawnLoop_induction p hspawn _ _ ?_
      rcases batchDone_cases p t i ok with h' | ⟨b, hb, ⟨rfl, h'⟩ | ⟨rfl, h'⟩⟩ <;> rw [h']
      · exact h
      · exact hdone t i b hb h
      · exact hfail t i b hev hb h
  generalize evs = l at step
  induction l with
  | nil => exact fun _ h => h
  | cons ev rest ih =>
    exact fun s h => ih (fun e he => step e (List.mem_cons_of_mem _ he)) _ (step ev List.mem_cons_self s h)

/-- only the queue changes: a member of the pool stays one unless it is among the queued items `P` that left -/
theorem pool_queue_mono {withFailed : Bool} {s t : State} {P : Item → Prop} {x : Item} (hx : x ∈ pool withFailed s)
    (hi : t.inflight = s.inflight) (hd : t.delivered = s.delivered) (hf : t.failed = s.failed)
    (hq : ∀ y ∈ s.queue, y ∈ t.queue ∨ P y) : x ∈ pool withFailed t ∨ P x := by
  simp only [pool, hi, hd, hf, List.mem_append] at hx ⊢
  rcases hx with ((h | h) | h) | h
  · exact .inl (.inl (.inl (.inl h)))
  · exact (hq x h).imp_left fun h => .inl (.inl (.inr h))
  · exact .inl (.inl (.inr h))
  · exact .inl (.inr h)

theorem mem_flatten_eraseIdx {α} {l : List (List α)} {i : Nat} {b : List α} (h : l[i]? = some b) (x : α) :
    x ∈ l.flatten ↔ x ∈ b ∨ x ∈ (l.eraseIdx i).flatten := by
  induction l generalizing i with
  | nil => cases h
  | cons a t ih =>
    cases i with
    | zero => cases h; exact List.mem_append
    | succ j =>
      simp only [List.eraseIdx_cons_succ, List.flatten_cons, List.mem_append, ih h]
      exact or_left_comm

/-- a batch that finishes stays in the pool, unless it fails and failed batches are left out -/
theorem mem_pool_done (withFailed : Bool) {s : State} {i : Nat} {b : List Item} (hb : s.inflight[i]? = some b)
    (n : Node) (x : Item) :
    x ∈ pool withFailed { s with inflight := s.inflight.eraseIdx i, node := n, delivered := s.delivered ++ [b] } ↔
      x ∈ pool withFailed s := by
  simp only [pool, List.mem_append, mem_flatten_eraseIdx hb x, List.flatten_append, List.flatten_cons,
    List.flatten_nil, List.append_nil]
  by_cases hB : x ∈ b <;> simp only [hB, or_true, true_or, false_or, or_false]

theorem mem_pool_failed {s : State} {i : Nat} {b : List Item} (hb : s.inflight[i]? = some b)
    (sn : Seen) (x : Item) :
    x ∈ pool true { s with inflight := s.inflight.eraseIdx i, failed := s.failed ++ [b], seen := sn } ↔
      x ∈ pool true s := by
  simp only [pool, List.mem_append, mem_flatten_eraseIdx hb x, List.flatten_append, List.flatten_cons,
    List.flatten_nil, List.append_nil, if_true]
  by_cases hB : x ∈ b <;> simp only [hB, or_true, true_or, false_or, or_false]

theorem step_stable (p : Params) (hc : 1 ≤ p.maxConcurrent) (s : State) (ev : Event) : Stable (step p s ev) := by
  cases ev <;> exact loopTop_stable p hc _

theorem measure_batchDone (p : Params) (s : State) (ok : Bool) (h : s.inflight ≠ []) :
    measure (step p s (.batchDone 0 ok)) < measure s := by
  refine Nat.lt_of_le_of_lt (loopTop_measure p _) ?_
  cases hi : s.inflight with
  | nil => exact absurd hi h
  | cons b t =>
    have : measure (batchDone p s 0 ok) = s.queue.length + t.length := by
      unfold batchDone
      rw [hi]
      cases ok <;> rfl
    rw [this, measure, hi]
    exact Nat.lt_succ_self _

theorem drainN_idle (p : Params) (ok : Bool) (hc : 1 ≤ p.maxConcurrent) : ∀ (n : Nat) (s : State),
    Stable s → measure s ≤ n → Idle (drainN p ok n s) := by
  intro n
  induction n with
  | zero =>
    intro s _ hm
    have := Nat.add_eq_zero_iff.1 (Nat.le_zero.1 hm)
    exact ⟨List.length_eq_zero_iff.1 this.2, List.length_eq_zero_iff.1 this.1⟩
  | succ k ih =>
    intro s hst hm
    unfold drainN
    split
    · rename_i hemp
      exact ⟨List.isEmpty_iff.1 hemp, hst (List.isEmpty_iff.1 hemp)⟩
    · rename_i hne
      exact ih _ (step_stable p hc s _) (Nat.le_of_lt_succ
        (Nat.lt_of_lt_of_le (measure_batchDone p s ok (mt List.isEmpty_iff.2 hne)) hm))

theorem drain_idle (p : Params) (ok : Bool) (hc : 1 ≤ p.maxConcurrent) (s : State) (hst : Stable s) :
    Idle (drain p ok s) :=
  drainN_idle p ok hc _ s hst (Nat.le_succ _)

theorem drainN_pool (p : Params) (withFailed : Bool) : ∀ (n : Nat) (s : State),
    ∀ it ∈ pool withFailed s, it ∈ pool withFailed (drainN p true n s) := by
  intro n
  induction n with
  | zero => exact fun _ _ h => h
  | succ k ih =>
    intro s it h
    unfold drainN
    split
    · exact h
    · refine ih _ it ?_
      rw [step, loopTop_pool]
      rcases batchDone_cases p s 0 true with h' | ⟨b, hb, ⟨_, h'⟩ | ⟨hf, _⟩⟩
      · rwa [h']
      · rw [h']; exact (mem_pool_done withFailed hb _ it).2 h
      · cases hf

theorem drainN_is_run (p : Params) (ok : Bool) : ∀ (n : Nat) (s : State),
    ∃ evs : List Event, evs.length ≤ n ∧ (∀ e ∈ evs, e = .batchDone 0 ok) ∧ drainN p ok n s = run p s evs := by
  intro n
  induction n with
  | zero => exact fun s => ⟨[], Nat.le_refl _, List.forall_mem_nil _, rfl⟩
  | succ k ih =>
    intro s
    unfold drainN
    split
    · exact ⟨[], Nat.zero_le _, List.forall_mem_nil _, rfl⟩
    · obtain ⟨evs, h1, h2, h3⟩ := ih (step p s (.batchDone 0 ok))
      exact ⟨.batchDone 0 ok :: evs, Nat.succ_le_succ h1, List.forall_mem_cons.2 ⟨rfl, h2⟩, h3⟩

end Corro.Ingest
