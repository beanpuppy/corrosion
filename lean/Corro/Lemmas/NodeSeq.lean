/-
`Node.bufferChunk` (model of `process_incomplete_version`): the six-case SQL predicate, the merged
row, the point set of the sequence rows, canonical form, and the buffer
(`INSERT … ON CONFLICT DO NOTHING`) with its key (`BufKeysUnique`); last, the vocabulary of C03's
`buffered_seqs_covered`: buffered rows lie inside sequence rows (`Node.BufCovered`), a well-formed chunk (`ChunkWF`).
-/
import Corro.Lemmas.NodeList

namespace Corro.Node
open Corro.Crdt

/-- the `DELETE … WHERE` predicate of `process_incomplete_version`, as written (six cases): a copy of
the local `touching` of `Node.bufferChunk`, tied to the model by `bufferChunk_eq` and to the SQL text
by `Props/C03Sql.lean` -/
def touching (site ver lo hi : Nat) (r : SeqRow) : Bool :=
  r.site == site && r.ver == ver &&
    ((decide (lo ≤ r.lo) && decide (r.lo ≤ hi)) || (decide (r.lo ≤ lo) && decide (hi ≤ r.hi)) ||
     (decide (r.lo ≤ hi) && decide (hi ≤ r.hi)) || (decide (lo ≤ r.hi) && decide (r.hi ≤ hi)) ||
     (r.lo == hi + 1 && r.hi != 0) || (r.hi + 1 == lo))

/-- `x` has the `(site_id, db_version, seq)` primary key of the probe `c` in `__corro_buffered_changes` -/
def sameKey (c x : Chg) : Bool := decide (x.site = c.site ∧ x.dbv = c.dbv ∧ x.seq = c.seq)

/-- `INSERT … ON CONFLICT DO NOTHING` of a chunk's changes -/
def bufAdd (b : List Chg) (cs : List Chg) : List Chg :=
  cs.foldl (fun b c => if b.any (sameKey c) then b else b ++ [c]) b

/-- bounds of the merged row: least `lo` / greatest `hi` over the chunk's range and the rows that
`touching` deletes -/
def mergedLo (rows : List SeqRow) (site ver lo hi : Nat) : Nat :=
  (rows.filter (touching site ver lo hi)).foldl (fun m r => Nat.min m r.lo) lo

def mergedHi (rows : List SeqRow) (site ver lo hi : Nat) : Nat :=
  (rows.filter (touching site ver lo hi)).foldl (fun m r => Nat.max m r.hi) hi

theorem bufferChunk_eq (n : Node) (site ver lo hi last : Nat) (cs : List Chg) :
    n.bufferChunk site ver lo hi last cs =
      ({ n with buf := bufAdd n.buf cs,
                seqRows := n.seqRows.filter (fun r => !touching site ver lo hi r) ++
                  [⟨site, ver, mergedLo n.seqRows site ver lo hi, mergedHi n.seqRows site ver lo hi, last⟩] },
       (mergedLo n.seqRows site ver lo hi, mergedHi n.seqRows site ver lo hi)) := rfl

/-- rows of one `(site, version)` -/
def rowsOf (rows : List SeqRow) (site ver : Nat) : List SeqRow :=
  rows.filter (fun r => r.site = site ∧ r.ver = ver)

/-- canonical sequence rows of `(site, ver)`: forward, pairwise disjoint and non-adjacent -/
def SeqRowsWF (rows : List SeqRow) (site ver : Nat) : Prop :=
  (∀ r ∈ rowsOf rows site ver, r.lo ≤ r.hi) ∧
  (rowsOf rows site ver).Pairwise (fun a b => a.hi + 1 < b.lo ∨ b.hi + 1 < a.lo)

instance (rows : List SeqRow) (site ver : Nat) : Decidable (SeqRowsWF rows site ver) := by
  unfold SeqRowsWF; exact inferInstance

/-- point set of the sequence rows of `(site, ver)` -/
def SeqMem (rows : List SeqRow) (site ver x : Nat) : Prop :=
  ∃ r ∈ rows, r.site = site ∧ r.ver = ver ∧ r.lo ≤ x ∧ x ≤ r.hi

theorem mem_rowsOf {rows : List SeqRow} {site ver : Nat} {r : SeqRow} :
    r ∈ rowsOf rows site ver ↔ r ∈ rows ∧ r.site = site ∧ r.ver = ver := by
  unfold rowsOf; rw [List.mem_filter]; simp

theorem seqMem_iff_rowsOf {rows : List SeqRow} {site ver x : Nat} :
    SeqMem rows site ver x ↔ ∃ r ∈ rowsOf rows site ver, r.lo ≤ x ∧ x ≤ r.hi := by
  simp only [SeqMem, mem_rowsOf, and_assoc]

theorem touching_site {site ver lo hi : Nat} {r : SeqRow} (h : touching site ver lo hi r = true) :
    r.site = site ∧ r.ver = ver := by
  unfold touching at h
  simp only [Bool.and_eq_true, beq_iff_eq] at h
  exact h.1

/-- for a forward row and a forward chunk the six cases say "overlaps or is adjacent to `[lo,hi]`" -/
theorem touching_iff {site ver lo hi : Nat} {r : SeqRow} (hlh : lo ≤ hi) (hr : r.lo ≤ r.hi) :
    touching site ver lo hi r = true ↔
      r.site = site ∧ r.ver = ver ∧ r.lo ≤ hi + 1 ∧ lo ≤ r.hi + 1 := by
  unfold touching
  simp only [Bool.and_eq_true, Bool.or_eq_true, beq_iff_eq, decide_eq_true_eq, bne_iff_ne, ne_eq]
  omega

/-- the odd `AND end_seq` of case 5 is implied for forward rows -/
theorem case5_total {hi : Nat} {r : SeqRow} (hr : r.lo ≤ r.hi) (h : r.lo = hi + 1) :
    (r.lo == hi + 1 && r.hi != 0) = true := by
  simp only [Bool.and_eq_true, beq_iff_eq, bne_iff_ne, ne_eq]
  omega

theorem mergedLo_le (rows : List SeqRow) (site ver lo hi : Nat) : mergedLo rows site ver lo hi ≤ lo :=
  (foldl_min_spec (fun r : SeqRow => r.lo) _ lo).1

theorem le_mergedHi (rows : List SeqRow) (site ver lo hi : Nat) : hi ≤ mergedHi rows site ver lo hi :=
  (foldl_max_spec (fun r : SeqRow => r.hi) _ hi).1

theorem mergedLo_le_touching {rows : List SeqRow} {site ver lo hi : Nat} {r : SeqRow} (hr : r ∈ rows)
    (ht : touching site ver lo hi r = true) : mergedLo rows site ver lo hi ≤ r.lo :=
  (foldl_min_spec (fun r : SeqRow => r.lo) _ lo).2.1 r (List.mem_filter.mpr ⟨hr, ht⟩)

theorem touching_le_mergedHi {rows : List SeqRow} {site ver lo hi : Nat} {r : SeqRow} (hr : r ∈ rows)
    (ht : touching site ver lo hi r = true) : r.hi ≤ mergedHi rows site ver lo hi :=
  (foldl_max_spec (fun r : SeqRow => r.hi) _ hi).2.1 r (List.mem_filter.mpr ⟨hr, ht⟩)

theorem mergedLo_attained (rows : List SeqRow) (site ver lo hi : Nat) :
    mergedLo rows site ver lo hi = lo ∨
      ∃ r ∈ rows, touching site ver lo hi r = true ∧ mergedLo rows site ver lo hi = r.lo :=
  (foldl_min_spec (fun r : SeqRow => r.lo) _ lo).2.2.imp id
    (fun ⟨r, hr, h⟩ => ⟨r, (List.mem_filter.mp hr).1, (List.mem_filter.mp hr).2, h⟩)

theorem mergedHi_attained (rows : List SeqRow) (site ver lo hi : Nat) :
    mergedHi rows site ver lo hi = hi ∨
      ∃ r ∈ rows, touching site ver lo hi r = true ∧ mergedHi rows site ver lo hi = r.hi :=
  (foldl_max_spec (fun r : SeqRow => r.hi) _ hi).2.2.imp id
    (fun ⟨r, hr, h⟩ => ⟨r, (List.mem_filter.mp hr).1, (List.mem_filter.mp hr).2, h⟩)

theorem rowsOf_bufferChunk_other (n : Node) (site ver lo hi last : Nat) (cs : List Chg) (s' v' : Nat)
    (hne : ¬ (s' = site ∧ v' = ver)) :
    rowsOf (n.bufferChunk site ver lo hi last cs).1.seqRows s' v' = rowsOf n.seqRows s' v' := by
  have hnt : ∀ r : SeqRow, r.site = s' ∧ r.ver = v' → touching site ver lo hi r = false := fun r hr =>
    Bool.eq_false_iff.mpr fun ht =>
      hne ⟨hr.1.symm.trans (touching_site ht).1, hr.2.symm.trans (touching_site ht).2⟩
  rw [bufferChunk_eq]
  simp only [rowsOf, List.filter_append, List.filter_filter]
  rw [List.filter_cons_of_neg (by simpa using fun h1 h2 => hne ⟨h1.symm, h2.symm⟩), List.filter_nil,
    List.append_nil]
  refine List.filter_congr fun r _ => ?_
  by_cases hr : r.site = s' ∧ r.ver = v'
  · simp [hr, hnt r hr]
  · simp [hr]

theorem mem_bufferChunk_rows_other {n : Node} {site ver lo hi last : Nat} {cs : List Chg} {r : SeqRow}
    (h : ¬ (r.site = site ∧ r.ver = ver)) :
    r ∈ (n.bufferChunk site ver lo hi last cs).1.seqRows ↔ r ∈ n.seqRows := by
  have := congrArg (r ∈ ·) (rowsOf_bufferChunk_other n site ver lo hi last cs r.site r.ver h)
  simpa only [mem_rowsOf, and_true, eq_iff_iff] using this

theorem rowsOf_bufferChunk_same (n : Node) (site ver lo hi last : Nat) (cs : List Chg) :
    rowsOf (n.bufferChunk site ver lo hi last cs).1.seqRows site ver =
      (rowsOf n.seqRows site ver).filter (fun r => !touching site ver lo hi r) ++
        [⟨site, ver, mergedLo n.seqRows site ver lo hi, mergedHi n.seqRows site ver lo hi, last⟩] := by
  rw [bufferChunk_eq]
  simp only [rowsOf, List.filter_append, List.filter_filter]
  congr 1
  · apply List.filter_congr; intro r _; exact Bool.and_comm _ _
  · rw [List.filter_cons_of_pos (by simp)]; rfl

theorem touching_spec {rows : List SeqRow} {site ver lo hi : Nat} (hlh : lo ≤ hi)
    (hf : ∀ r ∈ rowsOf rows site ver, r.lo ≤ r.hi) {r : SeqRow} (hr : r ∈ rows)
    (ht : touching site ver lo hi r = true) :
    r ∈ rowsOf rows site ver ∧ r.lo ≤ r.hi ∧ r.lo ≤ hi + 1 ∧ lo ≤ r.hi + 1 :=
  have hm := mem_rowsOf.mpr ⟨hr, touching_site ht⟩
  ⟨hm, hf r hm, ((touching_iff hlh (hf r hm)).mp ht).2.2⟩

theorem seqMem_bufferChunk (n : Node) (site ver lo hi last : Nat) (cs : List Chg) (hlh : lo ≤ hi)
    (hf : ∀ r ∈ rowsOf n.seqRows site ver, r.lo ≤ r.hi) (x : Nat) :
    SeqMem (n.bufferChunk site ver lo hi last cs).1.seqRows site ver x ↔
      SeqMem n.seqRows site ver x ∨ (lo ≤ x ∧ x ≤ hi) := by
  have hlo := mergedLo_le n.seqRows site ver lo hi
  have hhi := le_mergedHi n.seqRows site ver lo hi
  rw [seqMem_iff_rowsOf, seqMem_iff_rowsOf, rowsOf_bufferChunk_same]
  constructor
  · rintro ⟨r, hr, h1, h2⟩
    rcases List.mem_append.mp hr with hr | hr
    · exact Or.inl ⟨r, (List.mem_filter.mp hr).1, h1, h2⟩
    · cases List.mem_singleton.mp hr
      simp only at h1 h2
      -- a point of the merged row outside `[lo, hi]` lies in the touching row that set the bound
      by_cases hx1 : x < lo
      · rcases mergedLo_attained n.seqRows site ver lo hi with h | ⟨r, hr, ht, h⟩
        · omega
        · have := touching_spec hlh hf hr ht
          exact Or.inl ⟨r, this.1, h ▸ h1, Nat.le_of_lt_succ (Nat.lt_of_lt_of_le hx1 this.2.2.2)⟩
      · by_cases hx2 : hi < x
        · rcases mergedHi_attained n.seqRows site ver lo hi with h | ⟨r, hr, ht, h⟩
          · omega
          · have := touching_spec hlh hf hr ht
            exact Or.inl ⟨r, this.1, Nat.le_trans this.2.2.1 hx2, h ▸ h2⟩
        · exact Or.inr ⟨Nat.le_of_not_lt hx1, Nat.le_of_not_lt hx2⟩
  · rintro (⟨r, hr, h1, h2⟩ | ⟨h1, h2⟩)
    · cases ht : touching site ver lo hi r with
      | false => exact ⟨r, List.mem_append.mpr (Or.inl (List.mem_filter.mpr ⟨hr, by simp [ht]⟩)), h1, h2⟩
      | true =>
        exact ⟨_, List.mem_append_right _ (List.mem_singleton_self _),
          Nat.le_trans (mergedLo_le_touching (mem_rowsOf.mp hr).1 ht) h1,
          Nat.le_trans h2 (touching_le_mergedHi (mem_rowsOf.mp hr).1 ht)⟩
    · exact ⟨_, List.mem_append_right _ (List.mem_singleton_self _), Nat.le_trans hlo h1, Nat.le_trans h2 hhi⟩

theorem seqMem_bufferChunk_other (n : Node) (site ver lo hi last : Nat) (cs : List Chg) (s' v' : Nat)
    (hne : ¬ (s' = site ∧ v' = ver)) (x : Nat) :
    SeqMem (n.bufferChunk site ver lo hi last cs).1.seqRows s' v' x ↔ SeqMem n.seqRows s' v' x := by
  rw [seqMem_iff_rowsOf, seqMem_iff_rowsOf, rowsOf_bufferChunk_other n site ver lo hi last cs s' v' hne]

theorem seqMem_bufferChunk_mono (n : Node) (site ver lo hi last : Nat) (cs : List Chg) (hlh : lo ≤ hi)
    (hf : ∀ r ∈ rowsOf n.seqRows site ver, r.lo ≤ r.hi) {s v x : Nat} (h : SeqMem n.seqRows s v x) :
    SeqMem (n.bufferChunk site ver lo hi last cs).1.seqRows s v x := by
  by_cases hk : s = site ∧ v = ver
  · rw [hk.1, hk.2] at h ⊢
    exact (seqMem_bufferChunk n site ver lo hi last cs hlh hf x).mpr (Or.inl h)
  · exact (seqMem_bufferChunk_other n site ver lo hi last cs s v hk x).mpr h

theorem seqRowsWF_bufferChunk (n : Node) (site ver lo hi last : Nat) (cs : List Chg) (hlh : lo ≤ hi)
    (hw : SeqRowsWF n.seqRows site ver) :
    SeqRowsWF (n.bufferChunk site ver lo hi last cs).1.seqRows site ver := by
  have hlo := mergedLo_le n.seqRows site ver lo hi
  have hhi := le_mergedHi n.seqRows site ver lo hi
  unfold SeqRowsWF
  rw [rowsOf_bufferChunk_same]
  constructor
  · intro r hr
    rcases List.mem_append.mp hr with hr | hr
    · exact hw.1 r (List.mem_filter.mp hr).1
    · cases List.mem_singleton.mp hr
      simp only; omega
  · refine List.pairwise_append.mpr ⟨hw.2.sublist List.filter_sublist, List.pairwise_singleton _ _, ?_⟩
    intro a ha b hb
    cases List.mem_singleton.mp hb
    obtain ⟨ha, hnt⟩ := List.mem_filter.mp ha
    have ham := mem_rowsOf.mp ha
    have haf := hw.1 a ha
    have hna : ¬ (a.lo ≤ hi + 1 ∧ lo ≤ a.hi + 1) := fun hc => by
      rw [(touching_iff hlh haf).mpr ⟨ham.2.1, ham.2.2, hc⟩] at hnt; cases hnt
    -- `a` is separated from every touching row, by canonical form of the old rows
    have hsep : ∀ r ∈ n.seqRows, touching site ver lo hi r = true →
        (a.hi + 1 < r.lo ∨ r.hi + 1 < a.lo) ∧ r.lo ≤ r.hi ∧ r.lo ≤ hi + 1 ∧ lo ≤ r.hi + 1 := by
      intro r hr ht
      have hs := touching_spec hlh hw.1 hr ht
      exact ⟨pairwise_of_ne Or.symm hw.2 ha hs.1 (by rintro rfl; rw [ht] at hnt; cases hnt), hs.2⟩
    simp only
    -- `a` lies on one side of the chunk, hence on that side of every row touching the chunk
    rcases Nat.lt_or_ge (a.hi + 1) lo with hA | hA
    · left
      rcases mergedLo_attained n.seqRows site ver lo hi with h1 | ⟨r1, hr1, ht1, h1⟩
      · omega
      · have := hsep r1 hr1 ht1; omega
    · right
      rcases mergedHi_attained n.seqRows site ver lo hi with h2 | ⟨r2, hr2, ht2, h2⟩
      · omega
      · have := hsep r2 hr2 ht2; omega

theorem bufAdd_cons (b : List Chg) (c : Chg) (cs : List Chg) :
    bufAdd b (c :: cs) = bufAdd (if b.any (sameKey c) then b else b ++ [c]) cs := rfl

theorem bufAdd_prefix (b cs : List Chg) : b <+: bufAdd b cs :=
  foldl_addNew_prefix (fun b c => b.any (sameKey c)) cs b

theorem mem_bufAdd {b cs : List Chg} {x : Chg} (h : x ∈ bufAdd b cs) : x ∈ b ∨ x ∈ cs :=
  mem_foldl_addNew (fun b c => b.any (sameKey c)) h

theorem mem_bufferChunk_buf {n : Node} {site ver lo hi last : Nat} {cs : List Chg} {c : Chg} :
    c ∈ (n.bufferChunk site ver lo hi last cs).1.buf → c ∈ n.buf ∨ c ∈ cs := by
  rw [bufferChunk_eq]; exact mem_bufAdd

theorem mem_buf_bufferChunk {n : Node} {site ver lo hi last : Nat} {cs : List Chg} {c : Chg}
    (h : c ∈ n.buf) : c ∈ (n.bufferChunk site ver lo hi last cs).1.buf := by
  rw [bufferChunk_eq]; exact (bufAdd_prefix n.buf cs).subset h

theorem bufAdd_has_key (b cs : List Chg) {c : Chg} (hc : c ∈ cs) :
    ∃ x ∈ bufAdd b cs, x.site = c.site ∧ x.dbv = c.dbv ∧ x.seq = c.seq := by
  induction cs generalizing b with
  | nil => cases hc
  | cons d cs ih =>
    rw [bufAdd_cons]
    rcases List.mem_cons.mp hc with rfl | hc
    · split
      · rename_i hany
        obtain ⟨x, hx, hk⟩ := List.any_eq_true.mp hany
        exact ⟨x, (bufAdd_prefix b cs).subset hx, by simpa [sameKey] using hk⟩
      · exact ⟨c, (bufAdd_prefix _ cs).subset (by simp), rfl, rfl, rfl⟩
    · exact ih _ hc

theorem bufAdd_find_old (b cs : List Chg) (k : Chg) (h : b.any (sameKey k) = true) :
    (bufAdd b cs).find? (sameKey k) = b.find? (sameKey k) := by
  obtain ⟨t, ht⟩ := bufAdd_prefix b cs
  rw [← ht, List.find?_append]
  cases hf : b.find? (sameKey k) with
  | none =>
    obtain ⟨x, hx, hk⟩ := List.any_eq_true.mp h
    have := List.find?_eq_none.mp hf x hx
    exact absurd hk this
  | some y => rfl

/-- `(site_id, db_version, seq)` is a key of the buffer -/
def BufKeysUnique (b : List Chg) : Prop := b.Pairwise (fun x y => sameKey x y = false)

theorem bufAdd_keysUnique (b cs : List Chg) (h : BufKeysUnique b) : BufKeysUnique (bufAdd b cs) := by
  refine foldl_inv BufKeysUnique _ cs b h (fun b c _ h => ?_)
  split
  · exact h
  · next hany =>
    refine List.pairwise_append.mpr ⟨h, List.pairwise_singleton _ _, fun x hx y hy => ?_⟩
    rw [List.mem_singleton.mp hy]
    have : ¬ (sameKey c x = true) := fun hk => hany (List.any_eq_true.mpr ⟨x, hx, hk⟩)
    simp only [sameKey, decide_eq_true_eq] at this
    simp only [sameKey, decide_eq_false_iff_not]
    exact fun hc => this ⟨hc.1.symm, hc.2.1.symm, hc.2.2.symm⟩

def Node.BufCovered (n : Node) : Prop := ∀ c ∈ n.buf, SeqMem n.seqRows c.site c.dbv c.seq

/-- the chunk is well formed: its changes belong to `(site, ver)` and lie in `[lo, hi]` -/
def ChunkWF (site ver lo hi : Nat) (cs : List Chg) : Prop :=
  ∀ c ∈ cs, c.site = site ∧ c.dbv = ver ∧ lo ≤ c.seq ∧ c.seq ≤ hi

instance (site ver lo hi : Nat) (cs : List Chg) : Decidable (ChunkWF site ver lo hi cs) := by
  unfold ChunkWF; exact inferInstance

end Corro.Node
