/-
C01, CRDT level: what the invariant `Inv db P` says about the view of `db` — causal lengths and
winning cells equal the specification of the set `P` — and where its rows and cells come from.
-/
import Corro.Lemmas.CrdtInv

namespace Corro.Crdt

variable {db : Db} {P : List Chg} {t p x : String} {r : Row} {l : Cell} {c : Chg}

theorem Inv.cl_eq (hi : Inv db P) (t p : String) :
    db.cl t p = specCl P t p := by
  have h := hi t p
  unfold Db.cl
  symm
  cases ho : db.findRow t p with
  | none =>
    -- no row: the changes for the key, if any, have `cl = 0`, and `specCl` is 0 for those as for none
    rw [ho] at h
    exact specCl_unique (fun c hc hat => Nat.le_of_eq (h c hc hat)) (Or.inr rfl)
  | some r =>
    rw [ho] at h
    exact specCl_unique h.ub (Or.inl h.att)

theorem Inv.rowOK (hi : Inv db P)
    (hr : db.findRow t p = some r) : RowOK P t p r ∧ r.cl = specCl P t p := by
  have h := hi t p
  have hcl := hi.cl_eq t p
  unfold Db.cl at hcl
  rw [hr] at h hcl
  exact ⟨h, hcl⟩

theorem Db.cell_eq (h : db.findRow t p = some r) (x : String) :
    db.cell t p x = r.findCell x := by
  unfold Db.cell; rw [h]

theorem Db.cell_some (hl : db.cell t p x = some l) :
    ∃ r, db.findRow t p = some r ∧ r.findCell x = some l := by
  unfold Db.cell at hl
  cases ho : db.findRow t p with
  | none => rw [ho] at hl; cases hl
  | some r => rw [ho] at hl; exact ⟨r, rfl, hl⟩

theorem Inv.cellInv (hi : Inv db P) (hl : db.cell t p x = some l) :
    l.cid = x ∧ specCl P t p % 2 = 1 ∧ CellInv P t p (specCl P t p) l := by
  obtain ⟨r, hr, hf⟩ := Db.cell_some hl
  obtain ⟨h, hcl⟩ := hi.rowOK hr
  exact ⟨(findCell_some hf).1, hcl ▸ h.odd_of_cell hf, hcl ▸ h.cells x l hf⟩

theorem Inv.has (hi : Inv db P) {d : Chg}
    (hodd : specCl P t p % 2 = 1) (hx : x ≠ sentinel) (hd : d ∈ P)
    (hat : d.atCell t p x (specCl P t p)) : ∃ l, db.cell t p x = some l := by
  cases ho : db.findRow t p with
  | none =>
    have h := hi t p
    rw [ho] at h
    have := h d hd hat.row
    rw [hat.cl] at this
    rw [this] at hodd
    cases hodd
  | some r =>
    obtain ⟨h, hcl⟩ := hi.rowOK ho
    rw [Db.cell_eq ho, ← hat.cid]
    exact h.has (hcl ▸ hodd) d hd (by rw [hat.cid, hcl]; exact hat) (by rw [hat.cid]; exact hx)

theorem Inv.cell_eq (hi : Inv db P) (hodd : specCl P t p % 2 = 1) (hx : x ≠ sentinel)
    (hd : ∃ d ∈ P, d.atCell t p x (specCl P t p) ∧ 1 ≤ d.colv) :
    (view db t p).cell x = specCell P t p x := by
  obtain ⟨d, hdP, hdat, hdv⟩ := hd
  obtain ⟨l, hl⟩ := hi.has hodd hx hdP hdat
  obtain ⟨rfl, _, hci⟩ := hi.cellInv hl
  -- the stored key is attained: a zeroed leftover would be below `d`
  obtain ⟨c, hc, hcat, hk⟩ : ∃ c ∈ P, c.atCell t p l.cid (specCl P t p) ∧ c.key = l.key := by
    rcases hci.att with ha | hz
    · exact ha
    · have := hci.ub d hdP hdat
      -- `by exact` waits until `rw` has found `b := d.key`; `d.key.colv` is `d.colv` by unfolding
      rw [keyLt_of_colv_zero hz (by exact hdv)] at this
      cases this
  rw [specCell_unique hodd hx hc hcat (fun e he heat => hk ▸ hci.ub e he heat)]
  show (db.cell t p l.cid).map _ = some (c.key.val, c.key.colv)
  rw [hl, hk]
  rfl

theorem Inv.cell_none (hi : Inv db P)
    (h : specCl P t p % 2 = 0 ∨ x = sentinel) : db.cell t p x = none := by
  cases hl : db.cell t p x with
  | none => rfl
  | some l =>
    obtain ⟨hlx, hodd, hci⟩ := hi.cellInv hl
    rcases h with h | h
    · rw [h] at hodd; cases hodd
    · exact absurd (hlx.trans h) hci.notSent

theorem Inv.view_eq (hi : Inv db P) (hc : CompleteStrong P) :
    view db = spec P := by
  funext t p
  show RowView.mk _ _ = RowView.mk _ _
  congr 1
  · exact hi.cl_eq t p
  funext x
  by_cases hdead : specCl P t p % 2 = 0 ∨ x = sentinel
  · rw [hi.cell_none hdead, specCell_none hdead]; rfl
  have hodd := (Nat.mod_two_eq_zero_or_one (specCl P t p)).resolve_left (fun e => hdead (Or.inl e))
  have hx : x ≠ sentinel := fun e => hdead (Or.inr e)
  cases hl : db.cell t p x with
  | none =>
    -- no cell: by `Inv.has` the final incarnation has no change for the column
    rw [specCell_absent]
    · rfl
    · intro d hd hat
      obtain ⟨l, hl'⟩ := hi.has hodd hx hd hat
      rw [hl] at hl'; cases hl'
  | some l =>
    -- the cell stems from a change of `P`; completeness gives one in the final incarnation
    obtain ⟨hlx, _, hci⟩ := hi.cellInv hl
    obtain ⟨c0, hc0, hrow, hcid, _⟩ := hci.prov
    obtain ⟨d, hd, hdat, hdv⟩ := hc c0 hc0 (by rw [hcid, hlx]; exact hx)
      (by rw [hrow.1, hrow.2]; exact hodd)
    rw [hrow.1, hrow.2, hcid, hlx] at hdat
    rw [← hl]
    exact hi.cell_eq hodd hx ⟨d, hd, hdat, hdv⟩

theorem Inv.cell_prov (hi : Inv db P) (hl : db.cell t p x = some l) :
    ∃ c ∈ P, c.tbl = t ∧ c.pk = p ∧ c.cid = x ∧ x ≠ sentinel ∧ c.val = l.val ∧
      c.site = l.clk.site ∧ c.dbv = l.clk.dbv ∧ c.seq = l.clk.seq := by
  obtain ⟨hlx, _, hns, ⟨c, hc, hrow, h1, h2⟩, _⟩ := hi.cellInv hl
  exact ⟨c, hc, hrow.1, hrow.2, h1.trans hlx, hlx ▸ hns, h2⟩

theorem Inv.row_prov (hi : Inv db P)
    (hr : db.findRow t p = some r) : ∃ c ∈ P, c.tbl = t ∧ c.pk = p ∧ c.cl = r.cl := by
  obtain ⟨c, hc, hrow, hcl⟩ := (hi.rowOK hr).1.att
  exact ⟨c, hc, hrow.1, hrow.2, hcl⟩

/-- Zeroed leftovers (value and attribution from an older incarnation, column version 0) are the
cells in which two merges of the same set may differ. -/
theorem Inv.leftover_zero (hi : Inv db P)
    (hl : db.cell t p x = some l) (hno : ∀ d ∈ P, ¬ d.atCell t p x (specCl P t p)) :
    l.clk.colv = 0 := by
  obtain ⟨rfl, _, hci⟩ := hi.cellInv hl
  exact hci.att.resolve_left (fun ⟨c, hc, hat, _⟩ => hno c hc hat)

theorem Inv.no_change_of_zero {db : Db} {P : List Chg} (hi : Inv db P) (hwf : ∀ c ∈ P, c.WF)
    {t p x : String} {l : Cell} (hl : db.cell t p x = some l) (hz : l.clk.colv = 0) :
    ∀ d ∈ P, ¬ d.atCell t p x (specCl P t p) := by
  intro d hd hat
  obtain ⟨rfl, _, hci⟩ := hi.cellInv hl
  have hub := hci.ub d hd hat
  have hdv : 1 ≤ d.colv := hwf d hd (by rw [hat.cid]; exact hci.notSent)
  -- `by exact`: as in `Inv.cell_eq`
  rw [keyLt_of_colv_zero hz (by exact hdv)] at hub
  cases hub

end Corro.Crdt
