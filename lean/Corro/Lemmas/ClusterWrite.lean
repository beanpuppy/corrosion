/-
C01 with crashes — a local write preserves the node invariant.
For the bookkeeping it is the micro-step of a batch that books a version as a whole, on the log extended
by the transaction: the own version is beyond the old head, so nothing of it is buffered, in the rows or
partial.  It also moves the node's own db-version row to the new version or beyond.
-/
import Corro.Lemmas.ClusterStep
import Corro.Lemmas.ClusterFullGI

namespace Corro.ClusterSys.Crash
open Corro.Crdt Corro.Node Corro.ClusterSys

theorem dropPartials_of_none {b : Booked} {v : Nat} (h : b.partial? v = none) : b.dropPartials v v = b := by
  unfold Booked.partial? at h
  have hf : b.partials.find? (·.1 = v) = none := by
    cases hx : b.partials.find? (·.1 = v) with
    | none => rfl
    | some e => rw [hx] at h; cases h
  have : b.partials.filter (fun e => !(decide (v ≤ e.1) && decide (e.1 ≤ v))) = b.partials := by
    refine List.filter_eq_self.mpr (fun e he => ?_)
    have hne : ¬ e.1 = v := by simpa using List.find?_eq_none.mp hf e he
    simp only [Bool.not_eq_true', Bool.and_eq_false_iff, decide_eq_false_iff_not]
    omega
  unfold Booked.dropPartials
  rw [this]

theorem _root_.Corro.Node.BkStep.heldL {bk : Nat → Booked} {rows rows' : List SeqRow} {a lo hi : Nat} {B' : Booked}
    (hs : BkStep (bk a) B' lo hi) {a' w : Nat} (hout : ¬ (a' = a ∧ lo ≤ w ∧ w ≤ hi))
    (hrows : HasRowsL rows' a' w ↔ HasRowsL rows a' w) :
    HeldL (ovr bk a B') rows' a' w ↔ HeldL bk rows a' w := by
  unfold HeldL
  rw [hrows]
  by_cases ha : a' = a
  · subst ha
    have hw : ¬ (lo ≤ w ∧ w ≤ hi) := fun h => hout ⟨rfl, h⟩
    rw [ovr_same, hs.part w hw, hs.cv w]
    exact and_congr_left (fun _ => or_iff_right hw)
  · rw [ovr_other _ _ _ ha]

/-- **a local write**, through `Full.gi_cleared` on the extended log.  In this order: the invariant; what
is held (the new version, and what was); the partials are as before; `id` and `alive` are as before; the
db-version rows only grow; the own one reaches `ver` -/
theorem cinv_write {D : Prop} {L : Log} {n n' : Node} {R : List Chg} {stmts : List Stmt}
    {ver : Nat} {chs : List Chg} (hN : NInv L n R) (hI : CInv (fun _ _ => D) L n R)
    (hw : n.localWrite stmts = .ok (n', some (ver, chs)))
    (hL : LogOK (((n.id, ver), chs) :: L)) :
    CInv (fun _ _ => D) (((n.id, ver), chs) :: L) n' (chs ++ R) ∧
    (∀ a' w, Held n' a' w ↔ (a' = n.id ∧ ver ≤ w ∧ w ≤ ver) ∨ Held n a' w) ∧
    (∀ a' w, (n'.booked a').partial? w = (n.booked a').partial? w) ∧
    n'.id = n.id ∧ n'.alive = n.alive ∧ (∀ a', dbvOf n a' ≤ dbvOf n' a') ∧ ver ≤ dbvOf n' n.id := by
  obtain ⟨db', _, hn'⟩ := localWrite_ok hw
  -- `LogOK` of a log with a new first entry: its version is the next of its site (`.2.1`), its changes
  -- carry that site and version (`.2.2.1`)
  have hver : ver = L.head n.id + 1 := hL.2.1
  have hmaxle := hI.head_le n.id
  -- no partial and no row of the own version: it is beyond the old head
  have hnone : ((n.booked n.id).insertDb [(ver, ver)]).partial? ver = none := by
    rw [partial?_insertDb]
    cases hp : (n.booked n.id).partial? ver with
    | none => rfl
    | some p =>
      have := ((containsVersion_iff _ _).mp (hI.part_known n.id ver p hp)).2
      omega
  have hbk : n'.booked = ovr n.booked n.id (((n.booked n.id).insertDb [(ver, ver)]).dropPartials ver ver) := by
    have hb : (({ n with db := db' } : Node).bumpDbv n.id ver).booked = n.booked :=
      funext fun a => booked_of_book (n := n) (bumpDbv_book ({ n with db := db' } : Node) n.id ver) a
    rw [dropPartials_of_none hnone, hn', booked_setBooked_ovr, hb]
    rfl
  have hrows : n'.seqRows = n.seqRows := by rw [hn', setBooked_seqRows, bumpDbv_seqRows]
  have hbuf : n'.buf = n.buf := by rw [hn', setBooked_buf, bumpDbv_buf]
  have hs := BkStep.cleared (hI.needed_wf n.id) (hI.pwf n.id) (hI.keys n.id) (Nat.le_refl ver)
  have hG := Full.gi_cleared (a := n.id) (vlo := ver) (vhi := ver) (R' := chs ++ R) (C' := [])
    (Full.gi_of_cinv (D := D) (hN.cons_log _) (hI.cons_log hN.rsub hL) (fun _ _ h => h)) hL
    (Nat.le_refl ver) (by rw [head_cons, if_pos rfl]; omega)
    (fun e he => List.mem_append_right _ he)
    (fun e he => by
      rcases List.mem_append.mp he with h | h
      · have := hL.2.2.1 e h
        exact Or.inr ⟨this.1, by rw [this.2.1]; exact Nat.le_refl _, by rw [this.2.1]; exact Nat.le_refl _⟩
      · exact Or.inl h)
    (fun w h1 h2 c hc => by
      have : w = ver := by omega
      subst this
      rw [LogOK.get_cons_new] at hc
      exact Or.inl (List.mem_append_left _ hc))
    (fun _ _ h => h) (fun _ _ h => Or.inl h)
    (fun r hr h1 h2 _ => by
      have := hI.rows_le r hr
      rw [h1] at this
      omega)
  rw [← hbk, ← hrows, ← hbuf] at hG
  have hdbv : ∀ a', dbvOf n' a' = if a' = n.id then max (dbvOf n n.id) ver else dbvOf n a' := by
    intro a'
    rw [hn', dbvOf_congr (setBooked_dbv _ _ _), dbvOf_bumpDbv]
    rfl
  refine ⟨Full.cinv_of_gi hG (fun _ => rfl) ?_ ?_, ?_, ?_, by rw [hn', setBooked_id, bumpDbv_id],
    by rw [hn', setBooked_alive, bumpDbv_alive], ?_, ?_⟩
  · rw [hn']; exact setBooked_sorted (by rw [bumpDbv_book]; exact hI.sorted) _ _
  · intro a'
    rw [hdbv a', hbk]
    have := hI.dbv_le a'
    by_cases ha : a' = n.id
    · rw [if_pos ha, ha, ovr_same, hs.max]
      rw [ha] at this; omega
    · rw [if_neg ha, ovr_other _ _ _ ha]
      exact this
  · intro a' w
    rw [held_eq, held_eq, hbk, hrows]
    by_cases hin : a' = n.id ∧ ver ≤ w ∧ w ≤ ver
    · obtain ⟨rfl, h1, h2⟩ := hin
      have hw' : w = ver := by omega
      subst hw'
      refine ⟨fun _ => Or.inl ⟨rfl, h1, h2⟩, fun _ => ⟨?_, fun p hp => ?_⟩⟩
      · rw [ovr_same]; exact (hs.cv w).mpr (Or.inl ⟨h1, h2⟩)
      · rw [ovr_same, partial?_dropPartials, if_pos ⟨h1, h2⟩] at hp; cases hp
    · exact (hs.heldL hin Iff.rfl).trans ⟨Or.inr, fun h => h.resolve_left hin⟩
  · intro a' w
    rw [hbk]
    by_cases ha : a' = n.id
    · rw [ha, ovr_same, dropPartials_of_none hnone, partial?_insertDb]
    · rw [ovr_other _ _ _ ha]
  · intro a'
    rw [hdbv a']
    split
    · rename_i h; rw [h]; omega
    · exact Nat.le_refl _
  · rw [hdbv n.id, if_pos rfl]; omega

theorem fullK_write {L : Log} {n n' : Node} {R : List Chg} {stmts : List Stmt} {ver : Nat} {chs : List Chg}
    (h : FullK L n R) (hw : n.localWrite stmts = .ok (n', some (ver, chs))) (hag : WriteAgrees n.db stmts)
    (hL : LogOK (((n.id, ver), chs) :: L)) : FullK (((n.id, ver), chs) :: L) n' (chs ++ R) :=
  have ⟨hc, _, _, _, hal, _⟩ := cinv_write h.1 h.2 hw hL
  ⟨ninv_write h.1 hw hag hL, hc.mono (fun _ _ h' => by rw [hal]; exact h')⟩

end Corro.ClusterSys.Crash
