/-
`Node.deliver` preserves the consistency of durable state and memory: the fold over the actors of the
batch, the clear jobs, and the re-applies of versions whose partial became complete.
-/
import Corro.Lemmas.NodeActor
namespace Corro.Node
open Corro.Crdt

variable {L : Nat → Nat → Nat} {n : Node}

/-- What `processActor` returns (`r`: node, scheduled applies, clear jobs) for a consistent actor `site`
of `n`.  The actor: consistent with its clear jobs pending (`cons`); jobs and applies are its own
(`clears`, `apps`).  The frame: every `other` actor, `alive`, `id`, `sorted`.  `np` is what "nothing
pending" hangs on: a complete partial was complete before (and has rows only if it had), or its apply
is scheduled. -/
structure ActorSpec (L : Nat → Nat → Nat) (n : Node) (site : Nat)
    (r : Node × List (Nat × Nat) × List (Nat × Nat × Nat)) : Prop where
  cons : ConsP L r.1 site (r.2.2.map (·.2))
  clears : ∀ c ∈ r.2.2, c.1 = site
  other : ∀ a, a ≠ site → SameActor n r.1 a
  alive : r.1.alive = n.alive
  id : r.1.id = n.id
  sorted : n.book.Pairwise (fun x y => x.1 < y.1) → r.1.book.Pairwise (fun x y => x.1 < y.1)
  apps : ∀ t ∈ r.2.1, t.1 = site
  np : ∀ v p, (r.1.booked site).partial? v = some p → p.complete = true →
    (∃ p0, (n.booked site).partial? v = some p0 ∧ p0.complete = true ∧
      (HasRows r.1 site v → HasRows n site v)) ∨ (site, v) ∈ r.2.1

theorem processActor_spec {site : Nat} (hc : ConsA L n site)
    (items : List Item) (hwf : ∀ it ∈ items, ItemWF L it ∧ it.site = site) :
    ActorSpec L n site (processActor n site items) := by
  have hti := txFold_TI hc items hwf
  have hci := committed_CI hc hti
  obtain ⟨⟨bk, hN⟩, hbk, hbko, h2, hsorted⟩ := processActor_obs n site items
  generalize txFold n site items = st at hti hci hN hbk h2
  generalize processActor n site items = r at hN hbk hbko h2 hsorted
  obtain ⟨N, ap, cl⟩ := r
  obtain ⟨rfl, rfl⟩ : ap = (committed n site st).2 ∧ cl = st.clears := Prod.mk.inj h2
  have hN : N = { st.node with book := bk } := hN
  subst hN
  refine ⟨cons_after_tx hc hti _ rfl rfl rfl hbk, fun c hcm => (hti.clearsFrom c hcm).1, ?_, hti.alive,
    hti.id, hsorted, fun t ht => (hci.app_site t ht).1, ?_⟩
  · intro a ha
    obtain ⟨o1, o2, o3⟩ := hti.other a ha
    exact ⟨hbko a ha, o1, o2, o3⟩
  · intro v p hp hcomp
    rw [show ({ st.node with book := bk } : Node).booked site = _ from hbk] at hp
    rcases hci.app_complete v p hp hcomp with ⟨p0, hp0, hc0⟩ | h1
    · rw [partial?_insertDb] at hp0
      refine Or.inl ⟨p0, hp0, hc0, fun hr => ?_⟩
      exact ((hti.hasRows_iff hc v).mp hr).resolve_right (hti.no_chunk_of_complete hp0 hc0)
    · exact Or.inr h1

/-- `ActorSpec` along the fold over the actors of a batch: `done` are the actors visited, `acc` the node,
applies and clear jobs so far.  Every actor is consistent with its own clear jobs pending (`cons`); an
actor not visited yet is as in `n` (`fresh`); jobs and applies belong to visited actors (`clrs`,
`apps`); `np` as in `ActorSpec`, for every actor. -/
structure DI (L : Nat → Nat → Nat) (n : Node) (done : List Nat)
    (acc : Node × List (Nat × Nat) × List (Nat × Nat × Nat)) : Prop where
  cons : ∀ a, ConsP L acc.1 a (clearsOf acc.2.2 a)
  sorted : acc.1.book.Pairwise (fun x y => x.1 < y.1)
  alive : acc.1.alive = n.alive
  id : acc.1.id = n.id
  fresh : ∀ a, a ∉ done → SameActor n acc.1 a
  clrs : ∀ c ∈ acc.2.2, c.1 ∈ done
  apps : ∀ t ∈ acc.2.1, t.1 ∈ done
  np : ∀ a v p, (acc.1.booked a).partial? v = some p → p.complete = true →
    (∃ p0, (n.booked a).partial? v = some p0 ∧ p0.complete = true ∧
      (HasRows acc.1 a v → HasRows n a v)) ∨ (a, v) ∈ acc.2.1

theorem DI.step {done : List Nat}
    {acc : Node × List (Nat × Nat) × List (Nat × Nat × Nat)} (h : DI L n done acc) (s : Nat)
    (hs : s ∉ done) (items : List Item) (hwf : ∀ it ∈ items, ItemWF L it ∧ it.site = s) :
    DI L n (done ++ [s])
      ((processActor acc.1 s items).1, acc.2.1 ++ (processActor acc.1 s items).2.1,
        acc.2.2 ++ (processActor acc.1 s items).2.2) := by
  have hcl0 : clearsOf acc.2.2 s = [] :=
    clearsOf_other (fun c hc hcs => hs (hcs ▸ h.clrs c hc))
  have hcs : ConsA L acc.1 s := by have := h.cons s; rw [hcl0] at this; exact this
  have hsp := processActor_spec hcs items hwf
  generalize processActor acc.1 s items = r at hsp
  refine ⟨?_, hsp.sorted h.sorted, hsp.alive.trans h.alive, hsp.id.trans h.id, ?_, ?_, ?_, ?_⟩
  · intro a
    simp only
    rw [clearsOf_append]
    by_cases ha : a = s
    · subst ha
      rw [hcl0, clearsOf_same hsp.clears, List.nil_append]
      exact hsp.cons
    · rw [clearsOf_other (cl := r.2.2) (fun c hc hca => ha (hca.symm.trans (hsp.clears c hc))), List.append_nil]
      exact (h.cons a).transfer (hsp.other a ha)
  · intro a ha
    simp only [List.mem_append, List.mem_singleton, not_or] at ha
    exact (h.fresh a ha.1).trans (hsp.other a ha.2)
  · intro c hc
    simp only at hc
    rcases List.mem_append.mp hc with hc' | hc'
    · exact List.mem_append.mpr (Or.inl (h.clrs c hc'))
    · rw [hsp.clears c hc']; simp
  · intro t ht
    simp only at ht
    rcases List.mem_append.mp ht with ht' | ht'
    · exact List.mem_append.mpr (Or.inl (h.apps t ht'))
    · rw [hsp.apps t ht']; simp
  · intro a v p hp hcomp
    simp only at hp ⊢
    by_cases ha : a = s
    · subst ha
      have hfr := h.fresh a hs
      rcases hsp.np v p hp hcomp with ⟨p0, hp0, hc0, hr0⟩ | h1
      · left
        rw [hfr.booked] at hp0
        exact ⟨p0, hp0, hc0, fun hr => (hfr.hasRows v).mp (hr0 hr)⟩
      · right; exact List.mem_append.mpr (Or.inr h1)
    · have hsa := hsp.other a ha
      rw [hsa.booked] at hp
      rcases h.np a v p hp hcomp with ⟨p0, hp0, hc0, hr0⟩ | h1
      · left
        exact ⟨p0, hp0, hc0, fun hr => hr0 ((hsa.hasRows v).mp hr)⟩
      · right; exact List.mem_append.mpr (Or.inl h1)

theorem DI.init (hc : Consistent L n) : DI L n [] (n, [], []) :=
  ⟨hc.actor, hc.sorted, rfl, rfl, fun a _ => SameActor.refl n a, fun _ hc' => (List.not_mem_nil hc').elim,
    fun _ ht => (List.not_mem_nil ht).elim, fun _ _ p hp hcomp => Or.inl ⟨p, hp, hcomp, fun h => h⟩⟩

theorem unknownOf_share_wf {batch : List Item}
    (hwf : ∀ it ∈ batch, ItemWF L it) (s : Nat) :
    ∀ it ∈ (unknownOf n batch).filter (·.site = s), ItemWF L it ∧ it.site = s := fun it hit =>
  ⟨hwf it (mem_unknownOf (List.mem_filter.mp hit).1), of_decide_eq_true (List.mem_filter.mp hit).2⟩

theorem deliverFold_DI (hc : Consistent L n) (batch : List Item)
    (hwf : ∀ it ∈ batch, ItemWF L it) :
    DI L n (sitesOf (unknownOf n batch)) (deliverFold n batch) :=
  foldl_inv_prefix (sitesOf (unknownOf n batch)) (actorStep (unknownOf n batch)) (n, [], [])
    (DI L n) (DI.init hc)
    (fun _ s _ _ hl hacc => hacc.step s (sitesOf_fresh hl) _ (unknownOf_share_wf hwf s))

theorem ConsP.clearAll {a : Nat} {cl : List (Nat × Nat × Nat)}
    (h : ConsP L n a (clearsOf cl a)) : ConsA L (clearAll n cl) a :=
  h.dropRows (Covered (clearsOf cl a)) (booked_clearAll n cl a) (dbvOf_congr (clearAll_dbv n cl) a)
    (fun _ hr => hr ▸ mem_clearAll_rows) (fun _ hc => hc ▸ mem_clearAll_buf)
    (fun v hv p hp => by rw [h.cleared_none v hv] at hp; cases hp) (fun _ hv => Or.inl hv)
    (fun v hv => absurd hv (not_covered_nil v))
    (fun _ hv hn => absurd hv hn)

theorem ConsP.record {n N : Node} {a v : Nat} {cl : List (Nat × Nat)}
    (h : ConsP L n a cl) (hbk : N.booked a = (n.booked a).insertDb [(v, v)])
    (hrows : N.seqRows = n.seqRows) (hbuf : N.buf = n.buf)
    (hdbv : dbvOf N a = Nat.max (dbvOf n a) v) : ConsP L N a cl := by
  have hmax : (N.booked a).max = Nat.max (n.booked a).max v := by
    rw [hbk, insertDb_single_max]
  have hpart : ∀ w, (N.booked a).partial? w = (n.booked a).partial? w := fun w => by
    rw [hbk, partial?_insertDb]
  have hHR : ∀ w, HasRows N a w ↔ HasRows n a w := fun w => by unfold HasRows; rw [hrows]
  have hfw : ∀ r ∈ [(v, v)], r.1 ≤ r.2 := fun r hr => by rw [List.mem_singleton.mp hr]; exact Nat.le_refl v
  have hle : (n.booked a).max ≤ (N.booked a).max := hmax ▸ Nat.le_max_left _ _
  refine ⟨hbk ▸ insertDb_pwf h.pwf _, hbk ▸ insertDb_keysSorted h.keys _, hrows ▸ h.rows_fwd,
    fun w p hp => h.part_last w p (hpart w ▸ hp), ?_, fun w p hp hnr =>
      h.norows_part w p (hpart w ▸ hp) (fun hr => hnr ((hHR w).mpr hr)),
    fun w hw => (hpart w).trans (h.cleared_none w hw), hrows ▸ hbuf ▸ h.buf_cov, ?_,
    fun r hr hs => Nat.le_trans (h.rows_le r (hrows ▸ hr) hs) hle, ?_,
    hbk ▸ insertDb_needed_wf h.needed_wf _ hfw, ?_⟩
  · intro w hw
    rcases h.rows_part w ((hHR w).mp hw) with h1 | ⟨p, hp, hm⟩
    · exact Or.inl h1
    · exact Or.inr ⟨p, (hpart w).trans hp, hrows ▸ hm⟩
  · rw [hdbv, hmax]
    exact Nat.max_le.mpr ⟨Nat.le_trans h.dbv_le (Nat.le_max_left _ _), Nat.le_max_right _ _⟩
  · rw [hdbv, hmax, hrows]
    by_cases hv : v ≤ (n.booked a).max
    · rw [show Nat.max (n.booked a).max v = _ from Nat.max_eq_left hv]
      rcases h.max_att with h1 | h1
      · exact Or.inl (Nat.le_trans h1 (Nat.le_max_left _ _))
      · exact Or.inr h1
    · exact Or.inl (Nat.max_le.mpr ⟨Nat.le_trans (Nat.le_of_not_le hv) (Nat.le_max_right _ _),
        Nat.le_max_right _ _⟩)
  · intro w p hp
    have hk := h.part_known w p (hpart w ▸ hp)
    refine ⟨Nat.le_trans hk.1 hle, ?_⟩
    rw [hbk, mem_insertDb_needed h.needed_wf _ hfw (List.cons_ne_nil _ _)]
    rintro ⟨h1 | h1, _⟩
    · exact hk.2 h1
    · exact absurd (Nat.le_trans h1.1 hk.1) (Nat.not_succ_le_self _)

theorem ConsP.clearApplied {a v : Nat} {p : Partial}
    (h : ConsA L n a) (hp : (n.booked a).partial? v = some p) (hcomp : p.complete = true)
    (hdv : v ≤ dbvOf n a) : ConsA L (n.clearMeta a v v) a := by
  have hkey : ∀ k w : Nat, k = a → (¬ (k = a ∧ v ≤ w ∧ w ≤ v) ↔ ¬ w = v) := fun k w hk =>
    not_congr ⟨fun h1 => Nat.le_antisymm h1.2.2 h1.2.1, fun h1 => ⟨hk, Nat.le_of_eq h1.symm, Nat.le_of_eq h1⟩⟩
  refine h.dropRows (· = v) rfl rfl (fun r hr => mem_clearMeta_rows.trans (and_congr_right fun _ => hkey _ _ hr))
    (fun c hc => mem_clearMeta_buf.trans (and_congr_right fun _ => hkey _ _ hc)) ?_
    (fun w hw => absurd hw (not_covered_nil w)) (fun _ hw => hw) (fun w hw _ hm => Nat.le_trans hm (hw ▸ hdv))
  rintro w rfl q hq
  rw [hp] at hq; cases hq; exact hcomp

theorem sameActor_clearMeta (n : Node) {a a' : Nat} (ha : a' ≠ a) (lo hi : Nat) :
    SameActor n (n.clearMeta a lo hi) a' :=
  ⟨rfl, fun _ hr => mem_clearMeta_rows.trans (and_iff_left fun h => ha (hr.symm.trans h.1)),
    fun _ hc => mem_clearMeta_buf.trans (and_iff_left fun h => ha (hc.symm.trans h.1)), rfl⟩

theorem applyBuffered_consA (hc : ∀ a, ConsA L n a) (a v : Nat)
    (a' : Nat) : ConsA L (n.applyBuffered a v) a' := by
  rcases applyBuffered_cases n a v with ⟨h1, _⟩ | ⟨p, hp, hcomp, h1⟩ <;> rw [h1]
  · exact hc a'
  · have hd := dbvOf_applyCore n a v a'
    by_cases ha : a' = a
    · subst ha
      rw [if_pos rfl] at hd
      refine ((hc a').record (applyCore_booked_same n a' v) (applyCore_seqRows n a' v)
        (applyCore_buf n a' v) hd).clearApplied ?_ hcomp (hd ▸ Nat.le_max_right _ _)
      rw [applyCore_booked_same, partial?_insertDb]; exact hp
    · rw [if_neg ha] at hd
      exact ((hc a').transfer ⟨applyCore_booked_other n a v a' ha,
        fun _ _ => by rw [applyCore_seqRows], fun _ _ => by rw [applyCore_buf], hd⟩).transfer
          (sameActor_clearMeta _ ha v v)

theorem applyBuffered_consistent (hc : Consistent L n) (a v : Nat) :
    Consistent L (n.applyBuffered a v) :=
  ⟨fun a' => applyBuffered_consA hc.actor a v a', applyBuffered_sorted hc.sorted a v⟩

theorem applyAll_consistent (hc : Consistent L n) (ap : List (Nat × Nat)) :
    Consistent L (applyAll n ap) := by
  induction ap generalizing n with
  | nil => exact hc
  | cons t ap ih => exact ih (applyBuffered_consistent hc t.1 t.2)

theorem not_hasRows_applyBuffered {a v : Nat} {p : Partial}
    (hp : (n.booked a).partial? v = some p) (hc : p.complete = true) :
    ¬ HasRows (n.applyBuffered a v) a v := by
  rw [applyBuffered_complete n a v p hp hc]
  rintro ⟨r, hr, hs, hv⟩
  exact (mem_clearMeta_rows.mp hr).2 ⟨hs, by omega, by omega⟩

theorem not_hasRows_applyAll {ap : List (Nat × Nat)} {a v : Nat} {p : Partial}
    (hp : (n.booked a).partial? v = some p) (hc : p.complete = true) (hm : (a, v) ∈ ap) :
    ¬ HasRows (applyAll n ap) a v := by
  induction ap generalizing n with
  | nil => cases hm
  | cons t ap ih =>
    show ¬ HasRows (applyAll (n.applyBuffered t.1 t.2) ap) a v
    rcases List.mem_cons.mp hm with rfl | hm'
    · intro h
      exact not_hasRows_applyBuffered hp hc (hasRows_applyAll_sub h)
    · exact ih (by rw [partial?_applyBuffered]; exact hp) hm'

/-- the node after the transaction(s) and the clear jobs, before the re-applies -/
def preApply (n : Node) (batch : List Item) : Node :=
  clearAll (deliverFold n batch).1 (deliverFold n batch).2.2

theorem deliver_eq_preApply (n : Node) (batch : List Item) :
    n.deliver batch =
      if (preApply n batch).alive then applyAll (preApply n batch) (deliverFold n batch).2.1
      else preApply n batch := deliver_eq' n batch

theorem preApply_alive (hc : Consistent L n) (batch : List Item)
    (hwf : ∀ it ∈ batch, ItemWF L it) : (preApply n batch).alive = n.alive := by
  unfold preApply; rw [clearAll_alive]; exact (deliverFold_DI hc batch hwf).alive

theorem preApply_consistent (hc : Consistent L n) (batch : List Item)
    (hwf : ∀ it ∈ batch, ItemWF L it) : Consistent L (preApply n batch) := by
  have hdi := deliverFold_DI hc batch hwf
  exact ⟨fun a => (hdi.cons a).clearAll, by unfold preApply; rw [clearAll_book]; exact hdi.sorted⟩

theorem deliver_consistent' (hc : Consistent L n) (batch : List Item)
    (hwf : ∀ it ∈ batch, ItemWF L it) : Consistent L (n.deliver batch) := by
  rw [deliver_eq_preApply]
  split
  · exact applyAll_consistent (preApply_consistent hc batch hwf) _
  · exact preApply_consistent hc batch hwf

theorem preApply_np (hc : Consistent L n) (batch : List Item)
    (hwf : ∀ it ∈ batch, ItemWF L it) (hnp : NoPending n) (a v : Nat) (p : Partial)
    (hp : ((preApply n batch).booked a).partial? v = some p) (hcomp : p.complete = true)
    (hr : HasRows (preApply n batch) a v) : (a, v) ∈ (deliverFold n batch).2.1 := by
  have hdi := deliverFold_DI hc batch hwf
  rw [show (preApply n batch).booked a = _ from booked_clearAll _ _ a] at hp
  rcases hdi.np a v p hp hcomp with ⟨p0, hp0, hc0, hr0⟩ | h1
  · exfalso
    apply hnp a v p0 hp0 hc0
    apply hr0
    obtain ⟨r, hr1, hr2⟩ := hr
    exact ⟨r, (mem_clearAll_rows.mp hr1).1, hr2⟩
  · exact h1

theorem deliver_noPending' (hc : Consistent L n) (batch : List Item)
    (hwf : ∀ it ∈ batch, ItemWF L it) (hal : n.alive = true) (hnp : NoPending n) :
    NoPending (n.deliver batch) := by
  rw [deliver_eq_preApply, preApply_alive hc batch hwf, hal]
  simp only [if_true]
  intro a v p hp hcomp
  rw [partial?_applyAll] at hp
  by_cases hr : HasRows (preApply n batch) a v
  · exact not_hasRows_applyAll hp hcomp (preApply_np hc batch hwf hnp a v p hp hcomp hr)
  · exact fun h => hr (hasRows_applyAll_sub h)

end Corro.Node
