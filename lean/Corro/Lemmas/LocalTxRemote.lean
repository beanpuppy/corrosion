/-
Remote versions on the node (C07): merging changes of OTHER actors creates no clock entry attributed
to the own site (`merge_clocks`), so it keeps the own version counter, the own bookkeeping and the
invariants `DbOk` / `Good`.
-/
import Corro.Lemmas.LocalTx
namespace Corro.Crdt

theorem rowClocks_resurrect {o : Option Row} {c : Chg} {k : Clock} (h : k ∈ rowClocks (resurrect o c)) :
    k.site = c.site ∨ ∃ r, o = some r ∧ ∃ k' ∈ rowClocks r, k'.site = k.site ∧ k'.dbv = k.dbv := by
  unfold rowClocks at h
  rw [resurrect_cells] at h
  simp only [resurrect, Option.toList, List.mem_append, List.mem_cons, List.mem_map] at h
  rcases h with h | ⟨x, hx, rfl⟩
  · rcases h with rfl | h
    · exact Or.inl rfl
    · cases h
  · cases o with
    | none => cases hx
    | some r =>
      simp only [] at hx
      split at hx
      · obtain ⟨y, hy, rfl⟩ := List.mem_map.mp hx
        exact Or.inr ⟨r, rfl, y.clk, List.mem_append_right _ (List.mem_map_of_mem hy), rfl, rfl⟩
      · cases hx

theorem mergeRow_clocks {o : Option Row} {c : Chg} {s : Nat} {r' : Row} (hc : c.site ≠ s)
    (h : mergeRow o c = some r') :
    ∀ k ∈ rowClocks r', k.site = s →
      ∃ r, o = some r ∧ ∃ k' ∈ rowClocks r, k'.site = s ∧ k'.dbv = k.dbv := by
  refine mergeRow_written (Q := fun x => ∀ k ∈ rowClocks x, k.site = s →
    ∃ r, o = some r ∧ ∃ k' ∈ rowClocks r, k'.site = s ∧ k'.dbv = k.dbv) ?_ ?_ ?_ ?_ ?_ h
  · intro k hk; cases hk
  · intro k hk hs
    rw [List.mem_singleton.mp hk] at hs
    exact absurd hs hc
  · intro k hk hs
    rcases rowClocks_resurrect hk with h1 | ⟨r, hr, k', hk', h1, h2⟩
    · exact absurd (h1.symm.trans hs) hc
    · exact ⟨r, hr, k', hk', h1.trans hs, h2⟩
  · exact fun r hr k hk hs => ⟨r, hr, k, hk, hs, rfl⟩
  · intro x hx k hk hs
    rcases mem_rowClocks_setCell hk with rfl | hk
    · exact absurd hs hc
    · exact hx k hk hs

theorem merge_clocks {db : Db} {c : Chg} {s : Nat} (hc : c.site ≠ s) :
    ∀ k ∈ dbClocks (merge db c), k.site = s → ∃ k' ∈ dbClocks db, k'.site = s ∧ k'.dbv = k.dbv := by
  intro k hk hs
  rcases merge_cases db c with ⟨_, he⟩ | ⟨r', hm, _, _, he⟩ <;> rw [he] at hk
  · exact ⟨k, hk, hs, rfl⟩
  · obtain ⟨x, hx, hkx⟩ := mem_dbClocks.mp hk
    rcases mem_rows_setRow hx with rfl | hx
    · obtain ⟨r, hr, k', hk', h1, h2⟩ := mergeRow_clocks hc hm k hkx hs
      exact ⟨k', mem_dbClocks.mpr ⟨r, (findRow_some hr).2.2, hk'⟩, h1, h2⟩
    · exact ⟨k, mem_dbClocks.mpr ⟨x, hx, hkx⟩, hs, rfl⟩

theorem DbOk.merge {db : Db} (h : DbOk db) {c : Chg} (hc : c.site ≠ db.site) : DbOk (Crdt.merge db c) := by
  refine ⟨merge_noDup c h.nodup, ?_⟩
  intro k hk hs
  rw [merge_site] at hs
  obtain ⟨k', hk', h1, h2⟩ := merge_clocks hc k hk hs
  rw [merge_dbv, ← h2]
  exact h.le k' hk' h1

theorem DbOk.mergeAll {cs : List Chg} {db : Db} (h : DbOk db) (hc : ∀ c ∈ cs, c.site ≠ db.site) :
    DbOk (Crdt.mergeAll db cs) := by
  induction cs generalizing db with
  | nil => exact h
  | cons c cs ih =>
    have hc' := List.forall_mem_cons.mp hc
    exact ih (h.merge hc'.1) (fun d hd => by rw [merge_site]; exact hc'.2 d hd)

end Corro.Crdt

namespace Corro.LocalTx
open Corro.Crdt Corro.Node

theorem remote_own (n : LNode) (chs : List Chg) : (n.remote chs).own = n.own := by
  unfold LNode.own LNode.remote Node.booked
  simp only [mergeChanges_id, mergeChanges_book]

theorem remote_dbv (n : LNode) (chs : List Chg) : (n.remote chs).node.db.dbv = n.node.db.dbv := by
  show (n.node.mergeChanges chs).db.dbv = _
  rw [mergeChanges_db, mergeAll_dbv]

theorem good_remote {n : LNode} (hg : Good n) {chs : List Chg} (hc : ∀ c ∈ chs, c.site ≠ n.node.id) :
    Good (n.remote chs) := by
  have hm := hg.db.mergeAll (cs := chs) (fun c hcs => by rw [hg.site]; exact hc c hcs)
  refine ⟨?_, ?_, ?_, ?_⟩
  · show (n.node.mergeChanges chs).db.site = (n.node.mergeChanges chs).id
    rw [mergeChanges_db, mergeChanges_id, mergeAll_site]; exact hg.site
  · show DbOk (n.node.mergeChanges chs).db
    rw [mergeChanges_db]; exact hm
  · rw [remote_own]; exact hg.needed
  · rw [remote_own, remote_dbv]; exact hg.max

end Corro.LocalTx
