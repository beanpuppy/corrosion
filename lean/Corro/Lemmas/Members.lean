/-
For C18.  Every fact about `run ops` / `specRun ops` is by induction on the notifications received so
far, newest last (`snoc_induction`): a step of the member table or of the specification fold only looks
at, and only changes, what belongs to the actor (or the address) the notification is about, so each step
lemma is about that one entry.  First the sorted association lists (`Map`): `get` after `put` / `del`.
-/
import Corro.Model.Members

namespace Corro.Members

variable {cfg : Cfg}

theorem get_put {α : Type} (k : Nat) (v : α) (m : Map α) (k' : Nat) :
    get (put k v m) k' = if k = k' then some v else get m k' := by
  induction m with
  | nil => rfl
  | cons h t ih =>
    obtain ⟨k0, v0⟩ := h
    simp only [put]
    split
    · rfl
    · split
      · subst k0; by_cases e : k = k' <;> simp [get, e]
      · simp only [get, ih]
        by_cases e : k = k'
        · subst k'; rw [if_neg (Ne.symm ‹¬k = k0›), if_pos rfl, if_pos rfl]
        · simp [e]

theorem get_del {α : Type} (k : Nat) (m : Map α) (k' : Nat) :
    get (del k m) k' = if k = k' then none else get m k' := by
  induction m with
  | nil => simp [del, get]
  | cons h t ih =>
    obtain ⟨k0, v0⟩ := h
    simp only [del]
    split
    · subst k0; rw [ih]; by_cases e : k = k' <;> simp [get, e]
    · simp only [get, ih]
      by_cases e : k = k'
      · subst k'; rw [if_neg ‹¬k0 = k›, if_pos rfl, if_pos rfl]
      · simp [e]

/-- keys strictly increasing (what a `BTreeMap` iteration yields) -/
def Sorted {α : Type} (m : Map α) : Prop := (m.map Prod.fst).Pairwise (· < ·)

theorem mem_of_get {α : Type} {m : Map α} {k : Nat} {v : α} (h : get m k = some v) : (k, v) ∈ m := by
  induction m with
  | nil => cases h
  | cons hd t ih =>
    obtain ⟨k0, v0⟩ := hd
    simp only [get] at h
    split at h
    · cases h; subst k0; exact List.mem_cons_self
    · exact List.mem_cons_of_mem _ (ih h)

theorem key_of_get {α : Type} {m : Map α} {k : Nat} (h : get m k ≠ none) : k ∈ m.map Prod.fst := by
  cases hv : get m k with
  | none => exact absurd hv h
  | some v => exact List.mem_map.mpr ⟨_, mem_of_get hv, rfl⟩

theorem get_of_mem {α : Type} {m : Map α} {k : Nat} {v : α} (hs : Sorted m) (h : (k, v) ∈ m) :
    get m k = some v := by
  induction m with
  | nil => cases h
  | cons hd t ih =>
    obtain ⟨k0, v0⟩ := hd
    obtain ⟨h1, h2⟩ := List.pairwise_cons.mp hs
    rcases List.mem_cons.mp h with e | h
    · cases e; simp [get]
    · have : k0 < k := h1 k (List.mem_map.mpr ⟨_, h, rfl⟩)
      simp only [get, if_neg (Nat.ne_of_lt this)]
      exact ih h2 h

theorem get_of_key {α : Type} {m : Map α} {k : Nat} (hs : Sorted m) (h : k ∈ m.map Prod.fst) :
    get m k ≠ none := by
  obtain ⟨⟨k', v⟩, hm, rfl⟩ := List.mem_map.mp h
  rw [get_of_mem hs hm]; nofun

theorem sorted_put {α : Type} (k : Nat) (v : α) (m : Map α) (h : Sorted m) : Sorted (put k v m) := by
  induction m with
  | nil => simp [put, Sorted]
  | cons hd t ih =>
    obtain ⟨k0, v0⟩ := hd
    obtain ⟨h1, h2⟩ := List.pairwise_cons.mp h
    simp only [put]
    split
    · refine List.pairwise_cons.mpr ⟨fun x hx => ?_, h⟩
      rcases List.mem_cons.mp hx with rfl | hx
      · assumption
      · exact Nat.lt_trans ‹k < k0› (h1 x hx)
    · split
      · subst k0; exact List.pairwise_cons.mpr ⟨h1, h2⟩
      · refine List.pairwise_cons.mpr ⟨fun x hx => ?_, ih h2⟩
        -- a key of `put k v t` is `k` or a key of `t`
        have := get_of_key (ih h2) hx
        rw [get_put] at this
        by_cases e : k = x
        · omega
        · rw [if_neg e] at this; exact h1 x (key_of_get this)

theorem sorted_del {α : Type} (k : Nat) (m : Map α) (h : Sorted m) : Sorted (del k m) := by
  induction m with
  | nil => exact h
  | cons hd t ih =>
    obtain ⟨k0, v0⟩ := hd
    obtain ⟨h1, h2⟩ := List.pairwise_cons.mp h
    simp only [del]
    split
    · exact ih h2
    · refine List.pairwise_cons.mpr ⟨fun x hx => ?_, ih h2⟩
      have := get_of_key (ih h2) hx
      rw [get_del] at this
      exact h1 x (key_of_get fun e => this (by rw [e]; split <;> rfl))

@[elab_as_elim]
theorem snoc_induction {α : Type} {P : List α → Prop} (nil : P [])
    (snoc : ∀ l a, P l → P (l ++ [a])) (l : List α) : P l := by
  have : ∀ r : List α, P r.reverse := by
    intro r
    induction r with
    | nil => exact nil
    | cons a r ih => rw [List.reverse_cons]; exact snoc _ _ ih
  exact List.reverse_reverse l ▸ this l.reverse

theorem run_snoc (ops : List Op) (op : Op) : run cfg (ops ++ [op]) = step cfg (run cfg ops) op := by
  simp [run, runFrom]

theorem specRun_snoc (ops : List Op) (op : Op) : specRun (ops ++ [op]) = specStep (specRun ops) op := by
  simp [specRun]

theorem maxTs_snoc (id : Nat) (ops : List Op) (op : Op) :
    maxTs id (ops ++ [op]) = maxStep id (maxTs id ops) op := by
  simp [maxTs]

theorem lastAbout_snoc (id ts : Nat) (ops : List Op) (op : Op) :
    lastAbout id ts (ops ++ [op]) = lastStep id ts (lastAbout id ts ops) op := by
  simp [lastAbout]

@[simp] theorem recalc_byAddr (m : Members) (a : Nat) : (recalc cfg m a).byAddr = m.byAddr := by
  unfold recalc; repeat (first | rfl | split)

@[simp] theorem recalc_rtts (m : Members) (a : Nat) : (recalc cfg m a).rtts = m.rtts := by
  unfold recalc; repeat (first | rfl | split)

/-- the ring after a recalculation that found the member: the bucket, or unchanged without samples
(`recalculate_rings` does nothing on an empty buffer) -/
def newRing (cfg : Cfg) (old : Option Nat) (buf : List Nat) : Option Nat :=
  match avgOf buf with
  | none => old
  | some avg => findBucket cfg.buckets avg 0

theorem get_recalc (m : Members) (a id : Nat) :
    get (recalc cfg m a).states id =
      if get m.byAddr a = some id then
        (get m.states id).map fun st => { st with ring := newRing cfg st.ring ((get m.rtts a).getD []) }
      else get m.states id := by
  have ha : (get m.rtts a).bind avgOf = avgOf ((get m.rtts a).getD []) := by cases get m.rtts a <;> rfl
  unfold recalc newRing
  rw [ha]
  cases hb : get m.byAddr a with
  | none => rfl
  | some id0 =>
    cases avgOf ((get m.rtts a).getD []) with
    | none =>
      dsimp only
      split
      · cases get m.states id <;> rfl
      · rfl
    | some avg =>
      dsimp only
      by_cases e : id0 = id
      · subst e
        rw [if_pos rfl]
        cases hs : get m.states id0 with
        | none => exact hs
        | some st => exact (get_put ..).trans (if_pos rfl)
      · rw [if_neg (fun h => e (Option.some.inj h))]
        cases get m.states id0 with
        | none => rfl
        | some st => exact (get_put ..).trans (if_neg e)

@[simp] theorem view_recalc (m : Members) (a id : Nat) : view (recalc cfg m a) id = view m id := by
  unfold view
  rw [get_recalc]
  split
  · cases get m.states id <;> rfl
  · rfl

theorem sorted_recalc (m : Members) (a : Nat) (h : Sorted m.states) : Sorted (recalc cfg m a).states := by
  unfold recalc
  repeat (first | exact h | exact sorted_put _ _ _ h | split)

theorem newRing_none (buf : List Nat) : newRing cfg none buf = ringOf cfg buf := by
  unfold newRing ringOf; cases avgOf buf <;> rfl

theorem newRing_nonempty (old : Option Nat) {buf : List Nat} (h : buf ≠ []) :
    newRing cfg old buf = ringOf cfg buf := by
  cases buf with
  | nil => exact absurd rfl h
  | cons x t => rfl

theorem pushSample_ne (ms : Nat) (buf : List Nat) : pushSample cfg ms buf ≠ [] := by
  have := cfg.cap_pos
  cases h : cfg.cap with
  | zero => omega
  | succ n => simp [pushSample, h]

/-- list `id` at address `a` with a fresh ring, the index entry going on top of `ba` -/
def relist (cfg : Cfg) (m : Members) (ba : Map Nat) (id a ts c : Nat) : Members :=
  recalc cfg ⟨put id ⟨a, ts, c, none⟩ m.states, put a id ba, m.rtts⟩ a

theorem addMember_eq (m : Members) (id a ts c : Nat) :
    (addMember cfg m id a ts c).1 =
      match get m.states id with
      | none => relist cfg m m.byAddr id a ts c
      | some st =>
        if st.ts < ts then
          if st.addr ≠ a then relist cfg m (dropIndex m.byAddr st.addr id) id a ts c
          else { m with states := put id { st with addr := a, ts := ts, cluster := c } m.states }
        else m := by
  unfold addMember
  cases get m.states id with
  | none => rfl
  | some st =>
    by_cases h1 : ts < st.ts
    · simp only [if_pos h1, if_neg (Nat.lt_asymm h1)]
    · by_cases h2 : st.ts < ts
      · by_cases h3 : st.addr ≠ a
        · simp only [if_neg h1, if_pos h2, if_pos h3]; rfl
        · simp only [if_neg h1, if_pos h2, if_neg h3]
      · simp only [if_neg h1, if_neg h2]

theorem get_relist (m : Members) (ba : Map Nat) (id a ts c id' : Nat) :
    get (relist cfg m ba id a ts c).states id' =
      if id = id' then some ⟨a, ts, c, ringOf cfg ((get m.rtts a).getD [])⟩ else get m.states id' := by
  unfold relist
  rw [get_recalc]
  dsimp only
  rw [get_put, get_put, if_pos rfl]
  by_cases e : id = id'
  · rw [if_pos (congrArg some e), if_pos e, if_pos e]; exact congrArg some (congrArg _ (newRing_none _))
  · rw [if_neg (fun h => e (Option.some.inj h)), if_neg e, if_neg e]

theorem get_states_addMember_other (m : Members) (id a ts c id' : Nat) (hne : id ≠ id') :
    get (addMember cfg m id a ts c).1.states id' = get m.states id' := by
  rw [addMember_eq]
  cases get m.states id with
  | none => exact (get_relist ..).trans (if_neg hne)
  | some st =>
    dsimp only
    split
    · split
      · exact (get_relist ..).trans (if_neg hne)
      · exact (get_put ..).trans (if_neg hne)
    · rfl

theorem get_states_removeMember_other (m : Members) (id ts id' : Nat) (hne : id ≠ id') :
    get (removeMember m id ts).1.states id' = get m.states id' := by
  unfold removeMember
  split
  · rfl
  · split
    · exact (get_del ..).trans (if_neg hne)
    · rfl

theorem view_addMember (m : Members) (id a ts c : Nat) :
    view (addMember cfg m id a ts c).1 id =
      match view m id with
      | none => some (a, ts, c)
      | some v => if v.2.1 < ts then some (a, ts, c) else some v := by
  rw [addMember_eq]
  unfold view
  cases hs : get m.states id with
  | none => dsimp only; rw [get_relist, if_pos rfl]; rfl
  | some st =>
    dsimp only
    split
    · split
      · rw [get_relist, if_pos rfl]; exact (if_pos ‹st.ts < ts›).symm
      · rw [get_put, if_pos rfl]; exact (if_pos ‹st.ts < ts›).symm
    · rw [hs]; exact (if_neg ‹¬st.ts < ts›).symm

theorem view_removeMember (m : Members) (id ts : Nat) :
    view (removeMember m id ts).1 id =
      match view m id with
      | none => none
      | some v => if v.2.1 ≤ ts then none else some v := by
  unfold removeMember view
  cases hs : get m.states id with
  | none => dsimp only; rw [hs]; rfl
  | some st =>
    dsimp only
    split
    · rw [get_del, if_pos rfl]; exact (if_pos ‹st.ts ≤ ts›).symm
    · rw [hs]; exact (if_neg ‹¬st.ts ≤ ts›).symm

/-- the record a notification carrying `(a, t, c)` leaves for its actor, given the record it had.
`entry false true` is an up and `entry false false` a down under `specStep`; `entry true true` and
`entry true false` are the same under `specStepFirst`. -/
def entry : (first up : Bool) → (a t c : Nat) → Option Ident → Ident
  | _, up, a, t, c, none => ⟨t, a, c, up⟩
  | first, up, a, t, c, some e =>
    if t < e.ts then e else if e.ts < t then ⟨t, a, c, up⟩ else
      match first, up with
      | false, true => if e.up then e else ⟨t, a, c, true⟩
      | _, _ => { e with up := up }

/-- leaving the map alone is writing back the record that is there -/
theorem get_keep {sp : Map Ident} {i : Nat} {e : Ident} (h : get sp i = some e) (id : Nat) :
    get sp id = if i = id then some e else get sp id := by
  split
  · subst id; exact h
  · rfl

theorem get_specStep_up (sp : Map Ident) (i a t c id : Nat) :
    get (specStep sp (.up i a t c)) id =
      if i = id then some (entry false true a t c (get sp i)) else get sp id := by
  simp only [specStep]
  cases he : get sp i with
  | none => exact get_put ..
  | some e =>
    simp only [entry]
    by_cases h1 : t < e.ts
    · simp only [if_pos h1]; exact get_keep he id
    · simp only [if_neg h1]
      by_cases h2 : e.ts < t
      · simp only [if_pos h2]; exact get_put ..
      · simp only [if_neg h2]
        by_cases h3 : e.up = true
        · simp only [if_pos h3]; exact get_keep he id
        · simp only [if_neg h3]; exact get_put ..

theorem get_specStepFirst_up (sp : Map Ident) (i a t c id : Nat) :
    get (specStepFirst sp (.up i a t c)) id =
      if i = id then some (entry true true a t c (get sp i)) else get sp id := by
  simp only [specStepFirst]
  cases he : get sp i with
  | none => exact get_put ..
  | some e =>
    simp only [entry]
    by_cases h1 : t < e.ts
    · simp only [if_pos h1]; exact get_keep he id
    · simp only [if_neg h1]
      by_cases h2 : e.ts < t
      · simp only [if_pos h2]; exact get_put ..
      · simp only [if_neg h2]; exact get_put ..

theorem get_specStep_down (sp : Map Ident) (i a t c id : Nat) :
    get (specStep sp (.down i a t c)) id =
      if i = id then some (entry false false a t c (get sp i)) else get sp id := by
  simp only [specStep]
  cases he : get sp i with
  | none => exact get_put ..
  | some e =>
    simp only [entry]
    by_cases h1 : t < e.ts
    · simp only [if_pos h1]; exact get_keep he id
    · simp only [if_neg h1]
      by_cases h2 : e.ts < t
      · simp only [if_pos h2]; exact get_put ..
      · simp only [if_neg h2]; exact get_put ..

theorem entry_first_down (a t c : Nat) (o : Option Ident) :
    entry true false a t c o = entry false false a t c o := by
  cases o <;> rfl

/-- what a record lists: its address, timestamp and cluster while it is up -/
def listing : Option Ident → Option (Nat × Nat × Nat)
  | none => none
  | some e => if e.up then some (e.addr, e.ts, e.cluster) else none

theorem specView_eq (sp : Map Ident) (id : Nat) : specView sp id = listing (get sp id) := by
  unfold specView listing; cases get sp id <;> rfl

theorem record_of_listed {m : Members} {id : Nat} {o : Option Ident} (h : view m id = listing o)
    {st : MemberState} (hs : get m.states id = some st) :
    ∃ e, o = some e ∧ e.up = true ∧ e.addr = st.addr ∧ e.ts = st.ts ∧ e.cluster = st.cluster := by
  unfold view at h
  rw [hs] at h
  cases o with
  | none => cases h
  | some e =>
    cases hu : e.up
    · simp [listing, hu] at h
    · simp only [listing, hu, if_true, Option.map_some, Option.some.injEq, Prod.mk.injEq] at h
      exact ⟨e, rfl, hu, h.1.symm, h.2.1.symm, h.2.2.symm⟩

theorem listed_of_record {m : Members} {id : Nat} {e : Ident} (h : view m id = listing (some e))
    (hu : e.up = true) : ∃ st, get m.states id = some st := by
  simp only [view, listing, if_pos hu] at h
  cases hs : get m.states id with
  | none => rw [hs] at h; cases h
  | some st => exact ⟨st, rfl⟩

/-- `add_member` does to a listing what an `up` does to the record, unless the record is a down of a
newer identity (which the table has forgotten) -/
theorem agree_up {a ts c : Nat} (o : Option Ident) (hF : ∀ e, o = some e → e.up = false → e.ts ≤ ts) :
    (match listing o with
     | none => some (a, ts, c)
     | some v => if v.2.1 < ts then some (a, ts, c) else some v) =
      listing (some (entry false true a ts c o)) := by
  cases o with
  | none => rfl
  | some e =>
    cases hu : e.up
    · -- the record is down: by `hF` it is not newer, so the up re-lists the actor as `add_member` does
      simp [listing, entry, hu, Nat.not_lt.mpr (hF e rfl hu)]
    · simp only [listing, entry, hu, if_true]
      by_cases h1 : ts < e.ts
      · simp [h1, hu, Nat.lt_asymm h1]
      · by_cases h2 : e.ts < ts <;> simp [h1, h2, hu]

theorem agree_down {a ts c : Nat} (o : Option Ident) :
    (match listing o with
     | none => none
     | some v => if v.2.1 ≤ ts then none else some v) = listing (some (entry false false a ts c o)) := by
  cases o with
  | none => rfl
  | some e =>
    cases hu : e.up
    · simp only [listing, entry, hu]
      by_cases h1 : ts < e.ts
      · simp [h1, hu]
      · by_cases h2 : e.ts < ts <;> simp [h1, h2]
    · simp only [listing, entry, hu, if_true]
      by_cases h1 : ts < e.ts
      · simp [h1, hu, Nat.not_le.mpr h1]
      · by_cases h2 : e.ts < ts <;> simp [h1, h2, Nat.not_lt.mp h1]

theorem agree_step (m : Members) (sp : Map Ident) (op : Op)
    (hA : ∀ id, view m id = specView sp id)
    (hF : ∀ id a ts c e, op = .up id a ts c → get sp id = some e → e.up = false → e.ts ≤ ts) (id' : Nat) :
    view (step cfg m op) id' = specView (specStep sp op) id' := by
  cases op with
  | up id a ts c =>
    rw [specView_eq, get_specStep_up]
    by_cases e : id = id'
    · subst e
      rw [if_pos rfl, ← agree_up _ (fun e => hF id a ts c e rfl), ← specView_eq, ← hA]
      exact view_addMember ..
    · rw [if_neg e, ← specView_eq, ← hA]
      exact congrArg (Option.map _) (get_states_addMember_other m id a ts c id' e)
  | down id a ts c =>
    rw [specView_eq, get_specStep_down]
    by_cases e : id = id'
    · subst e
      rw [if_pos rfl, ← agree_down, ← specView_eq, ← hA]
      exact view_removeMember ..
    · rw [if_neg e, ← specView_eq, ← hA]
      exact congrArg (Option.map _) (get_states_removeMember_other m id ts id' e)
  | rtt a ms => exact (view_recalc ..).trans (hA id')
  | ring0 c => exact hA id'

/-- The three clauses of `SpecOK` for the record `n` that `entry` makes of `o`, with `L ts` standing for
"the flag of the last notification about identity `ts` so far": `n` carries the larger timestamp; its flag
is `up` if the notification is about its identity, else `L` of it; it is the notification's identity or
the old record with a new flag. -/
theorem entry_spec (first up : Bool) (a t c : Nat) (o : Option Ident) {L : Nat → Option Bool}
    (h : ∀ e, o = some e → L e.ts = some e.up) (n : Ident) (hn : n = entry first up a t c o) :
    (some n.ts = match o.map (·.ts) with
      | none => some t
      | some m => some (max m t)) ∧
    (if t = n.ts then some up else L n.ts) = some n.up ∧
    (n = ⟨t, a, c, up⟩ ∨ ∃ e, o = some e ∧ n = { e with up := n.up }) := by
  subst hn
  cases o with
  | none => simp [entry]
  | some e =>
    obtain ⟨ets, ea, ec, eu⟩ := e
    have : L ets = some eu := h _ rfl
    rcases Nat.lt_trichotomy t ets with h1 | h1 | h1
    · simp [entry, h1, Nat.ne_of_lt h1, this, Nat.max_eq_left (Nat.le_of_lt h1)]
    · subst h1
      cases first <;> cases up
      -- the one place where the folds differ: on a tie `specStep` re-lists a record that is down
      -- under the notification's identity, `specStepFirst` only sets its flag, as a down does in both
      case false.true => cases eu <;> simp [entry]
      all_goals simp [entry]
    · simp [entry, h1, Nat.lt_asymm h1, Nat.max_eq_right (Nat.le_of_lt h1)]

/-- What the record `o` of actor `id` says after the notifications `ops`: it carries the highest identity
timestamp heard of for `id`; its flag says whether the last notification about that identity was an up;
its address and cluster are those of some notification about that identity. -/
structure SpecOK (ops : List Op) (id : Nat) (o : Option Ident) : Prop where
  newest : o.map (·.ts) = maxTs id ops
  last : ∀ e, o = some e → lastAbout id e.ts ops = some e.up
  origin : ∀ e, o = some e → ∃ op ∈ ops, notif op = some (id, e.ts, e.addr, e.cluster)

theorem SpecOK.skip {ops : List Op} {id : Nat} {o : Option Ident} (h : SpecOK ops id o) {op : Op}
    (hop : ∀ t a c, notif op ≠ some (id, t, a, c)) : SpecOK (ops ++ [op]) id o := by
  have hm : maxStep id (maxTs id ops) op = maxTs id ops := by
    cases op with
    | up i a t c => exact if_neg fun e => hop t a c (by rw [e]; rfl)
    | down i a t c => exact if_neg fun e => hop t a c (by rw [e]; rfl)
    | _ => rfl
  have hl : ∀ ts, lastStep id ts (lastAbout id ts ops) op = lastAbout id ts ops := by
    intro ts
    cases op with
    | up i a t c => exact if_neg fun e => hop t a c (by rw [e.1]; rfl)
    | down i a t c => exact if_neg fun e => hop t a c (by rw [e.1]; rfl)
    | _ => rfl
  refine ⟨by rw [maxTs_snoc, hm]; exact h.newest, fun e he => by rw [lastAbout_snoc, hl]; exact h.last e he,
    fun e he => ?_⟩
  obtain ⟨op', hm', hn'⟩ := h.origin e he
  exact ⟨op', List.mem_append_left _ hm', hn'⟩

/-- a notification about `id` itself; `hop` gives it by its flag so that ups and downs, and both folds
(`first`), are one case of `specOK_fold` -/
theorem SpecOK.touch {ops : List Op} {id : Nat} {o : Option Ident} (h : SpecOK ops id o)
    (first up : Bool) (a t c : Nat) {op : Op} (hop : op = if up then .up id a t c else .down id a t c) :
    SpecOK (ops ++ [op]) id (some (entry first up a t c o)) := by
  obtain ⟨h1, h2, h3⟩ := entry_spec first up a t c o (L := fun ts => lastAbout id ts ops) h.last _ rfl
  have hm : maxStep id (maxTs id ops) op = match maxTs id ops with
      | none => some t
      | some m => some (max m t) := by
    cases up <;> subst hop <;> exact (if_pos rfl).trans (by cases maxTs id ops <;> rfl)
  have hl : ∀ ts, lastStep id ts (lastAbout id ts ops) op =
      if t = ts then some up else lastAbout id ts ops := by
    intro ts; cases up <;> subst hop <;> simp [lastStep]
  refine ⟨?_, ?_, ?_⟩
  · rw [maxTs_snoc, hm, ← h.newest]; exact h1
  · intro e he; cases he; rw [lastAbout_snoc, hl]; exact h2
  · intro e he; cases he
    rcases h3 with hn | ⟨e, rfl, hn⟩
    · exact ⟨op, List.mem_append_right _ (List.mem_singleton_self _), by rw [hn, hop]; cases up <;> rfl⟩
    · obtain ⟨op', hm', hn'⟩ := h.origin e rfl
      exact ⟨op', List.mem_append_left _ hm', by rw [hn]; exact hn'⟩

theorem specOK_fold (f : Map Ident → Op → Map Ident) (first : Bool)
    (hup : ∀ sp i a t c id, get (f sp (.up i a t c)) id =
      if i = id then some (entry first true a t c (get sp i)) else get sp id)
    (hdown : ∀ sp i a t c id, get (f sp (.down i a t c)) id =
      if i = id then some (entry first false a t c (get sp i)) else get sp id)
    (hrest : ∀ sp op, notif op = none → f sp op = sp) (ops : List Op) (id : Nat) :
    SpecOK ops id (get (ops.foldl f []) id) := by
  induction ops using snoc_induction with
  | nil => exact ⟨rfl, nofun, nofun⟩
  | snoc ops op ih =>
    rw [List.foldl_append]
    cases op with
    | up i a t c =>
      show SpecOK _ id (get (f _ _) id)
      rw [hup]
      by_cases e : i = id
      · subst e; rw [if_pos rfl]; exact ih.touch first true a t c rfl
      · rw [if_neg e]; exact ih.skip fun _ _ _ h => by cases h; exact e rfl
    | down i a t c =>
      show SpecOK _ id (get (f _ _) id)
      rw [hdown]
      by_cases e : i = id
      · subst e; rw [if_pos rfl]; exact ih.touch first false a t c rfl
      · rw [if_neg e]; exact ih.skip fun _ _ _ h => by cases h; exact e rfl
    | rtt _ _ => show SpecOK _ id (get (f _ _) id); rw [hrest _ _ rfl]; exact ih.skip fun _ _ _ => nofun
    | ring0 _ => show SpecOK _ id (get (f _ _) id); rw [hrest _ _ rfl]; exact ih.skip fun _ _ _ => nofun

theorem spec_ok (ops : List Op) (id : Nat) : SpecOK ops id (get (specRun ops) id) :=
  specOK_fold specStep false get_specStep_up get_specStep_down
    (fun _ op h => by cases op <;> first | rfl | cases h) ops id

theorem specFirst_ok (ops : List Op) (id : Nat) : SpecOK ops id (get (specRunFirst ops) id) :=
  specOK_fold specStepFirst true get_specStepFirst_up
    (fun sp i a t c id => entry_first_down a t c _ ▸ get_specStep_down sp i a t c id)
    (fun _ op h => by cases op <;> first | rfl | cases h) ops id

theorem down_of_lastAbout {id ts : Nat} {ops : List Op} (h : lastAbout id ts ops = some false) :
    ∃ a c, Op.down id a ts c ∈ ops := by
  induction ops using snoc_induction with
  | nil => cases h
  | snoc ops op ih =>
    rw [lastAbout_snoc] at h
    have old : lastAbout id ts ops = some false → ∃ a c, Op.down id a ts c ∈ ops ++ [op] := fun h =>
      have ⟨a, c, hm⟩ := ih h
      ⟨a, c, List.mem_append_left _ hm⟩
    cases op with
    | up i a t c =>
      simp only [lastStep] at h
      split at h
      · cases h
      · exact old h
    | down i a t c =>
      simp only [lastStep] at h
      split at h
      · rename_i e; exact ⟨a, c, by rw [← e.1, ← e.2]; simp⟩
      · exact old h
    | _ => exact old h

theorem down_record_older {ops : List Op} {id a ts c : Nat} (h : Admissible (ops ++ [.up id a ts c]))
    {e : Ident} (he : get (specRun ops) id = some e) (hu : e.up = false) : e.ts ≤ ts := by
  obtain ⟨a', c', hm⟩ := down_of_lastAbout ((spec_ok ops id).last e he ▸ congrArg some hu)
  have := (List.pairwise_append.mp h).2.2 _ hm _ (List.mem_singleton_self _)
  simpa [upRespectsDown] using this

/-- Every index entry points to a listed member at that address whose ring is that of the address's
samples: `IndexSound` and `RingCurrent` in one, entry by entry — which is how `recalc` finds the
member whose ring it sets. -/
def Indexed (cfg : Cfg) (m : Members) : Prop :=
  ∀ a id, get m.byAddr a = some id →
    ∃ st, get m.states id = some st ∧ st.addr = a ∧ st.ring = ringOf cfg ((get m.rtts a).getD [])

theorem Indexed.sound {m : Members} (h : Indexed cfg m) : IndexSound m := fun a id hb =>
  have ⟨st, h1, h2, _⟩ := h a id hb
  ⟨st, h1, h2⟩

theorem Indexed.ringCurrent {m : Members} (h : Indexed cfg m) : RingCurrent cfg m := fun id st hs hb => by
  obtain ⟨st', h1, _, h3⟩ := h _ _ hb
  cases hs.symm.trans h1
  exact h3

/-- What a step does to the entries, the index and the sample buffers (everything said through `get`):
* `refresh`: the entry of `id` is rewritten in place, address and ring staying;
* `relist`: `id` is listed at `a` with the ring of `a`'s samples and `a` is indexed to it; every other
  index entry pointing to `id` goes;
* `unlist`: the entry of `id` and the index entries pointing to it go;
* `sample`: the buffer of `a` becomes the non-empty `buf`, and the member `a` is indexed to gets its ring. -/
inductive Effect (cfg : Cfg) (m m' : Members) : Prop
  | same (h : m' = m)
  | refresh (id : Nat) (st st' : MemberState) (hs : get m.states id = some st)
      (haddr : st'.addr = st.addr) (hring : st'.ring = st.ring)
      (hS : ∀ id', get m'.states id' = if id = id' then some st' else get m.states id')
      (hB : m'.byAddr = m.byAddr) (hR : m'.rtts = m.rtts)
  | relist (id a : Nat) (st' : MemberState) (haddr : st'.addr = a)
      (hring : st'.ring = ringOf cfg ((get m.rtts a).getD []))
      (hS : ∀ id', get m'.states id' = if id = id' then some st' else get m.states id')
      (hB : ∀ a' id', get m'.byAddr a' = some id' ↔
        if a = a' then id = id' else get m.byAddr a' = some id' ∧ id' ≠ id)
      (hR : m'.rtts = m.rtts)
  | unlist (id : Nat)
      (hS : ∀ id', get m'.states id' = if id = id' then none else get m.states id')
      (hB : ∀ a' id', get m'.byAddr a' = some id' ↔ get m.byAddr a' = some id' ∧ id' ≠ id)
      (hR : m'.rtts = m.rtts)
  | sample (a : Nat) (buf : List Nat) (hne : buf ≠ [])
      (hS : ∀ id', get m'.states id' =
        if get m.byAddr a = some id' then
          (get m.states id').map fun st => { st with ring := ringOf cfg buf }
        else get m.states id')
      (hB : m'.byAddr = m.byAddr)
      (hR : ∀ a', (get m'.rtts a').getD [] = if a = a' then buf else (get m.rtts a').getD [])

theorem get_dropIndex {m : Members} (hK : IndexSound m) {id : Nat} {st : MemberState}
    (hs : get m.states id = some st) (a' id' : Nat) :
    get (dropIndex m.byAddr st.addr id) a' = some id' ↔ get m.byAddr a' = some id' ∧ id' ≠ id := by
  have key : ∀ a', get m.byAddr a' = some id → a' = st.addr := fun a' hb => by
    obtain ⟨s0, h1, h2⟩ := hK a' id hb
    cases hs.symm.trans h1
    exact h2.symm
  unfold dropIndex
  split
  · rw [get_del]
    split
    · subst a'
      exact ⟨nofun, fun ⟨h1, h2⟩ => absurd (Option.some.inj (h1.symm.trans ‹_›)) h2⟩
    · exact ⟨fun h => ⟨h, fun e => ‹¬st.addr = a'› (key a' (e ▸ h)).symm⟩, And.left⟩
  · exact ⟨fun h => ⟨h, fun e => ‹¬_› (key a' (e ▸ h) ▸ e ▸ h)⟩, And.left⟩

theorem step_effect {m : Members} (hK : IndexSound m) (op : Op) : Effect cfg m (step cfg m op) := by
  cases op with
  | up id a ts c =>
    show Effect cfg m (addMember cfg m id a ts c).1
    rw [addMember_eq]
    have index : ∀ ba : Map Nat, (∀ a' id', get ba a' = some id' ↔ get m.byAddr a' = some id' ∧ id' ≠ id) →
        ∀ a' id', get (relist cfg m ba id a ts c).byAddr a' = some id' ↔
          if a = a' then id = id' else get m.byAddr a' = some id' ∧ id' ≠ id := by
      intro ba hba a' id'
      show get (recalc cfg _ a).byAddr a' = _ ↔ _
      rw [recalc_byAddr, get_put]
      split
      · exact Option.some_inj
      · exact hba a' id'
    cases hs : get m.states id with
    | none =>
      refine .relist id a ⟨a, ts, c, _⟩ rfl rfl (fun _ => get_relist ..)
        (index _ fun a' id' => ⟨fun h => ⟨h, ?_⟩, And.left⟩) (recalc_rtts ..)
      rintro rfl
      obtain ⟨st, h1, _⟩ := hK a' id' h
      cases hs.symm.trans h1
    | some st =>
      dsimp only
      split
      · split
        · exact .relist id a ⟨a, ts, c, _⟩ rfl rfl (fun _ => get_relist ..) (index _ (get_dropIndex hK hs))
            (recalc_rtts ..)
        · exact .refresh id st { st with addr := a, ts := ts, cluster := c } hs
            (Decidable.of_not_not ‹¬st.addr ≠ a›).symm rfl (fun _ => get_put ..) rfl rfl
      · exact .same rfl
  | down id a ts c =>
    show Effect cfg m (removeMember m id ts).1
    unfold removeMember
    cases hs : get m.states id with
    | none => exact .same rfl
    | some st =>
      dsimp only
      split
      · exact .unlist id (fun _ => get_del ..) (get_dropIndex hK hs) rfl
      · exact .same rfl
  | rtt a ms =>
    refine .sample a _ (pushSample_ne (cfg := cfg) ms ((get m.rtts a).getD [])) (fun id' => ?_) (recalc_byAddr ..)
      (fun a' => ?_)
    · show get (recalc cfg _ a).states id' = _
      rw [get_recalc]
      simp only [get_put, if_pos, Option.getD_some, newRing_nonempty _ (pushSample_ne _ _)]
    · show (get (recalc cfg _ a).rtts a').getD [] = _
      rw [recalc_rtts, get_put]
      split <;> rfl
  | ring0 c => exact .same rfl

theorem Indexed.effect {m m' : Members} (h : Indexed cfg m) (e : Effect cfg m m') : Indexed cfg m' := by
  intro a' id' hb'
  cases e with
  | same e => subst e; exact h a' id' hb'
  | refresh id st st' hs haddr hring hS hB hR =>
    rw [hB] at hb'
    obtain ⟨s0, h1, h2, h3⟩ := h a' id' hb'
    rw [hS, hR]
    by_cases e : id = id'
    · subst e
      cases hs.symm.trans h1
      exact ⟨st', if_pos rfl, haddr.trans h2, hring.trans h3⟩
    · exact ⟨s0, (if_neg e).trans h1, h2, h3⟩
  | relist id a st' haddr hring hS hB hR =>
    have hb := (hB a' id').mp hb'
    rw [hS, hR]
    by_cases ea : a = a'
    · subst ea
      rw [if_pos rfl] at hb
      subst hb
      exact ⟨st', if_pos rfl, haddr, hring⟩
    · rw [if_neg ea] at hb
      obtain ⟨s0, h1, h2, h3⟩ := h a' id' hb.1
      exact ⟨s0, (if_neg hb.2.symm).trans h1, h2, h3⟩
  | unlist id hS hB hR =>
    have hb := (hB a' id').mp hb'
    obtain ⟨s0, h1, h2, h3⟩ := h a' id' hb.1
    rw [hS, hR]
    exact ⟨s0, (if_neg hb.2.symm).trans h1, h2, h3⟩
  | sample a buf hne hS hB hR =>
    rw [hB] at hb'
    obtain ⟨s0, h1, h2, h3⟩ := h a' id' hb'
    rw [hS, hR]
    by_cases ea : a = a'
    · subst ea
      rw [if_pos hb', h1, if_pos rfl]
      exact ⟨_, rfl, h2, rfl⟩
    · -- `a` is not indexed to `id'`, which lives at `a'`
      have : get m.byAddr a ≠ some id' := fun hb => by
        obtain ⟨s1, h1', h2', _⟩ := h a id' hb
        cases h1.symm.trans h1'
        exact ea (h2'.symm.trans h2)
      rw [if_neg this, if_neg ea]
      exact ⟨s0, h1, h2, h3⟩

theorem DistinctAddrs.get {m : Members} (h : DistinctAddrs m) {i j : Nat} {si sj : MemberState}
    (hi : get m.states i = some si) (hj : get m.states j = some sj) (e : si.addr = sj.addr) : i = j :=
  h (i, si) (mem_of_get hi) (j, sj) (mem_of_get hj) e

theorem IndexComplete.effect {m m' : Members} (h : IndexComplete m) (hD : DistinctAddrs m')
    (e : Effect cfg m m') : IndexComplete m' := by
  intro id' s' hs'
  cases e with
  | same e => subst e; exact h id' s' hs'
  | refresh id st st' hs haddr hring hS hB hR =>
    rw [hS] at hs'
    rw [hB]
    by_cases e : id = id'
    · subst e
      cases (if_pos rfl).symm.trans hs'
      rw [haddr]; exact h id st hs
    · exact h id' s' ((if_neg e).symm.trans hs')
  | relist id a st' haddr hring hS hB hR =>
    rw [hB]
    by_cases e : id = id'
    · subst e
      cases ((hS id).trans (if_pos rfl)).symm.trans hs'
      rw [haddr, if_pos rfl]
    · have old := ((hS id').trans (if_neg e)).symm.trans hs'
      -- `id` now lives at `a`, so no other member does
      have : a ≠ s'.addr := fun ea =>
        e (hD.get ((hS id).trans (if_pos rfl)) hs' (haddr.trans ea))
      rw [if_neg this]
      exact ⟨h id' s' old, Ne.symm e⟩
  | unlist id hS hB hR =>
    rw [hS] at hs'
    by_cases e : id = id'
    · subst e; rw [if_pos rfl] at hs'; cases hs'
    · exact (hB _ _).mpr ⟨h id' s' ((if_neg e).symm.trans hs'), Ne.symm e⟩
  | sample a buf hne hS hB hR =>
    rw [hS] at hs'
    rw [hB]
    split at hs'
    · cases hs0 : get m.states id' with
      | none => rw [hs0] at hs'; cases hs'
      | some s0 => rw [hs0] at hs'; cases hs'; exact h id' s0 hs0
    · exact h id' s' hs'

theorem sorted_step (m : Members) (op : Op) (h : Sorted m.states) : Sorted (step cfg m op).states := by
  cases op with
  | up id a ts c =>
    show Sorted (addMember cfg m id a ts c).1.states
    rw [addMember_eq]
    have hr : ∀ ba, Sorted (relist cfg m ba id a ts c).states := fun _ =>
      sorted_recalc _ _ (sorted_put _ _ _ h)
    cases get m.states id with
    | none => exact hr _
    | some st =>
      dsimp only
      split
      · split
        · exact hr _
        · exact sorted_put _ _ _ h
      · exact h
  | down id a ts c =>
    show Sorted (removeMember m id ts).1.states
    unfold removeMember
    split
    · exact h
    · split
      · exact sorted_del _ _ h
      · exact h
  | rtt a ms => exact sorted_recalc _ _ h
  | ring0 c => exact h

theorem runFrom_cons (m : Members) (op : Op) (r : List Op) :
    runFrom cfg m (op :: r) = runFrom cfg (step cfg m op) r := rfl

theorem indexed_run (ops : List Op) : Indexed cfg (run cfg ops) := by
  induction ops using snoc_induction with
  | nil => exact nofun
  | snoc ops op ih => rw [run_snoc]; exact ih.effect (step_effect ih.sound op)

theorem sorted_run (ops : List Op) : Sorted (run cfg ops).states := by
  induction ops using snoc_induction with
  | nil => exact List.Pairwise.nil
  | snoc ops op ih => rw [run_snoc]; exact sorted_step _ op ih

theorem noSharedAddr_snoc {ops : List Op} {op : Op} (h : NoSharedAddr cfg (ops ++ [op])) :
    NoSharedAddr cfg ops ∧ DistinctAddrs (run cfg (ops ++ [op])) := by
  constructor
  · intro k hk
    have := h k (by simp; omega)
    rwa [List.take_append_of_le_length hk] at this
  · have := h (ops ++ [op]).length (Nat.le_refl _)
    rwa [List.take_length] at this

theorem distinct_iff_view {m : Members} (hs : Sorted m.states) :
    DistinctAddrs m ↔ ∀ i j vi vj, view m i = some vi → view m j = some vj → vi.1 = vj.1 → i = j := by
  constructor
  · intro h i j vi vj hi hj hij
    unfold view at hi hj
    cases hsi : get m.states i with
    | none => rw [hsi] at hi; cases hi
    | some si =>
      cases hsj : get m.states j with
      | none => rw [hsj] at hj; cases hj
      | some sj =>
        rw [hsi] at hi; rw [hsj] at hj
        cases hi; cases hj
        exact h.get hsi hsj hij
  · intro h kv hkv kv' hkv' heq
    exact h kv.1 kv'.1 _ _ (congrArg (Option.map _) (get_of_mem hs hkv))
      (congrArg (Option.map _) (get_of_mem hs hkv')) heq

theorem rtts_addMember (m : Members) (id a ts c : Nat) : (addMember cfg m id a ts c).1.rtts = m.rtts := by
  rw [addMember_eq]
  cases get m.states id with
  | none => exact recalc_rtts ..
  | some st =>
    dsimp only
    split
    · split
      · exact recalc_rtts ..
      · rfl
    · rfl

theorem rtts_removeMember (m : Members) (id ts : Nat) : (removeMember m id ts).1.rtts = m.rtts := by
  unfold removeMember
  repeat (first | rfl | split)

theorem samplesFor_append (a : Nat) (l1 l2 : List Op) :
    samplesFor a (l1 ++ l2) = samplesFor a l1 ++ samplesFor a l2 := by
  induction l1 with
  | nil => rfl
  | cons op r ih =>
    cases op with
    | rtt a' ms =>
      simp only [List.cons_append, samplesFor, ih]
      split <;> rfl
    | up _ _ _ _ => exact ih
    | down _ _ _ _ => exact ih
    | ring0 _ => exact ih

theorem mem_ring0 (m : Members) (c a : Nat) :
    a ∈ ring0 m c ↔ ∃ kv ∈ m.states, kv.2.addr = a ∧ kv.2.cluster = c ∧ kv.2.ring = some 0 := by
  simp only [ring0, List.mem_filterMap]
  constructor
  · rintro ⟨kv, hkv, h⟩
    refine ⟨kv, hkv, ?_⟩
    cases hr : kv.2.ring with
    | none => simp [hr] at h
    | some r =>
      simp only [hr] at h
      split at h
      · rename_i hc; simp at h; exact ⟨h, hc.1, by rw [hc.2]⟩
      · simp at h
  · rintro ⟨kv, hkv, h1, h2, h3⟩
    exact ⟨kv, hkv, by simp [h3, h2, h1]⟩

theorem findBucket_ge (bs : List (Nat × Nat)) (avg : Nat) : ∀ i j, findBucket bs avg i = some j → i ≤ j := by
  induction bs with
  | nil => intro i j h; simp [findBucket] at h
  | cons b t ih =>
    obtain ⟨lo, hi⟩ := b
    intro i j h
    simp only [findBucket] at h
    split at h
    · simp at h; omega
    · have := ih (i + 1) j h; omega

theorem findBucket_zero_iff (bs : List (Nat × Nat)) (avg : Nat) :
    findBucket bs avg 0 = some 0 ↔ inFirstBucket bs avg := by
  cases bs with
  | nil => simp [findBucket, inFirstBucket]
  | cons b t =>
    obtain ⟨lo, hi⟩ := b
    simp only [findBucket, inFirstBucket]
    constructor
    · intro h
      split at h
      · assumption
      · have := findBucket_ge _ _ _ _ h; omega
    · intro h
      rw [if_pos h]

theorem ringOf_zero_iff (buf : List Nat) :
    ringOf cfg buf = some 0 ↔ buf ≠ [] ∧ inFirstBucket cfg.buckets (buf.sum / buf.length) := by
  cases buf with
  | nil => simp [ringOf, avgOf]
  | cons x t =>
    simp only [ringOf, avgOf, List.isEmpty_cons, Bool.false_eq_true, if_false, findBucket_zero_iff]
    simp

end Corro.Members
