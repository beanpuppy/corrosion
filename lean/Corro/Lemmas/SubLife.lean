/-
Invariants of the subscription life-cycle model (`Corro/Model/SubLife.lean`): structural
well-formedness of every reachable state and the freshness invariant (materialised rows equal the
table on every key that has no candidate waiting, as long as no transaction was missed).
Both are proved over `Step`, the model's `step` read as a relation with one rule per branch; the last
part follows the binary's stop sequences to the state they all end in and through the next start.
-/
import Corro.Model.SubLife

namespace Corro.SubLife

namespace Tbl

theorem apply_not_mem (t : Tbl) (tx : Tx) (k : Nat) (h : k ∉ tx.keys) : t.apply tx k = t k := by
  induction tx generalizing t with
  | nil => rfl
  | cons a r ih =>
    exact (ih _ (List.not_mem_of_not_mem_cons h)).trans (if_neg (List.ne_of_not_mem_cons h))

end Tbl

theorem applyOne_frame (s : S) (k : Nat) : ∃ rows log, applyOne s k = { s with rows := rows, log := log } := by
  unfold applyOne; split
  · exact ⟨s.rows, s.log, rfl⟩
  · exact ⟨_, _, rfl⟩

theorem applyAll_frame (s : S) (ks : List Nat) : ∃ rows log, applyAll s ks = { s with rows := rows, log := log } := by
  induction ks generalizing s with
  | nil => exact ⟨s.rows, s.log, rfl⟩
  | cons k r ih =>
    obtain ⟨_, _, e1⟩ := applyOne_frame s k
    obtain ⟨rows, log, e2⟩ := ih (applyOne s k)
    exact ⟨rows, log, e2.trans (by rw [e1])⟩

theorem flush_eq (s : S) :
    s.flush = { s with rows := (applyAll s s.pending).rows, log := (applyAll s s.pending).log,
                       applied := s.produced, pending := [] } := by
  obtain ⟨_, _, e⟩ := applyAll_frame s s.pending
  show { applyAll s s.pending with applied := s.produced, pending := [] } = _
  rw [e]

theorem applyAll_rows (s : S) (ks : List Nat) (k : Nat) :
    (applyAll s ks).rows k = if k ∈ ks then s.db k else s.rows k := by
  induction ks generalizing s with
  | nil => rfl
  | cons a r ih =>
    show (applyAll (applyOne s a) r).rows k = _
    rw [ih]
    have hdb : (applyOne s a).db = s.db := by obtain ⟨_, _, e⟩ := applyOne_frame s a; rw [e]
    rw [hdb]
    by_cases hr : k ∈ r
    · simp [hr]
    · simp only [hr, if_false, List.mem_cons, or_false]
      by_cases hka : k = a
      · subst hka
        simp only [if_true, applyOne]
        split
        · assumption
        · simp [Tbl.set]
      · simp only [hka, if_false, applyOne]
        split
        · rfl
        · simp [Tbl.set, hka]

/-- change ids stay consecutive: every change appended gets the previous maximum + 1 -/
def Consecutive : List Nat → Prop
  | [] => True
  | [x] => x = 1
  | x :: y :: r => x = y + 1 ∧ Consecutive (y :: r)

theorem consecutive_cons {l : List Nat} (h : Consecutive l) : Consecutive ((l.headD 0 + 1) :: l) := by
  cases l with
  | nil => simp [Consecutive]
  | cons y r => simp [Consecutive, h]

theorem applyOne_consecutive (s : S) (k : Nat) (h : Consecutive s.log) : Consecutive (applyOne s k).log := by
  simp only [applyOne]; split
  · exact h
  · exact consecutive_cons h

theorem applyAll_consecutive (s : S) (ks : List Nat) (h : Consecutive s.log) :
    Consecutive (applyAll s ks).log := by
  induction ks generalizing s with
  | nil => exact h
  | cons a r ih => exact ih _ (applyOne_consecutive s a h)

/-- One rule per branch of `step`: the guard that leads to the branch as premises, the new state as
the record the branch builds, so that a field the branch does not write reduces to the field of `s`.
`ack` has a rule for each arm of its `if`. -/
inductive Step (s : S) : Op → S → Prop
  | mkdir : s.up = true → s.dir = false →
    Step s .mkdir { s with dir := true, sid := s.nextSid, nextSid := s.nextSid + 1, state := none,
                           rows := Tbl.empty, log := [], applied := 0, missed := 0 }
  | create : s.up = true → s.dir = true → s.state = none → s.reg = false → s.phase = .gone →
    Step s .create { s with state := some .created, reg := true, phase := .init, snap := s.db,
                            cancelled := false, clone := false, pending := [] }
  | initialDone : s.phase = .init →
    Step s .initialDone { s with rows := s.snap, state := some .running, phase := .loop }
  | write {tx} : s.up = true → s.onDisk = true → s.reg = true →
    Step s (.write tx) { s with db := s.db.apply tx, pending := s.pending ++ tx.keys }
  | writeMissed {tx} : s.up = true → s.onDisk = true → s.reg = false →
    Step s (.write tx) { s with db := s.db.apply tx, missed := s.missed + 1 }
  | writeNoSub {tx} : s.up = true → s.onDisk = false → Step s (.write tx) { s with db := s.db.apply tx }
  | writeHeld {tx} : s.up = true →
    Step s (.writeHeld tx) { s with db := s.db.apply tx, held := s.held ++ tx.keys }
  | matchHeld : s.up = true → s.held ≠ [] → s.reg = true →
    Step s .matchHeld { s with pending := s.pending ++ s.held, held := [] }
  | matchMissed : s.up = true → s.held ≠ [] → s.reg = false → s.onDisk = true →
    Step s .matchHeld { s with missed := s.missed + 1, held := [] }
  | matchNoSub : s.up = true → s.held ≠ [] → s.reg = false → s.onDisk = false →
    Step s .matchHeld { s with held := [] }
  | process : s.phase = .loop → s.cancelled = false → Step s .process s.flush
  | unreg {keep} : s.up = true → s.reg = true →
    Step s (.unreg keep) { s with reg := false, cancelled := true, clone := keep }
  | dropClone : s.clone = true → Step s .dropClone { s with clone := false }
  | trip : s.up = true → s.tripped = false → Step s .trip { s with tripped := true }
  | ackCancel : s.phase = .loop → s.cancelled = true →
    Step s .ack { s with phase := .drain, state := some .cancelled }
  | ackTrip : s.phase = .loop → s.cancelled = false → s.tripped = true → Step s .ack { s with phase := .drain }
  | drainEnd : s.phase = .drain → s.reg = false → s.clone = false →
    Step s .drainEnd { s.flush with state := some .completed, phase := .gone }
  | stop : s.up = true →
    Step s .stop { s with up := false, phase := .gone, reg := false, clone := false, cancelled := false,
                          tripped := false, snap := Tbl.empty, pending := [], held := [],
                          missed := if !s.held.isEmpty && s.onDisk then s.missed + 1 else s.missed }
  | restore : s.up = false → s.dir = true → s.state = some .completed →
    Step s .restart { s with up := true, reg := true, phase := .loop, state := some .running }
  | cleanup : s.up = false → s.dir = true → s.state ≠ some .completed →
    Step s .restart { s with up := true, dir := false, state := none, rows := Tbl.empty, log := [], applied := 0 }
  | start : s.up = false → s.dir = false → Step s .restart { s with up := true }

namespace Step

theorem of_step {s s' : S} {o : Op} (h : step s o = some s') : Step s o s' := by
  cases o <;> obtain ⟨g, h⟩ := Option.ite_none_right_eq_some.1 h
  case initialDone => cases h; exact .initialDone (beq_iff_eq.1 g)
  case write =>
    by_cases ho : s.onDisk = true
    · by_cases hr : s.reg = true
      · rw [if_pos ho, if_pos hr] at h; cases h; exact .write g ho hr
      · rw [if_pos ho, if_neg hr] at h; cases h; exact .writeMissed g ho (Bool.eq_false_iff.2 hr)
    · rw [if_neg ho] at h; cases h; exact .writeNoSub g (Bool.eq_false_iff.2 ho)
  case writeHeld => cases h; exact .writeHeld g
  case dropClone => cases h; exact .dropClone g
  case stop => cases h; exact .stop g
  all_goals simp only [Bool.and_eq_true, Bool.or_eq_true, Bool.not_eq_true', beq_iff_eq,
    Option.isNone_iff_eq_none, List.isEmpty_eq_false_iff] at g
  case mkdir => cases h; exact .mkdir g.1 g.2
  case create => cases h; exact .create g.1.1.1.1 g.1.1.1.2 g.1.1.2 g.1.2 g.2
  case matchHeld =>
    by_cases hr : s.reg = true
    · rw [if_pos hr] at h; cases h; exact .matchHeld g.1 g.2 hr
    · by_cases ho : s.onDisk = true
      · rw [if_neg hr, if_pos ho] at h; cases h; exact .matchMissed g.1 g.2 (Bool.eq_false_iff.2 hr) ho
      · rw [if_neg hr, if_neg ho] at h; cases h
        exact .matchNoSub g.1 g.2 (Bool.eq_false_iff.2 hr) (Bool.eq_false_iff.2 ho)
  case process => cases h; exact .process g.1 g.2
  case unreg => cases h; exact .unreg g.1 g.2
  case trip => cases h; exact .trip g.1 g.2
  case ack =>
    cases h
    by_cases hc : s.cancelled = true
    · rw [if_pos hc]; exact .ackCancel g.1 hc
    · rw [if_neg hc]; exact .ackTrip g.1 (Bool.eq_false_iff.2 hc) (g.2.resolve_left hc)
  case drainEnd => cases h; exact .drainEnd g.1.1 g.1.2 g.2
  case restart =>
    by_cases hd : s.dir = true
    · by_cases hst : s.state = some .completed
      · rw [if_pos hd, if_pos hst] at h; cases h; exact .restore g hd hst
      · rw [if_pos hd, if_neg hst] at h; cases h; exact .cleanup g hd hst
    · rw [if_neg hd] at h; cases h; exact .start g (Bool.eq_false_iff.2 hd)

end Step

structure WF (s : S) : Prop where
  phase_up      : s.phase ≠ .gone → s.up = true ∧ s.dir = true
  reg_alive     : s.reg = true → s.up = true ∧ s.phase ≠ .gone ∧ s.cancelled = false ∧ s.clone = false
  init_state    : s.phase = .init → s.state = some .created
  loop_state    : s.phase = .loop → s.state = some .running
  drain_state   : s.phase = .drain → s.state = some .running ∨ s.state = some .cancelled
  completed     : s.state = some .completed → s.phase = .gone ∧ s.reg = false ∧ s.pending = []
  created_init  : s.up = true → s.state = some .created → s.phase = .init
  clone_up      : s.clone = true → s.up = true
  flags_up      : (s.cancelled = true ∨ s.tripped = true ∨ s.held ≠ []) → s.up = true
  pending_alive : s.pending ≠ [] → s.phase ≠ .gone
  nodir         : s.dir = false → s.state = none
  ids           : Consecutive s.log
  drain_reg     : s.phase = .drain → s.reg = true → s.tripped = true
  sid_lt        : s.sid < s.nextSid

theorem init_wf : WF init := by
  constructor <;> simp [init, Consecutive]

namespace WF
variable {s : S} (h : WF s)
include h

theorem alive {p : Phase} (hp : s.phase = p) (hne : p ≠ .gone := by decide) : s.up = true ∧ s.dir = true :=
  h.phase_up (hp ▸ hne)

theorem gone_of_nodir (hd : s.dir = false) : s.phase = .gone :=
  Decidable.not_not.1 fun hp => nomatch hd.symm.trans (h.phase_up hp).2

theorem down (hu : s.up = false) :
    s.phase = .gone ∧ s.reg = false ∧ s.clone = false ∧ s.cancelled = false ∧ s.pending = [] ∧ s.held = [] := by
  have no {p : Prop} (hp : p → s.up = true) : ¬p := fun x => nomatch hu.symm.trans (hp x)
  have hg : s.phase = .gone := Decidable.not_not.1 (no fun hp => (h.phase_up hp).1)
  exact ⟨hg, Bool.eq_false_iff.2 (no fun hr => (h.reg_alive hr).1), Bool.eq_false_iff.2 (no h.clone_up),
    Bool.eq_false_iff.2 (no fun hc => h.flags_up (.inl hc)), Decidable.not_not.1 fun hp => h.pending_alive hp hg,
    Decidable.not_not.1 (no fun hh => h.flags_up (.inr (.inr hh)))⟩

theorem flush : WF s.flush := by
  rw [flush_eq]
  exact { h with
    completed := fun hc => ⟨(h.completed hc).1, (h.completed hc).2.1, rfl⟩
    pending_alive := fun hp => absurd rfl hp
    ids := applyAll_consecutive s s.pending h.ids }

end WF

/-- The new state of a rule is a record over `s`: a clause of `WF` that reads no field the rule
writes is the same clause of `h` once the projections are reduced, and `{ h with … }` leaves it to
that.  The clauses listed in a case are those that read a written field; each is vacuous or true by
the premises of the rule or by another clause of `h`.  (`created_init` and `sid_lt` support no other
clause and no theorem: a live process shows `created` only inside its initial query, and the id of the
directory's owner has been handed out.) -/
theorem step_wf {s s' : S} {o : Op} (h : WF s) (hs : step s o = some s') : WF s' := by
  cases Step.of_step hs with
  | mkdir hu hd =>
    have hg := h.gone_of_nodir hd
    exact { h with
      phase_up := fun hp => absurd hg hp
      init_state := fun hp => nomatch hg.symm.trans hp
      loop_state := fun hp => nomatch hg.symm.trans hp
      drain_state := fun hp => nomatch hg.symm.trans hp
      completed := nofun
      created_init := fun _ => nofun
      nodir := nofun
      ids := trivial
      sid_lt := Nat.lt_succ_self _ }
  | create hu hd hst hr hp =>
    exact { h with
      phase_up := fun _ => ⟨hu, hd⟩
      reg_alive := fun _ => ⟨hu, nofun, rfl, rfl⟩
      init_state := fun _ => rfl
      loop_state := nofun
      drain_state := nofun
      completed := nofun
      created_init := fun _ _ => rfl
      clone_up := nofun
      flags_up := fun _ => hu
      pending_alive := fun _ => nofun
      nodir := fun hd' => nomatch hd.symm.trans hd'
      drain_reg := nofun }
  | initialDone hp =>
    have ⟨hu, hd⟩ := h.alive hp
    exact { h with
      phase_up := fun _ => ⟨hu, hd⟩
      reg_alive := fun hr => ⟨hu, nofun, (h.reg_alive hr).2.2⟩
      init_state := nofun
      loop_state := fun _ => rfl
      drain_state := nofun
      completed := nofun
      created_init := fun _ => nofun
      pending_alive := fun _ => nofun
      nodir := fun hd' => nomatch hd.symm.trans hd'
      drain_reg := nofun }
  | write hu ho hr =>
    exact { h with
      completed := fun hc => nomatch hr.symm.trans (h.completed hc).2.1
      pending_alive := fun _ => (h.reg_alive hr).2.1 }
  | writeMissed | writeNoSub => exact { h with }
  | writeHeld hu => exact { h with flags_up := fun _ => hu }
  | matchHeld hu hh hr =>
    exact { h with
      completed := fun hc => nomatch hr.symm.trans (h.completed hc).2.1
      flags_up := fun _ => hu
      pending_alive := fun _ => (h.reg_alive hr).2.1 }
  | matchMissed hu | matchNoSub hu => exact { h with flags_up := fun _ => hu }
  | process => exact h.flush
  | unreg hu hr =>
    exact { h with
      reg_alive := nofun
      completed := fun hc => nomatch hr.symm.trans (h.completed hc).2.1
      clone_up := fun _ => hu
      flags_up := fun _ => hu
      drain_reg := fun _ => nofun }
  | dropClone hc =>
    exact { h with
      reg_alive := fun hr => nomatch hc.symm.trans (h.reg_alive hr).2.2.2
      clone_up := nofun }
  | trip hu ht =>
    exact { h with
      flags_up := fun _ => hu
      drain_reg := fun _ _ => rfl }
  | ackCancel hp hc =>
    have ⟨hu, hd⟩ := h.alive hp
    exact { h with
      phase_up := fun _ => ⟨hu, hd⟩
      reg_alive := fun hr => nomatch hc.symm.trans (h.reg_alive hr).2.2.1
      init_state := nofun
      loop_state := nofun
      drain_state := fun _ => .inr rfl
      completed := nofun
      created_init := fun _ => nofun
      pending_alive := fun _ => nofun
      nodir := fun hd' => nomatch hd.symm.trans hd'
      drain_reg := fun _ hr => nomatch hc.symm.trans (h.reg_alive hr).2.2.1 }
  | ackTrip hp hc ht =>
    have ⟨hu, hd⟩ := h.alive hp
    have hst := h.loop_state hp
    exact { h with
      phase_up := fun _ => ⟨hu, hd⟩
      reg_alive := fun hr => ⟨hu, nofun, (h.reg_alive hr).2.2⟩
      init_state := nofun
      loop_state := nofun
      drain_state := fun _ => .inl hst
      completed := fun hc => nomatch hst.symm.trans hc
      created_init := fun _ hc => nomatch hst.symm.trans hc
      pending_alive := fun _ => nofun
      drain_reg := fun _ _ => ht }
  | drainEnd hp hr hc =>
    have ⟨_, hd⟩ := h.alive hp
    rw [flush_eq]
    exact { h with
      phase_up := fun hp => absurd rfl hp
      reg_alive := fun hr' => nomatch hr.symm.trans hr'
      init_state := nofun
      loop_state := nofun
      drain_state := nofun
      completed := fun _ => ⟨rfl, hr, rfl⟩
      created_init := fun _ => nofun
      pending_alive := fun hq => absurd rfl hq
      nodir := fun hd' => nomatch hd.symm.trans hd'
      ids := applyAll_consecutive s s.pending h.ids
      drain_reg := nofun }
  | stop hu =>
    exact { h with
      phase_up := fun hp => absurd rfl hp
      reg_alive := nofun
      init_state := nofun
      loop_state := nofun
      drain_state := nofun
      completed := fun _ => ⟨rfl, rfl, rfl⟩
      created_init := nofun
      clone_up := nofun
      flags_up := fun hf => by simp at hf
      pending_alive := fun hq => absurd rfl hq
      drain_reg := nofun }
  | restore hu hd hst =>
    obtain ⟨_, _, hcl, hca, _, _⟩ := h.down hu
    exact { h with
      phase_up := fun _ => ⟨rfl, hd⟩
      reg_alive := fun _ => ⟨rfl, nofun, hca, hcl⟩
      init_state := nofun
      loop_state := fun _ => rfl
      drain_state := nofun
      completed := nofun
      created_init := fun _ => nofun
      clone_up := fun _ => rfl
      flags_up := fun _ => rfl
      pending_alive := fun _ => nofun
      nodir := fun hd' => nomatch hd.symm.trans hd'
      drain_reg := nofun }
  | cleanup hu hd hst =>
    obtain ⟨hg, hr, _⟩ := h.down hu
    exact { h with
      phase_up := fun hp => absurd hg hp
      reg_alive := fun hr' => nomatch hr.symm.trans hr'
      init_state := fun hp => nomatch hg.symm.trans hp
      loop_state := fun hp => nomatch hg.symm.trans hp
      drain_state := fun hp => nomatch hg.symm.trans hp
      completed := nofun
      created_init := fun _ => nofun
      clone_up := fun _ => rfl
      flags_up := fun _ => rfl
      nodir := fun _ => rfl
      ids := trivial }
  | start hu hd =>
    obtain ⟨hg, hr, _⟩ := h.down hu
    exact { h with
      phase_up := fun hp => absurd hg hp
      reg_alive := fun hr' => nomatch hr.symm.trans hr'
      created_init := fun _ hc => nomatch (h.nodir hd).symm.trans hc
      clone_up := fun _ => rfl
      flags_up := fun _ => rfl }

theorem run_inv {P : S → Prop} (hP : ∀ {s s' : S} {o : Op}, P s → step s o = some s' → P s') {s : S}
    (ops : List Op) (h : P s) : P (run s ops) := by
  induction ops generalizing s with
  | nil => exact h
  | cons o r ih =>
    refine ih (?_ : P (stepD s o))
    unfold stepD
    cases hs : step s o with
    | none => exact h
    | some s' => exact hP h hs

theorem run_wf {s : S} (ops : List Op) (h : WF s) : WF (run s ops) := run_inv step_wf ops h

/-- As long as no committed transaction was missed, the materialised rows (the initial query's
snapshot while it is still running) agree with the table on every key that has no candidate waiting
and no match step outstanding.  Only claimed while the process is up or the directory is marked
`completed` (otherwise the directory is going to be removed at the next start). -/
def Fresh (s : S) : Prop :=
  s.missed = 0 → s.onDisk = true → (s.up = true ∨ s.state = some .completed) →
    ∀ k, k ∉ s.pending → k ∉ s.held →
      (if s.phase = .init then s.snap k else s.rows k) = s.db k

theorem onDisk_of {s : S} {x : Status} (hd : s.dir = true) (hst : s.state = some x) : s.onDisk = true := by
  rw [S.onDisk, hd, hst]; rfl

namespace Fresh

theorem flush_rows {s : S} (hf : Fresh s) (hm : s.missed = 0) (ho : s.onDisk = true) (hu : s.up = true)
    (hp : s.phase ≠ .init) {k : Nat} (hk : k ∉ s.held) : (applyAll s s.pending).rows k = s.db k := by
  rw [applyAll_rows]
  by_cases h : k ∈ s.pending
  · exact if_pos h
  · rw [if_neg h, ← hf hm ho (.inl hu) k h hk, if_neg hp]

end Fresh

theorem step_fresh {s s' : S} {o : Op} (hw : WF s) (hf : Fresh s) (hs : step s o = some s') : Fresh s' := by
  cases Step.of_step hs with
  | mkdir | cleanup => exact fun _ ho => nomatch ho
  | create => exact fun _ _ _ _ _ _ => rfl
  | initialDone hp =>
    intro hm ho hu k h1 h2
    have hd : s.dir = true := (Bool.and_eq_true _ _ ▸ ho).1
    have := hf hm (onDisk_of hd (hw.init_state hp)) (.inl (hw.alive hp).1) k h1 h2
    rw [if_pos hp] at this
    exact (ite_self _).trans this
  | write hu ho hr =>
    intro hm ho hu k h1 h2
    exact (hf hm ho hu k (mt (List.mem_append_left _) h1) h2).trans
      (Tbl.apply_not_mem _ _ _ (mt (List.mem_append_right _) h1)).symm
  | writeMissed | matchMissed => exact fun hm => nomatch hm
  | writeNoSub hu ho | matchNoSub hu hh hr ho => exact fun _ ho' => nomatch ho.symm.trans ho'
  | writeHeld hu =>
    intro hm ho hu k h1 h2
    exact (hf hm ho hu k h1 (mt (List.mem_append_left _) h2)).trans
      (Tbl.apply_not_mem _ _ _ (mt (List.mem_append_right _) h2)).symm
  | matchHeld hu hh hr =>
    exact fun hm ho hu k h1 _ =>
      hf hm ho hu k (mt (List.mem_append_left _) h1) (mt (List.mem_append_right _) h1)
  | process hp hc =>
    have hp' : s.phase ≠ .init := by rw [hp]; nofun
    rw [flush_eq]
    exact fun hm ho hu k _ h2 =>
      (if_neg hp').trans (hf.flush_rows hm ho (hw.alive hp).1 hp' h2)
  | unreg | dropClone | trip => exact hf
  | ackCancel hp hc =>
    intro hm ho hu k h1 h2
    have ⟨hu, hd⟩ := hw.alive hp
    have := hf hm (onDisk_of hd (hw.loop_state hp)) (.inl hu) k h1 h2
    rw [hp] at this
    exact this
  | ackTrip hp hc ht =>
    intro hm ho hu k h1 h2
    have := hf hm ho (.inl (hw.alive hp).1) k h1 h2
    rw [hp] at this
    exact this
  | drainEnd hp hr hc =>
    have hp' : s.phase ≠ .init := by rw [hp]; nofun
    have ⟨hu, hd⟩ := hw.alive hp
    have ho : s.onDisk = true := (hw.drain_state hp).elim (onDisk_of hd) (onDisk_of hd)
    rw [flush_eq]
    exact fun hm _ _ k _ h2 => hf.flush_rows hm ho hu hp' h2
  | stop hu =>
    intro hm ho hc k _ _
    have hc : s.state = some .completed := hc.resolve_left nofun
    have ⟨hg, _, hpend⟩ := hw.completed hc
    -- an outstanding match step at the stop would have been counted as missed
    have hh : s.held = [] := Decidable.not_not.1 fun hh => by
      rw [if_pos (by simp [hh, show s.onDisk = true from ho])] at hm; exact nomatch hm
    rw [if_neg (by simp [hh])] at hm
    have := hf hm ho (.inr hc) k (by simp [hpend]) (by simp [hh])
    rw [hg] at this
    exact this
  | restore hu hd hst =>
    intro hm _ _ k h1 h2
    have := hf hm (onDisk_of hd hst) (.inr hst) k h1 h2
    rw [(hw.down hu).1] at this
    exact this
  | start hu hd => exact fun _ ho => by rw [S.onDisk, hd] at ho; exact nomatch ho

theorem run_fresh {s : S} (ops : List Op) (hw : WF s) (hf : Fresh s) : Fresh (run s ops) :=
  (run_inv (P := fun s => WF s ∧ Fresh s) (fun h hs => ⟨step_wf h.1 hs, step_fresh h.1 h.2 hs⟩) ops ⟨hw, hf⟩).2

theorem reach_wf (ops : List Op) : WF (run init ops) := run_wf ops init_wf
theorem reach_fresh (ops : List Op) : Fresh (run init ops) := run_fresh ops init_wf fun _ h => nomatch h

theorem served_restart {s : S} (hw : WF s) (hup : s.up = false) (hsrv : (stepD s .restart).served = true) :
    s.dir = true ∧ s.state = some .completed ∧
    stepD s .restart = { s with up := true, reg := true, phase := .loop, state := some .running } := by
  unfold stepD at hsrv ⊢
  cases hs : step s .restart with
  | none => rw [hs] at hsrv; exact nomatch hup.symm.trans (Bool.and_eq_true_iff.1 hsrv).1
  | some r =>
    rw [hs] at hsrv
    cases Step.of_step hs with
    | restore _ hd hst => exact ⟨hd, hst, rfl⟩
    | cleanup | start => exact nomatch (hw.down hup).2.1.symm.trans (Bool.and_eq_true_iff.1 hsrv).2

theorem run_append (s : S) (a b : List Op) : run s (a ++ b) = run (run s a) b := by
  simp [run, List.foldl_append]

/-- trip; the matcher finishes its initial query if it is in it, notices the tripwire, breaks:
a registered subscription ends up in its drain, still registered -/
theorem to_drain {s : S} (hw : WF s) (hs : s.served = true) :
    ∃ rows st, run s [.trip, .initialDone, .ack]
      = { s with tripped := true, phase := .drain, rows := rows, state := st } := by
  have ⟨hup, hreg⟩ := Bool.and_eq_true_iff.1 hs
  obtain ⟨_, hph, hc, _⟩ := hw.reg_alive hreg
  cases hp : s.phase with
  | gone => exact absurd hp hph
  | init => exact ⟨s.snap, some .running, by cases ht : s.tripped <;> simp [run, stepD, step, hp, ht, hup, hc]⟩
  | loop => exact ⟨s.rows, s.state, by cases ht : s.tripped <;> simp [run, stepD, step, hp, ht, hup, hc]⟩
  | drain =>
    -- the drain is entered on the tripwire or on cancellation, and a cancelled handle is out of the
    -- manager: draining and still registered means tripped, so the three ops change nothing
    have ht := hw.drain_reg hp hreg
    have : run s [.trip, .initialDone, .ack] = s := by simp [run, stepD, step, hp, ht]
    exact ⟨s.rows, s.state, this.trans (by cases s; cases hp; cases ht; rfl)⟩

/-- The matcher in its drain with the tripwire fired, the handle out of the manager and cancelled,
no other clone left.  Every stop sequence of a served subscription passes through such a state;
whether the matcher saw the tripwire or the cancellation first decides `rows` and `st`. -/
def draining (s : S) (rows : Tbl) (st : Option Status) : S :=
  { s with tripped := true, reg := false, cancelled := true, clone := false, rows := rows, state := st,
           phase := .drain }

/-- The end of that drain: everything accepted is applied, `completed` is written. -/
def woundDown (s : S) (rows : Tbl) (log : List Nat) : S :=
  { s with tripped := true, reg := false, cancelled := true, clone := false, rows := rows, log := log,
           applied := s.produced, pending := [], state := some .completed, phase := .gone }

theorem draining_woundDown {s : S} {ops : List Op} {rows : Tbl} {st : Option Status}
    (h : run s ops = draining s rows st) :
    ∃ rows' log, run s (ops ++ [.drainEnd]) = woundDown s rows' log := by
  have : run s (ops ++ [.drainEnd])
      = { (draining s rows st).flush with state := some .completed, phase := .gone } := by
    rw [run_append, h]; rfl
  rw [this, flush_eq]
  exact ⟨_, _, rfl⟩

/-- the binary's stop sequence up to the end of the drain: `drop_handles()` finds the matcher in
its drain -/
theorem graceful_woundDown {s : S} (hw : WF s) (hs : s.served = true) :
    ∃ rows log, run s [.trip, .initialDone, .ack, .unreg false, .dropClone, .initialDone, .ack, .drainEnd]
      = woundDown s rows log := by
  have ⟨hup, hreg⟩ := Bool.and_eq_true_iff.1 hs
  obtain ⟨rows, st, e⟩ := to_drain hw hs
  have : run s [.trip, .initialDone, .ack, .unreg false, .dropClone, .initialDone, .ack] = draining s rows st :=
    (run_append s [.trip, .initialDone, .ack] [.unreg false, .dropClone, .initialDone, .ack]).trans
      (by rw [e]; simp [run, stepD, step, draining, hup, hreg])
  exact (draining_woundDown this :)

/-- trip, `drop_handles()` BEFORE the matcher has looked at the tripwire (it is in its initial
query, or was not polled), then the matcher leaves its loop through the cancellation branch — which
writes `cancelled` — and the drain ends: `cancelled` is overwritten by `completed` -/
theorem overtaken_woundDown {s : S} (hw : WF s) (hs : s.served = true) :
    ∃ rows log, run s [.trip, .unreg false, .dropClone, .initialDone, .ack, .drainEnd]
      = woundDown s rows log := by
  have ⟨hup, hreg⟩ := Bool.and_eq_true_iff.1 hs
  have : ∃ rows st, run s [.trip, .unreg false, .dropClone, .initialDone, .ack] = draining s rows st := by
    cases hp : s.phase with
    | gone => exact absurd hp (hw.reg_alive hreg).2.1
    | init =>
      exact ⟨s.snap, some .cancelled, by cases ht : s.tripped <;> simp [run, stepD, step, draining, hp, hup, hreg, ht]⟩
    | loop =>
      exact ⟨s.rows, some .cancelled, by cases ht : s.tripped <;> simp [run, stepD, step, draining, hp, hup, hreg, ht]⟩
    | drain =>
      exact ⟨s.rows, s.state, by simp [run, stepD, step, draining, hp, hup, hreg, hw.drain_reg hp hreg]⟩
  obtain ⟨rows, st, e⟩ := this
  exact (draining_woundDown e :)

theorem completed_restart {c : S} (hst : c.state = some .completed) (hup : c.up = true) (hd : c.dir = true) :
    run c [.stop, .restart]
      = { c with reg := true, phase := .loop, state := some .running, clone := false, cancelled := false,
                 tripped := false, snap := Tbl.empty, pending := [], held := [],
                 missed := if c.held = [] then c.missed else c.missed + 1 } := by
  cases hh : c.held <;> simp [run, stepD, step, hst, hup, hd, S.onDisk, hh]

theorem woundDown_restart {s : S} {ops all : List Op} {rows : Tbl} {log : List Nat} (hw : WF s) (hf : Fresh s)
    (hs : s.served = true) (hc : run s ops = woundDown s rows log) (hall : all = ops ++ [.stop, .restart]) :
    let c := run s ops
    let r := run s all
    (r.served = true ∧ r.dir = true ∧ r.sid = s.sid ∧ r.state = some .running ∧ r.pending = [] ∧
      r.log = c.log ∧ r.rows = c.rows ∧ r.db = s.db) ∧
    r.phase = .loop ∧ (s.missed = 0 → s.held = [] → ∀ k, r.rows k = s.db k) := by
  subst hall
  intro c r
  have ⟨hup, hreg⟩ := Bool.and_eq_true_iff.1 hs
  have hd := (hw.phase_up (hw.reg_alive hreg).2.1).2
  have hfr : Fresh r := run_fresh _ hw hf
  have er : r = _ := (run_append s ops _).trans ((congrArg (run · _) hc).trans (completed_restart rfl hup hd))
  rw [er] at hfr ⊢
  rw [show c = _ from hc]
  refine ⟨⟨?_, hd, rfl, rfl, rfl, rfl, rfl, rfl⟩, rfl, fun hm hh k => ?_⟩
  · exact Bool.and_eq_true .. ▸ ⟨hup, rfl⟩
  · exact hfr ((if_pos hh).trans hm) (onDisk_of hd rfl) (.inl hup) k nofun nofun

end Corro.SubLife
