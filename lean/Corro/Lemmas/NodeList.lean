/-
The list functions the node model (`Corro/Model/Node.lean`) is made of: folds with an invariant
(`foldl_inv`, `foldl_inv_prefix`), sorted insertion (`sortBySeq` is the instance for `seq`), `maxSeq`, the
version enumerations, folds that append what is new, `dedupSorted`; then the association-list
lookup `alook`, which the model's `Node.booked`, `Booked.partial?` and the db-version row `dbvOf` are,
the fields each primitive node operation leaves alone, `mergeChanges`, and `dbvOf` through the operations.
-/
import Corro.Model.Node
import Corro.Lemmas.CrdtLocal

namespace Corro.Node
open Corro.Crdt

theorem foldl_inv_prefix {α σ : Type} (l : List α) (f : σ → α → σ) (init : σ) (P : List α → σ → Prop)
    (h0 : P [] init)
    (hstep : ∀ done a rest acc, l = done ++ a :: rest → P done acc → P (done ++ [a]) (f acc a)) :
    P l (l.foldl f init) := by
  suffices hs : ∀ (rest done : List α) (acc : σ), l = done ++ rest → P done acc →
      P (done ++ rest) (rest.foldl f acc) by
    simpa using hs l [] init rfl h0
  intro rest
  induction rest with
  | nil => intro done acc _ h; simpa using h
  | cons a rest ih =>
    intro done acc hl h
    have := ih (done ++ [a]) (f acc a) (by rw [hl]; simp) (hstep done a rest acc hl h)
    simpa using this

theorem foldl_inv {α σ : Type} (P : σ → Prop) (f : σ → α → σ) (l : List α) (s : σ) (h0 : P s)
    (hstep : ∀ s a, a ∈ l → P s → P (f s a)) : P (l.foldl f s) :=
  foldl_inv_prefix l f s (fun _ => P) h0 (fun _ a _ s hl h => hstep s a (by rw [hl]; simp) h)

theorem insertSortedBy_perm {α : Type} (key : α → Nat) (a : α) (l : List α) :
    (insertSortedBy key a l).Perm (a :: l) := by
  induction l with
  | nil => simp [insertSortedBy]
  | cons y ys ih =>
    unfold insertSortedBy
    split
    · exact List.Perm.refl _
    · exact (List.Perm.cons y ih).trans (List.Perm.swap a y ys)

theorem mem_insertSortedBy {α : Type} (key : α → Nat) {x a : α} {l : List α} :
    x ∈ insertSortedBy key a l ↔ x = a ∨ x ∈ l := by
  rw [(insertSortedBy_perm key a l).mem_iff, List.mem_cons]

theorem insertSortedBy_length {α : Type} (key : α → Nat) (a : α) (l : List α) :
    (insertSortedBy key a l).length = l.length + 1 :=
  (insertSortedBy_perm key a l).length_eq

theorem insertSortedBy_sorted {α : Type} (key : α → Nat) (a : α) {l : List α}
    (h : l.Pairwise (fun x y => key x ≤ key y)) :
    (insertSortedBy key a l).Pairwise (fun x y => key x ≤ key y) := by
  induction l with
  | nil => simp [insertSortedBy]
  | cons y ys ih =>
    unfold insertSortedBy
    have h' := List.pairwise_cons.mp h
    split
    · refine List.pairwise_cons.mpr ⟨?_, h⟩
      intro z hz
      rcases List.mem_cons.mp hz with rfl | hz
      · omega
      · have := h'.1 z hz; omega
    · refine List.pairwise_cons.mpr ⟨?_, ih h'.2⟩
      intro z hz
      rcases (mem_insertSortedBy key).mp hz with rfl | hz
      · omega
      · exact h'.1 z hz

/-- non-decreasing by `insertSortedBy_sorted`, pairwise distinct because the result is a permutation
of `a :: l` -/
theorem insertSortedBy_strict {α : Type} (key : α → Nat) (a : α) {l : List α}
    (h : l.Pairwise (fun x y => key x < key y)) (hne : ∀ x ∈ l, key x ≠ key a) :
    (insertSortedBy key a l).Pairwise (fun x y => key x < key y) := by
  have hs := insertSortedBy_sorted key a (h.imp Nat.le_of_lt)
  have hd : (insertSortedBy key a l).Pairwise (fun x y => key x ≠ key y) :=
    ((insertSortedBy_perm key a l).pairwise_iff Ne.symm).mpr
      (List.pairwise_cons.mpr ⟨fun x hx => (hne x hx).symm, h.imp Nat.ne_of_lt⟩)
  exact (List.pairwise_and_iff.mpr ⟨hs, hd⟩).imp (fun h => Nat.lt_of_le_of_ne h.1 h.2)

theorem foldl_insertSortedBy_perm {α : Type} (key : α → Nat) (l acc : List α) :
    (l.foldl (fun acc r => insertSortedBy key r acc) acc).Perm (l ++ acc) := by
  induction l generalizing acc with
  | nil => simp
  | cons y ys ih =>
    simp only [List.foldl_cons]
    refine (ih _).trans ?_
    refine (List.Perm.append_left ys (insertSortedBy_perm key y acc)).trans ?_
    simp only [List.cons_append]
    exact List.perm_middle

theorem mem_foldl_insertSortedBy {α : Type} (key : α → Nat) {x : α} (l acc : List α) :
    x ∈ l.foldl (fun acc r => insertSortedBy key r acc) acc ↔ x ∈ acc ∨ x ∈ l := by
  rw [(foldl_insertSortedBy_perm key l acc).mem_iff, List.mem_append, or_comm]

theorem foldl_insertSortedBy_sorted {α : Type} (key : α → Nat) (l : List α) {acc : List α}
    (h : acc.Pairwise (fun x y => key x ≤ key y)) :
    (l.foldl (fun acc r => insertSortedBy key r acc) acc).Pairwise (fun x y => key x ≤ key y) :=
  foldl_inv (List.Pairwise fun x y => key x ≤ key y) _ l acc h (fun _ y _ h => insertSortedBy_sorted key y h)

theorem insertSortedBy_lt_all {α : Type} (key : α → Nat) (a : α) (l : List α)
    (h : ∀ x ∈ l, key a < key x) : insertSortedBy key a l = a :: l := by
  cases l with
  | nil => rfl
  | cons y ys => unfold insertSortedBy; rw [if_pos (h y (by simp))]

theorem insertSortedBy_ge_all {α : Type} (key : α → Nat) (a : α) (l : List α)
    (h : ∀ x ∈ l, key x ≤ key a) : insertSortedBy key a l = l ++ [a] := by
  induction l with
  | nil => rfl
  | cons y ys ih =>
    unfold insertSortedBy
    have := h y (by simp)
    rw [if_neg (by omega), ih (fun x hx => h x (by simp [hx]))]; rfl

theorem foldl_insertSortedBy_of_sorted {α : Type} (key : α → Nat) (l acc : List α)
    (h : (acc ++ l).Pairwise (fun x y => key x ≤ key y)) :
    l.foldl (fun acc r => insertSortedBy key r acc) acc = acc ++ l := by
  induction l generalizing acc with
  | nil => simp
  | cons y ys ih =>
    rw [List.foldl_cons, insertSortedBy_ge_all key y acc
      (fun x hx => (List.pairwise_append.mp h).2.2 x hx y (by simp)), ih _ (by simpa using h)]
    simp

theorem eq_of_sorted_perm {α : Type} (key : α → Nat) :
    ∀ {l₁ l₂ : List α}, l₁.Pairwise (fun x y => key x < key y) →
      l₂.Pairwise (fun x y => key x < key y) → (∀ x, x ∈ l₁ ↔ x ∈ l₂) → l₁ = l₂ := by
  intro l₁ l₂ h1 h2 h
  have nd : ∀ {l : List α}, l.Pairwise (fun x y => key x < key y) → l.Nodup :=
    fun hl => hl.imp (fun hxy he => by rw [he] at hxy; exact Nat.lt_irrefl _ hxy)
  exact ((List.perm_ext_iff_of_nodup (nd h1) (nd h2)).mpr h).eq_of_pairwise
    (fun a b _ _ hab hba => absurd hab (Nat.lt_asymm hba)) h1 h2

theorem insertBySeq_eq : insertBySeq = insertSortedBy (fun c : Chg => c.seq) := by
  funext c l
  induction l with
  | nil => rfl
  | cons y ys ih => simp only [insertBySeq, insertSortedBy, ih]

theorem sortBySeq_sorted (cs : List Chg) : (sortBySeq cs).Pairwise (fun x y => x.seq ≤ y.seq) := by
  unfold sortBySeq
  rw [insertBySeq_eq]
  exact foldl_insertSortedBy_sorted _ cs List.Pairwise.nil

theorem sortBySeq_strict {cs : List Chg} (h : cs.Pairwise (fun a b => a.seq ≠ b.seq)) :
    (sortBySeq cs).Pairwise (fun a b => a.seq < b.seq) := by
  have h2 : (sortBySeq cs).Pairwise (fun a b => a.seq ≠ b.seq) :=
    (sortBySeq_perm cs).symm.pairwise h (fun hab => fun e => hab e.symm)
  exact ((sortBySeq_sorted cs).and h2).imp (fun ⟨a, b⟩ => by omega)

theorem sortBySeq_isEmpty (cs : List Chg) : (sortBySeq cs).isEmpty = cs.isEmpty :=
  (sortBySeq_perm cs).isEmpty_eq

theorem sortBySeq_of_sorted (cs : List Chg) (h : cs.Pairwise (fun x y => x.seq ≤ y.seq)) :
    sortBySeq cs = cs := by
  unfold sortBySeq
  rw [insertBySeq_eq]
  exact foldl_insertSortedBy_of_sorted _ cs [] h

theorem le_maxSeq {cs : List Chg} {c : Chg} (h : c ∈ cs) : c.seq ≤ maxSeq cs :=
  (foldl_max_spec (fun c : Chg => c.seq) cs 0).2.1 c h

theorem maxSeq_attained (cs : List Chg) : (∃ c ∈ cs, c.seq = maxSeq cs) ∨ (cs = [] ∧ maxSeq cs = 0) := by
  rcases (foldl_max_spec (fun c : Chg => c.seq) cs 0).2.2 with h | ⟨c, hc, h⟩
  · cases cs with
    | nil => exact Or.inr ⟨rfl, rfl⟩
    | cons a l => exact Or.inl ⟨a, by simp, Nat.le_antisymm (le_maxSeq (by simp)) (by rw [maxSeq, h]; exact Nat.zero_le _)⟩
  · exact Or.inl ⟨c, hc, h.symm⟩

theorem mem_versionsAsc {lo hi v : Nat} : v ∈ versionsAsc lo hi ↔ lo ≤ v ∧ v ≤ hi := by
  simp only [versionsAsc, List.mem_map, List.mem_range]
  constructor
  · rintro ⟨i, hi', rfl⟩; omega
  · intro h; exact ⟨v - lo, by omega, by omega⟩

theorem all_range_iff {f : Nat → Bool} {lo hi : Nat} :
    (List.range (hi + 1 - lo)).all (fun i => f (lo + i)) = true ↔ ∀ x, lo ≤ x → x ≤ hi → f x = true := by
  have : (List.range (hi + 1 - lo)).all (fun i => f (lo + i)) = ((List.range (hi + 1 - lo)).map (lo + ·)).all f :=
    List.all_map.symm
  rw [this, List.all_eq_true]
  exact forall_congr' fun x => by rw [← versionsAsc, mem_versionsAsc, and_imp]

theorem versionsAsc_nodup (lo hi : Nat) : (versionsAsc lo hi).Nodup := by
  unfold versionsAsc List.Nodup
  refine List.pairwise_map.mpr (List.Pairwise.imp ?_ List.nodup_range)
  intro a b h; omega

theorem versionsAsc_single (v : Nat) : versionsAsc v v = [v] := by
  simp [versionsAsc, show v + 1 - v = 1 by omega, List.range_succ]

theorem versionsDesc_eq (lo hi : Nat) : versionsDesc lo hi = (versionsAsc lo hi).reverse :=
  List.map_reverse

theorem mem_versionsDesc {lo hi v : Nat} : v ∈ versionsDesc lo hi ↔ lo ≤ v ∧ v ≤ hi := by
  rw [versionsDesc_eq, List.mem_reverse, mem_versionsAsc]

theorem versionsDesc_nodup (lo hi : Nat) : (versionsDesc lo hi).Nodup := by
  rw [versionsDesc_eq]; exact List.pairwise_reverse.mpr ((versionsAsc_nodup lo hi).imp Ne.symm)

theorem versionsDesc_single (v : Nat) : versionsDesc v v = [v] := by
  rw [versionsDesc_eq, versionsAsc_single]; rfl

theorem filterMap_eq_singleton {α β : Type} {l : List α} (hn : l.Nodup) {a : α}
    (ha : a ∈ l) {g : α → Option β} {y : β} (hg : g a = some y) (hne : ∀ x ∈ l, x ≠ a → g x = none) :
    l.filterMap g = [y] := by
  induction l with
  | nil => cases ha
  | cons z zs ih =>
    have hn' := List.nodup_cons.mp hn
    by_cases hz : z = a
    · subst hz
      rw [List.filterMap_cons_some hg]
      congr 1
      apply List.filterMap_eq_nil_iff.mpr
      intro x hx
      exact hne x (by simp [hx]) (by rintro rfl; exact hn'.1 hx)
    · rw [List.filterMap_cons_none (hne z (by simp) hz)]
      rcases List.mem_cons.mp ha with rfl | ha
      · exact absurd rfl hz
      · exact ih hn'.2 ha (fun x hx => hne x (by simp [hx]))

theorem filter_eq_singleton {α : Type} [DecidableEq α] {l : List α} (hn : l.Nodup) {a : α}
    (ha : a ∈ l) : l.filter (fun x => decide (x = a)) = [a] := by
  rw [← List.filterMap_eq_filter]
  exact filterMap_eq_singleton hn ha (by simp [Option.guard]) (fun x _ hx => by simp [Option.guard, hx])

theorem forall_mem_snoc {α : Type} {p : α → Prop} {l : List α} {a : α} :
    (∀ x ∈ l ++ [a], p x) ↔ (∀ x ∈ l, p x) ∧ p a := by
  simp only [List.mem_append, List.mem_singleton, or_imp, forall_and, forall_eq]

theorem exists_mem_snoc {α : Type} {p : α → Prop} {l : List α} {a : α} :
    (∃ x ∈ l ++ [a], p x) ↔ (∃ x ∈ l, p x) ∨ p a := by
  simp only [List.mem_append, List.mem_singleton, or_and_right, exists_or, exists_eq_left]

theorem pairwise_of_ne {α : Type} {R : α → α → Prop} (hs : ∀ {x y}, R x y → R y x) {l : List α}
    (h : l.Pairwise R) {a b : α} (ha : a ∈ l) (hb : b ∈ l) (hne : a ≠ b) : R a b :=
  (List.Pairwise.forall_of_forall_of_flip (R := fun x y => x = y ∨ R x y) (fun _ _ => Or.inl rfl)
    (h.imp Or.inr) (h.imp (fun h => Or.inr (hs h))) ha hb).resolve_left hne

/-! folds that append what is new (`INSERT … ON CONFLICT DO NOTHING`, de-duplication) -/

theorem foldl_addNew_prefix {α : Type} (q : List α → α → Bool) (l acc : List α) :
    acc <+: l.foldl (fun acc a => if q acc a then acc else acc ++ [a]) acc := by
  induction l generalizing acc with
  | nil => exact List.prefix_refl _
  | cons a l ih =>
    rw [List.foldl_cons]
    split
    · exact ih acc
    · exact (List.prefix_append acc [a]).trans (ih _)

theorem mem_foldl_addNew {α : Type} (q : List α → α → Bool) {l acc : List α} {x : α}
    (h : x ∈ l.foldl (fun acc a => if q acc a then acc else acc ++ [a]) acc) : x ∈ acc ∨ x ∈ l := by
  induction l generalizing acc with
  | nil => exact Or.inl h
  | cons a l ih =>
    rw [List.foldl_cons] at h
    rcases ih h with h | h
    · split at h
      · exact Or.inl h
      · rcases List.mem_append.mp h with h | h
        · exact Or.inl h
        · exact Or.inr (List.mem_cons.mpr (Or.inl (List.mem_singleton.mp h)))
    · exact Or.inr (List.mem_cons_of_mem _ h)

def dedupSorted (all : List Nat) : List Nat :=
  all.foldl (fun acc a => if acc.contains a then acc else insertSortedBy (fun (x : Nat) => x) a acc) []

theorem mem_dedupSorted {all : List Nat} {a : Nat} : a ∈ dedupSorted all ↔ a ∈ all := by
  unfold dedupSorted
  suffices hs : ∀ (l acc : List Nat), a ∈ l.foldl (fun acc a =>
      if acc.contains a then acc else insertSortedBy (fun (x : Nat) => x) a acc) acc ↔ a ∈ acc ∨ a ∈ l by
    simpa using hs all []
  intro l
  induction l with
  | nil => intro acc; simp
  | cons b l ih =>
    intro acc
    rw [List.foldl_cons, ih, List.mem_cons]
    split
    · next hc =>
      have hb : b ∈ acc := by simpa using hc
      rw [← or_assoc, or_iff_left_of_imp (fun h : a = b => h ▸ hb)]
    · rw [mem_insertSortedBy, or_assoc, or_left_comm]

theorem dedupSorted_sorted (all : List Nat) : (dedupSorted all).Pairwise (fun x y => x < y) := by
  unfold dedupSorted
  apply foldl_inv (fun (acc : List Nat) => acc.Pairwise (fun x y => x < y))
  · exact List.Pairwise.nil
  · intro acc a _ hacc
    split
    · exact hacc
    · rename_i hc
      have hb : a ∉ acc := by simpa using hc
      exact insertSortedBy_strict (fun (x : Nat) => x) a hacc (fun x hx h => hb (by rw [← h]; exact hx))

theorem dedupSorted_single (a : Nat) : dedupSorted [a] = [a] := rfl

section Assoc
variable {β : Type}

/-- first value stored under key `k` -/
def alook (l : List (Nat × β)) (k : Nat) : Option β := (l.find? (·.1 = k)).map (·.2)

theorem alook_nil (k : Nat) : alook ([] : List (Nat × β)) k = none := rfl

theorem alook_cons (e : Nat × β) (l : List (Nat × β)) (k : Nat) :
    alook (e :: l) k = if e.1 = k then some e.2 else alook l k := by
  unfold alook
  by_cases h : e.1 = k <;> simp [h]

theorem alook_eq_none {l : List (Nat × β)} {k : Nat} : alook l k = none ↔ ∀ e ∈ l, e.1 ≠ k := by
  simp [alook]

theorem alook_some_mem {l : List (Nat × β)} {k : Nat} {v : β} (h : alook l k = some v) :
    (k, v) ∈ l := by
  obtain ⟨e, he, rfl⟩ := Option.map_eq_some_iff.mp h
  have := List.find?_some he
  simp only [decide_eq_true_eq] at this
  exact this ▸ List.mem_of_find?_eq_some he

theorem any_key_eq (l : List (Nat × β)) (k : Nat) :
    l.any (·.1 = k) = (alook l k).isSome := by
  rw [Bool.eq_iff_iff]; simp [alook]

theorem alook_map_replace (l : List (Nat × β)) (k : Nat) (g : β → β) (k' : Nat) :
    alook (l.map (fun e => if e.1 = k then (k, g e.2) else e)) k' =
      if k' = k then (alook l k).map g else alook l k' := by
  induction l with
  | nil => by_cases h : k' = k <;> simp [alook, h]
  | cons e l ih =>
    simp only [List.map_cons, alook_cons, ih]
    by_cases h1 : e.1 = k <;> by_cases h2 : k' = k
    · simp [h1, h2]
    · have h3 : ¬ k = k' := fun h => h2 h.symm
      simp [h1, h2, h3]
    · subst h2; simp [h1]
    · simp [h1, h2]

theorem pairwise_map_replace {l : List (Nat × β)} (h : l.Pairwise (fun x y => x.1 < y.1)) (k : Nat)
    (g : β → β) : (l.map (fun e => if e.1 = k then (k, g e.2) else e)).Pairwise (fun x y => x.1 < y.1) := by
  have hkey : ∀ e : Nat × β, (if e.1 = k then (k, g e.2) else e).1 = e.1 := by
    intro e; split
    · rename_i he; exact he.symm
    · rfl
  rw [List.pairwise_map]
  exact h.imp (fun hxy => by rw [hkey, hkey]; exact hxy)

theorem alook_insertSortedBy_other (l : List (Nat × β)) (k : Nat) (v : β) (k' : Nat) (h : k' ≠ k) :
    alook (insertSortedBy (·.1) (k, v) l) k' = alook l k' := by
  induction l with
  | nil => simp [insertSortedBy, alook_cons, alook_nil]; omega
  | cons e l ih =>
    unfold insertSortedBy
    split
    · rw [alook_cons]; simp only; rw [if_neg (by omega)]
    · rw [alook_cons, alook_cons, ih]

theorem alook_insertSortedBy_same (l : List (Nat × β)) (k : Nat) (v : β) (h : alook l k = none) :
    alook (insertSortedBy (·.1) (k, v) l) k = some v := by
  induction l with
  | nil => simp [insertSortedBy, alook_cons]
  | cons e l ih =>
    rw [alook_cons] at h
    have he : ¬ e.1 = k := by intro he; simp [he] at h
    simp only [he, if_false] at h
    unfold insertSortedBy
    split
    · rw [alook_cons]; simp
    · rw [alook_cons, if_neg he, ih h]

/-- "replace the value under `k`, or insert `(k, v)` in key order if there is none": the shape of
`setBooked` and `bumpDbv` -/
theorem alook_upsert (l : List (Nat × β)) (k : Nat) (g : β → β) (v : β) (k' : Nat) :
    alook (if l.any (·.1 = k) then l.map (fun e => if e.1 = k then (k, g e.2) else e)
      else insertSortedBy (·.1) (k, v) l) k' =
      if k' = k then some (((alook l k).map g).getD v) else alook l k' := by
  rw [any_key_eq]
  cases h : alook l k with
  | some w => rw [if_pos Option.isSome_some, alook_map_replace, h]; rfl
  | none =>
    rw [if_neg (by simp)]
    by_cases hk : k' = k
    · subst hk; rw [if_pos rfl, alook_insertSortedBy_same _ _ _ h]; rfl
    · rw [if_neg hk, alook_insertSortedBy_other _ _ _ _ hk]

theorem alook_of_mem_sorted {β : Type} {l : List (Nat × β)} (h : l.Pairwise (fun x y => x.1 < y.1))
    {v : Nat} {p : β} (hm : (v, p) ∈ l) : alook l v = some p := by
  induction l with
  | nil => cases hm
  | cons e l ih =>
    have h' := List.pairwise_cons.mp h
    rw [alook_cons]
    rcases List.mem_cons.mp hm with rfl | hm
    · simp
    · have := h'.1 (v, p) hm
      simp only at this
      rw [if_neg (by omega)]
      exact ih h'.2 hm

theorem alook_map_key {β : Type} (l : List Nat) (f : Nat → β) (a : Nat) :
    alook (l.map (fun a => (a, f a))) a = if a ∈ l then some (f a) else none := by
  induction l with
  | nil => rfl
  | cons b l ih =>
    rw [List.map_cons, alook_cons, ih]
    by_cases h : b = a
    · subst h; simp
    · have : a ≠ b := fun h' => h h'.symm
      simp [h, this]

theorem alook_filter_key {β : Type} (l : List (Nat × β)) (q : Nat → Bool) (k : Nat) :
    alook (l.filter (fun e => q e.1)) k = if q k then alook l k else none := by
  unfold alook
  rw [List.find?_filter]
  split
  · next h => congr 2; funext e; by_cases he : e.1 = k <;> simp [he, h]
  · next h =>
    rw [Option.map_eq_none_iff, List.find?_eq_none]
    intro e _; by_cases he : e.1 = k <;> simp [he, h]

theorem alook_none_of_lt {l : List (Nat × β)} {k : Nat} (h : ∀ e ∈ l, k < e.1) : alook l k = none :=
  alook_eq_none.mpr (fun e he hk => by have := h e he; omega)

end Assoc

theorem booked_eq (n : Node) (a : Nat) : n.booked a = (alook n.book a).getD {} := rfl

theorem partial?_eq (b : Booked) (v : Nat) : b.partial? v = alook b.partials v := rfl

theorem booked_of_book {n N : Node} (h : N.book = n.book) (a : Nat) : N.booked a = n.booked a := by
  unfold Node.booked; rw [h]

theorem booked_setBooked (n : Node) (a : Nat) (b : Booked) (a' : Nat) :
    (n.setBooked a b).booked a' = if a' = a then b else n.booked a' := by
  have : (n.setBooked a b).book = if n.book.any (·.1 = a)
      then n.book.map (fun e => if e.1 = a then (a, b) else e) else insertSortedBy (·.1) (a, b) n.book := by
    unfold Node.setBooked; exact apply_ite Node.book _ _ _
  rw [booked_eq, this, alook_upsert n.book a (fun _ => b) b a']
  split
  · cases alook n.book a <;> rfl
  · rfl

theorem booked_setBooked_same (n : Node) (a : Nat) (b : Booked) : (n.setBooked a b).booked a = b := by
  rw [booked_setBooked, if_pos rfl]

theorem booked_setBooked_other (n : Node) (a : Nat) (b : Booked) (a' : Nat) (h : a' ≠ a) :
    (n.setBooked a b).booked a' = n.booked a' := by
  rw [booked_setBooked, if_neg h]

@[simp] theorem setBooked_db (n : Node) (a : Nat) (b : Booked) : (n.setBooked a b).db = n.db := by
  unfold Node.setBooked; split <;> rfl
@[simp] theorem setBooked_seqRows (n : Node) (a : Nat) (b : Booked) :
    (n.setBooked a b).seqRows = n.seqRows := by unfold Node.setBooked; split <;> rfl
@[simp] theorem setBooked_buf (n : Node) (a : Nat) (b : Booked) : (n.setBooked a b).buf = n.buf := by
  unfold Node.setBooked; split <;> rfl
@[simp] theorem setBooked_dbv (n : Node) (a : Nat) (b : Booked) : (n.setBooked a b).dbv = n.dbv := by
  unfold Node.setBooked; split <;> rfl
@[simp] theorem setBooked_alive (n : Node) (a : Nat) (b : Booked) :
    (n.setBooked a b).alive = n.alive := by unfold Node.setBooked; split <;> rfl
@[simp] theorem setBooked_id (n : Node) (a : Nat) (b : Booked) : (n.setBooked a b).id = n.id := by
  unfold Node.setBooked; split <;> rfl

theorem setBooked_sorted {n : Node} (h : n.book.Pairwise (fun x y => x.1 < y.1)) (a : Nat) (b : Booked) :
    (n.setBooked a b).book.Pairwise (fun x y => x.1 < y.1) := by
  unfold Node.setBooked
  split
  · exact pairwise_map_replace h a (fun _ => b)
  · rename_i hany
    refine insertSortedBy_strict (fun (e : Nat × Booked) => e.1) (a, b) h ?_
    intro x hx hxa
    exact hany (List.any_eq_true.mpr ⟨x, hx, by simpa using hxa⟩)

@[simp] theorem bumpDbv_db (n : Node) (s v : Nat) : (n.bumpDbv s v).db = n.db := by
  unfold Node.bumpDbv; split <;> rfl
@[simp] theorem bumpDbv_book (n : Node) (s v : Nat) : (n.bumpDbv s v).book = n.book := by
  unfold Node.bumpDbv; split <;> rfl
@[simp] theorem bumpDbv_seqRows (n : Node) (s v : Nat) : (n.bumpDbv s v).seqRows = n.seqRows := by
  unfold Node.bumpDbv; split <;> rfl
@[simp] theorem bumpDbv_buf (n : Node) (s v : Nat) : (n.bumpDbv s v).buf = n.buf := by
  unfold Node.bumpDbv; split <;> rfl
@[simp] theorem bumpDbv_alive (n : Node) (s v : Nat) : (n.bumpDbv s v).alive = n.alive := by
  unfold Node.bumpDbv; split <;> rfl
@[simp] theorem bumpDbv_id (n : Node) (s v : Nat) : (n.bumpDbv s v).id = n.id := by
  unfold Node.bumpDbv; split <;> rfl

theorem booked_bumpDbv (n : Node) (s v a : Nat) : (n.bumpDbv s v).booked a = n.booked a := by
  unfold Node.booked; rw [bumpDbv_book]

@[simp] theorem clearMeta_db (n : Node) (s lo hi : Nat) : (n.clearMeta s lo hi).db = n.db := rfl
@[simp] theorem clearMeta_book (n : Node) (s lo hi : Nat) : (n.clearMeta s lo hi).book = n.book := rfl
@[simp] theorem clearMeta_dbv (n : Node) (s lo hi : Nat) : (n.clearMeta s lo hi).dbv = n.dbv := rfl
@[simp] theorem clearMeta_alive (n : Node) (s lo hi : Nat) : (n.clearMeta s lo hi).alive = n.alive := rfl
@[simp] theorem clearMeta_id (n : Node) (s lo hi : Nat) : (n.clearMeta s lo hi).id = n.id := rfl

theorem booked_clearMeta (n : Node) (s lo hi a : Nat) : (n.clearMeta s lo hi).booked a = n.booked a := rfl

@[simp] theorem bufferChunk_db (n : Node) (s v lo hi last : Nat) (cs : List Chg) :
    (n.bufferChunk s v lo hi last cs).1.db = n.db := rfl
@[simp] theorem bufferChunk_book (n : Node) (s v lo hi last : Nat) (cs : List Chg) :
    (n.bufferChunk s v lo hi last cs).1.book = n.book := rfl
@[simp] theorem bufferChunk_dbv (n : Node) (s v lo hi last : Nat) (cs : List Chg) :
    (n.bufferChunk s v lo hi last cs).1.dbv = n.dbv := rfl
@[simp] theorem bufferChunk_alive (n : Node) (s v lo hi last : Nat) (cs : List Chg) :
    (n.bufferChunk s v lo hi last cs).1.alive = n.alive := rfl
@[simp] theorem bufferChunk_id (n : Node) (s v lo hi last : Nat) (cs : List Chg) :
    (n.bufferChunk s v lo hi last cs).1.id = n.id := rfl

theorem mergeChanges_nil (n : Node) : n.mergeChanges [] = n := rfl

theorem mergeChanges_cons (n : Node) (c : Chg) (cs : List Chg) :
    n.mergeChanges (c :: cs) =
      ({ (n.bumpDbv c.site c.dbv) with db := merge n.db c } : Node).mergeChanges cs := rfl

theorem mergeChanges_db (n : Node) (cs : List Chg) : (n.mergeChanges cs).db = mergeAll n.db cs := by
  induction cs generalizing n with
  | nil => rfl
  | cons c cs ih => rw [mergeChanges_cons, ih]; rfl

theorem mergeChanges_proj {α : Type} (f : Node → α) (hb : ∀ n s v, f (n.bumpDbv s v) = f n)
    (hd : ∀ (n : Node) db, f { n with db := db } = f n) (n : Node) (cs : List Chg) :
    f (n.mergeChanges cs) = f n :=
  foldl_inv (fun m => f m = f n) _ cs n rfl (fun m c _ h => (hd _ _).trans ((hb m c.site c.dbv).trans h))

@[simp] theorem mergeChanges_book (n : Node) (cs : List Chg) : (n.mergeChanges cs).book = n.book :=
  mergeChanges_proj Node.book bumpDbv_book (fun _ _ => rfl) n cs

@[simp] theorem mergeChanges_seqRows (n : Node) (cs : List Chg) :
    (n.mergeChanges cs).seqRows = n.seqRows :=
  mergeChanges_proj Node.seqRows bumpDbv_seqRows (fun _ _ => rfl) n cs

@[simp] theorem mergeChanges_buf (n : Node) (cs : List Chg) : (n.mergeChanges cs).buf = n.buf :=
  mergeChanges_proj Node.buf bumpDbv_buf (fun _ _ => rfl) n cs

@[simp] theorem mergeChanges_alive (n : Node) (cs : List Chg) :
    (n.mergeChanges cs).alive = n.alive :=
  mergeChanges_proj Node.alive bumpDbv_alive (fun _ _ => rfl) n cs

@[simp] theorem mergeChanges_id (n : Node) (cs : List Chg) : (n.mergeChanges cs).id = n.id :=
  mergeChanges_proj Node.id bumpDbv_id (fun _ _ => rfl) n cs

theorem booked_mergeChanges (n : Node) (cs : List Chg) (a : Nat) :
    (n.mergeChanges cs).booked a = n.booked a := by
  unfold Node.booked; rw [mergeChanges_book]

def dbvOf (n : Node) (a : Nat) : Nat := ((n.dbv.find? (·.1 = a)).map (·.2)).getD 0

theorem dbvOf_eq (n : Node) (a : Nat) : dbvOf n a = (alook n.dbv a).getD 0 := rfl

theorem dbvOf_congr {n n' : Node} (h : n'.dbv = n.dbv) (a : Nat) : dbvOf n' a = dbvOf n a := by
  unfold dbvOf; rw [h]

theorem dbvOf_bumpDbv (n : Node) (s v a : Nat) :
    dbvOf (n.bumpDbv s v) a = if a = s then Nat.max (dbvOf n s) v else dbvOf n a := by
  have : (n.bumpDbv s v).dbv = if n.dbv.any (·.1 = s)
      then n.dbv.map (fun e => if e.1 = s then (s, Nat.max e.2 v) else e)
      else insertSortedBy (·.1) (s, v) n.dbv := by
    unfold Node.bumpDbv; exact apply_ite Node.dbv _ _ _
  rw [dbvOf_eq, this, alook_upsert n.dbv s (Nat.max · v) v a]
  split
  · rw [dbvOf_eq]; cases alook n.dbv s
    · exact (Nat.zero_max v).symm
    · rfl
  · rfl

theorem dbvOf_bump_le (n : Node) (a vhi a' : Nat) (c : Prop) [Decidable c] :
    dbvOf (if c then n.bumpDbv a vhi else n) a' ≤ if a' = a then max (dbvOf n a) vhi else dbvOf n a' := by
  have hmx : ∀ x y : Nat, Nat.max x y = max x y := fun _ _ => rfl
  split
  · rw [dbvOf_bumpDbv]
    split
    · rw [hmx]; exact Nat.le_refl _
    · exact Nat.le_refl _
  · split
    · rename_i h; rw [h]; omega
    · exact Nat.le_refl _

theorem dbvOf_mergeChanges (n : Node) (cs : List Chg) (s v : Nat)
    (hcs : ∀ c ∈ cs, c.site = s ∧ c.dbv = v) (a : Nat) :
    dbvOf (n.mergeChanges cs) a =
      if a = s ∧ cs ≠ [] then Nat.max (dbvOf n s) v else dbvOf n a := by
  induction cs generalizing n with
  | nil => simp [mergeChanges_nil]
  | cons c cs ih =>
    rw [mergeChanges_cons, ih _ (fun c' hc' => hcs c' (by simp [hc']))]
    have hc := hcs c (by simp)
    have hd : ∀ b, dbvOf ({ (n.bumpDbv c.site c.dbv) with db := merge n.db c } : Node) b =
        dbvOf (n.bumpDbv c.site c.dbv) b := fun _ => rfl
    rw [hd, hd, dbvOf_bumpDbv, dbvOf_bumpDbv, hc.1, hc.2]
    have hmax : ∀ x y : Nat, Nat.max x y = max x y := fun _ _ => rfl
    by_cases ha : a = s
    · subst ha
      simp only [true_and, if_true, ne_eq, reduceCtorEq, not_false_eq_true, hmax]
      split <;> omega
    · simp [ha]

end Corro.Node
