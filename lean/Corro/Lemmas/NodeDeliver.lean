/-
The pieces of `processOne` / `processActor` / `Node.deliver`, named (all by `rfl`), the cases of
`processOne` (`ProcCase`) and of `applyBuffered` (`applyBuffered_cases`: skipped, or `applyCore` and the
clear job), what `processActor` and `applyBuffered` do to the bookkeeping and leave alone on ANY node
(`processActor_obs`), where the entries of `processed` and the scheduled applies come from, and what a
batch of INCOMPLETE chunks does (C03 "invisible until covered").
-/
import Corro.Lemmas.NodeSeq
import Corro.Lemmas.NodeResolve
namespace Corro.Node
open Corro.Crdt

def stBuffer (st : TxSt) (site ver lo hi last : Nat) (cs : List Chg) : TxSt :=
  let r := st.node.bufferChunk site ver lo hi last cs
  { node := r.1, seen := seenInsert st.seen (ver, ver) (some ⟨[r.2], last⟩),
    processed := st.processed ++ [⟨ver, ver, some ⟨[r.2], last⟩⟩], clears := st.clears }

def stComplete (st : TxSt) (site ver : Nat) (cs : List Chg) : TxSt :=
  let n1 := st.node.mergeChanges cs
  { node := n1, seen := seenInsert st.seen (ver, ver) none,
    processed := st.processed ++ [⟨ver, ver, none⟩],
    clears := if hasBufferedMeta n1 site ver ver then st.clears ++ [(site, ver, ver)] else st.clears }

def stCleared (b0 : Booked) (st : TxSt) (site vlo vhi : Nat) : TxSt :=
  let n1 := if b0.max ≤ vhi then st.node.bumpDbv site vhi else st.node
  { node := n1, seen := seenInsert st.seen (vlo, vhi) none,
    processed := st.processed ++ [⟨vlo, vhi, none⟩],
    clears := if hasBufferedMeta n1 site vlo vhi then st.clears ++ [(site, vlo, vhi)] else st.clears }

theorem processOne_full (b0 : Booked) (st : TxSt) (site ver lo hi last : Nat) (cs : List Chg) :
    processOne b0 st (.full site ver lo hi last cs) =
      if b0.containsAll ver ver (some (lo, hi)) then st
      else if alreadySeen st.seen (.full site ver lo hi last cs) then st
      else if (lo == 0 && hi == last) && cs.isEmpty then stCleared b0 st site ver ver
      else if hi < lo then st
      else if lo == 0 && hi == last then stComplete st site ver cs
      else stBuffer st site ver lo hi last cs := rfl

theorem processOne_empty (b0 : Booked) (st : TxSt) (site vlo vhi : Nat) :
    processOne b0 st (.empty site vlo vhi) =
      if b0.containsAll vlo vhi none then st
      else if alreadySeen st.seen (.empty site vlo vhi) then st
      else stCleared b0 st site vlo vhi := rfl

theorem seenGet_cons (r : Nat × Nat) (p : Option Partial) (seen : List ((Nat × Nat) × Option Partial))
    (v : Nat) :
    seenGet (seenInsert seen r p) v = if r.1 ≤ v ∧ v ≤ r.2 then some p else seenGet seen v := by
  unfold seenGet seenInsert
  by_cases h : r.1 ≤ v ∧ v ≤ r.2
  · simp [h]
  · simp [h]

theorem alreadySeen_full_eq (seen : List ((Nat × Nat) × Option Partial)) (s ver lo hi last : Nat)
    (cs : List Chg) :
    alreadySeen seen (.full s ver lo hi last cs) =
      match seenGet seen ver with
      | some (some p) => (RSet.gaps p.seqs (lo, hi)).isEmpty
      | some none => true
      | none => false := by
  unfold alreadySeen
  simp only [Item.versions, Item.seqs, show ver + 1 - ver = 1 by omega, List.range_succ, List.range_zero,
    List.nil_append, List.all_cons, List.all_nil, Bool.and_true, Nat.add_zero]
  cases seenGet seen ver with
  | none => rfl
  | some o => cases o <;> rfl

theorem not_alreadySeen_full {seen : List ((Nat × Nat) × Option Partial)} {site ver lo hi last : Nat}
    {cs : List Chg} (h : alreadySeen seen (.full site ver lo hi last cs) = false) :
    seenGet seen ver ≠ some none := by
  intro hs
  rw [alreadySeen_full_eq, hs] at h
  cases h

/-- what `processOne` does with one changeset, under which conditions, and the changes it merges
into the store (the index): nothing (known, seen earlier in the transaction, or a backward seq range),
a version range cleared, a complete changeset applied, or a chunk buffered -/
inductive ProcCase (b0 : Booked) (st : TxSt) (it : Item) : List Chg → Prop
  | skip (h : processOne b0 st it = st)
      (why : b0.containsAll it.versions.1 it.versions.2 it.seqs = true ∨ alreadySeen st.seen it = true ∨
        ∃ s v lo hi last cs, it = .full s v lo hi last cs ∧ hi < lo) : ProcCase b0 st it []
  | cleared {s vlo vhi : Nat} (h : processOne b0 st it = stCleared b0 st s vlo vhi)
      (hshape : it = .empty s vlo vhi ∨ ∃ last, it = .full s vlo 0 last last [] ∧ vhi = vlo)
      (hlh : vlo ≤ vhi) (hnc : b0.containsAll vlo vhi it.seqs = false)
      (hns : alreadySeen st.seen it = false) : ProcCase b0 st it []
  | complete {s v last : Nat} {cs : List Chg} (h : processOne b0 st it = stComplete st s v cs)
      (hit : it = .full s v 0 last last cs) (hne : cs ≠ [])
      (hnc : b0.containsAll v v (some (0, last)) = false)
      (hns : alreadySeen st.seen it = false) : ProcCase b0 st it cs
  | buffer {s v lo hi last : Nat} {cs : List Chg} (h : processOne b0 st it = stBuffer st s v lo hi last cs)
      (hit : it = .full s v lo hi last cs) (hlh : lo ≤ hi) (hinc : ¬ (lo = 0 ∧ hi = last))
      (hnc : b0.containsAll v v (some (lo, hi)) = false)
      (hns : alreadySeen st.seen it = false) : ProcCase b0 st it []

theorem procCase (b0 : Booked) (st : TxSt) (it : Item) : ∃ M, ProcCase b0 st it M := by
  cases it with
  | empty s vlo vhi =>
    have hp := processOne_empty b0 st s vlo vhi
    by_cases hc : b0.containsAll vlo vhi none = true
    · exact ⟨_, .skip (hp.trans (if_pos hc)) (Or.inl hc)⟩
    by_cases hs : alreadySeen st.seen (.empty s vlo vhi) = true
    · exact ⟨_, .skip (hp.trans ((if_neg hc).trans (if_pos hs))) (Or.inr (Or.inl hs))⟩
    exact ⟨_, .cleared (hp.trans ((if_neg hc).trans (if_neg hs))) (Or.inl rfl)
      (Nat.le_of_not_lt fun hlt => hc (containsAll_backward _ _ _ _ hlt))
      (Bool.eq_false_iff.mpr hc) (Bool.eq_false_iff.mpr hs)⟩
  | full s v lo hi last cs =>
    have hp := processOne_full b0 st s v lo hi last cs
    by_cases hc : b0.containsAll v v (some (lo, hi)) = true
    · exact ⟨_, .skip (hp.trans (if_pos hc)) (Or.inl hc)⟩
    by_cases hs : alreadySeen st.seen (.full s v lo hi last cs) = true
    · exact ⟨_, .skip (hp.trans ((if_neg hc).trans (if_pos hs))) (Or.inr (Or.inl hs))⟩
    replace hp := hp.trans ((if_neg hc).trans (if_neg hs))
    have hc' := Bool.eq_false_iff.mpr hc
    have hs' := Bool.eq_false_iff.mpr hs
    by_cases hw : (lo == 0 && hi == last) = true
    · -- the whole `0..=last`: cleared if it carries no changes, applied otherwise
      simp only [hw, Bool.true_and, if_true] at hp
      simp only [Bool.and_eq_true, beq_iff_eq] at hw
      obtain ⟨rfl, rfl⟩ := hw
      cases cs with
      | nil => exact ⟨_, .cleared (hp.trans (if_pos rfl)) (Or.inr ⟨_, rfl, rfl⟩) (Nat.le_refl _) hc' hs'⟩
      | cons c cs =>
        exact ⟨_, .complete (hp.trans ((if_neg Bool.false_ne_true).trans (if_neg (Nat.not_lt_zero _))))
          rfl (List.cons_ne_nil _ _) hc' hs'⟩
    · simp only [Bool.eq_false_iff.mpr hw, Bool.false_and, Bool.false_eq_true, if_false] at hp
      by_cases hlt : hi < lo
      · exact ⟨_, .skip (hp.trans (if_pos hlt)) (Or.inr (Or.inr ⟨s, v, lo, hi, last, cs, rfl, hlt⟩))⟩
      · exact ⟨_, .buffer (hp.trans (if_neg hlt)) rfl (Nat.le_of_not_lt hlt)
          (by simpa only [Bool.and_eq_true, beq_iff_eq] using hw) hc' hs'⟩

theorem processOne_processed (b0 : Booked) (st : TxSt) (it : Item) :
    (processOne b0 st it).processed = st.processed ∨
      ∃ part, (processOne b0 st it).processed = st.processed ++ [⟨it.versions.1, it.versions.2, part⟩] := by
  obtain ⟨_, hc⟩ := procCase b0 st it
  cases hc with
  | skip h => exact Or.inl (by rw [h])
  | cleared h hshape =>
    rw [h]
    rcases hshape with rfl | ⟨_, rfl, rfl⟩ <;> exact Or.inr ⟨none, rfl⟩
  | complete h hit => rw [h, hit]; exact Or.inr ⟨none, rfl⟩
  | buffer h hit => rw [h, hit]; exact Or.inr ⟨_, rfl⟩

theorem processOne_processed_mono (b0 : Booked) (st : TxSt) (it : Item) :
    ∀ e ∈ st.processed, e ∈ (processOne b0 st it).processed := by
  intro e he
  rcases processOne_processed b0 st it with h | ⟨_, h⟩ <;> rw [h]
  · exact he
  · exact List.mem_append_left _ he

def commitStep (site : Nat) (acc : Booked × List (Nat × Nat)) (p : Processed) : Booked × List (Nat × Nat) :=
  match p.part with
  | some part =>
    let r := acc.1.insertPartial p.vlo part
    if r.2.complete then (r.1, acc.2 ++ [(site, p.vlo)]) else (r.1, acc.2)
  | none => (acc.1.dropPartials p.vlo p.vhi, acc.2)

theorem commitStep_some {site : Nat} {acc : Booked × List (Nat × Nat)} {p : Processed} {q : Partial}
    (hq : p.part = some q) :
    commitStep site acc p = ((acc.1.insertPartial p.vlo q).1,
      if (mergedPartial acc.1 p.vlo q).complete then acc.2 ++ [(site, p.vlo)] else acc.2) := by
  unfold commitStep; rw [hq]; simp only; rw [insertPartial_snd]; split <;> rfl

theorem commitStep_none {site : Nat} {acc : Booked × List (Nat × Nat)} {p : Processed}
    (hq : p.part = none) : commitStep site acc p = (acc.1.dropPartials p.vlo p.vhi, acc.2) := by
  unfold commitStep; rw [hq]

theorem commit_apps_from (site : Nat) (P : List Processed) (b : Booked) :
    ∀ t ∈ (P.foldl (commitStep site) (b, [])).2, ∃ e ∈ P, t = (site, e.vlo) := by
  refine foldl_inv (fun (acc : Booked × List (Nat × Nat)) => ∀ t ∈ acc.2, ∃ e ∈ P, t = (site, e.vlo)) _ _ _
    (fun t ht => by cases ht) ?_
  intro acc e he hacc t ht
  unfold commitStep at ht
  split at ht
  · simp only at ht
    split at ht
    · rcases List.mem_append.mp ht with h | h
      · exact hacc t h
      · exact ⟨e, he, List.mem_singleton.mp h⟩
    · exact hacc t ht
  · exact hacc t ht

def txFold (n : Node) (site : Nat) (items : List Item) : TxSt :=
  items.foldl (processOne (n.booked site)) { node := n, seen := [], processed := [], clears := [] }

/-- the versions processed in the transaction, as handed to `insert_db` -/
def procRanges (st : TxSt) : List (Nat × Nat) := st.processed.map (fun p => (p.vlo, p.vhi))

/-- the bookkeeping of the actor after `insert_db` and the after-commit fold, and the applies -/
def committed (n : Node) (site : Nat) (st : TxSt) : Booked × List (Nat × Nat) :=
  st.processed.foldl (commitStep site) ((n.booked site).insertDb (procRanges st), [])

theorem processActor_node (n : Node) (site : Nat) (items : List Item) :
    processActor n site items =
      if (txFold n site items).processed.isEmpty then
        ((txFold n site items).node, [], (txFold n site items).clears)
      else
        ((txFold n site items).node.setBooked site (committed n site (txFold n site items)).1,
          (committed n site (txFold n site items)).2, (txFold n site items).clears) := rfl

theorem committed_nil (n : Node) (site : Nat) (st : TxSt) (h : st.processed = []) :
    committed n site st = (n.booked site, []) := by
  unfold committed procRanges
  rw [h]
  rfl

theorem txFold_book (n : Node) (site : Nat) (items : List Item) : (txFold n site items).node.book = n.book := by
  unfold txFold
  refine foldl_inv (fun (st : TxSt) => st.node.book = n.book) _ _ _ rfl ?_
  intro st it _ hst
  obtain ⟨_, hc⟩ := procCase (n.booked site) st it
  cases hc with
  | skip h => rw [h]; exact hst
  | cleared h =>
    rw [h]
    show (if _ then st.node.bumpDbv _ _ else st.node).book = _
    split
    · rw [bumpDbv_book]; exact hst
    · exact hst
  | complete h => rw [h]; exact (mergeChanges_book st.node _).trans hst
  | buffer h => rw [h]; exact hst

theorem txFold_processed_from (n : Node) (site : Nat) (items : List Item) :
    ∀ e ∈ (txFold n site items).processed, ∃ it ∈ items, it.versions = (e.vlo, e.vhi) := by
  unfold txFold
  refine foldl_inv (fun (st : TxSt) => ∀ e ∈ st.processed, ∃ it ∈ items, it.versions = (e.vlo, e.vhi)) _ _ _
    (fun e he => by cases he) ?_
  intro st it hit hst e he
  rcases processOne_processed (n.booked site) st it with h | ⟨part, h⟩ <;> rw [h] at he
  · exact hst e he
  · rcases List.mem_append.mp he with he | he
    · exact hst e he
    · exact ⟨it, hit, by rw [List.mem_singleton.mp he]⟩

/-- `processActor` read off `txFold` and `committed`, in this order: the node is the transaction's node
with another `book`; `site` is booked as `committed` says; the other actors as in `n`; applies and clear
jobs are those of `committed` and `txFold`; `book` stays sorted -/
theorem processActor_obs (n : Node) (site : Nat) (items : List Item) :
    (∃ bk, (processActor n site items).1 = { (txFold n site items).node with book := bk }) ∧
    (processActor n site items).1.booked site = (committed n site (txFold n site items)).1 ∧
    (∀ a, a ≠ site → (processActor n site items).1.booked a = n.booked a) ∧
    (processActor n site items).2 = ((committed n site (txFold n site items)).2, (txFold n site items).clears) ∧
    (n.book.Pairwise (fun x y => x.1 < y.1) →
      (processActor n site items).1.book.Pairwise (fun x y => x.1 < y.1)) := by
  have hbook := txFold_book n site items
  have hbk : ∀ a, (txFold n site items).node.booked a = n.booked a := fun a => by unfold Node.booked; rw [hbook]
  by_cases he : (txFold n site items).processed.isEmpty = true
  · rw [processActor_node, if_pos he, committed_nil n site _ (List.isEmpty_iff.mp he)]
    exact ⟨⟨_, rfl⟩, hbk site, fun a _ => hbk a, rfl, fun h => hbook ▸ h⟩
  · rw [processActor_node, if_neg he]
    refine ⟨?_, booked_setBooked_same _ _ _, fun a ha => (booked_setBooked_other _ _ _ _ ha).trans (hbk a),
      rfl, fun h => setBooked_sorted (hbook ▸ h) _ _⟩
    unfold Node.setBooked
    split <;> exact ⟨_, rfl⟩

/-- the changesets of the de-duplicated batch that are not known yet (`ClusterSys.unknownB` of the
batched cluster model has the same body) -/
def unknownOf (n : Node) (batch : List Item) : List Item :=
  (dedupeBatch batch).filter (fun it =>
    !((n.booked it.site).containsAll it.versions.1 it.versions.2 it.seqs))

def actorStep (unknown : List Item) (acc : Node × List (Nat × Nat) × List (Nat × Nat × Nat)) (s : Nat) :
    Node × List (Nat × Nat) × List (Nat × Nat × Nat) :=
  let r := processActor acc.1 s (unknown.filter (·.site = s))
  (r.1, acc.2.1 ++ r.2.1, acc.2.2 ++ r.2.2)

def clearAll (n : Node) (clears : List (Nat × Nat × Nat)) : Node :=
  clears.foldl (fun n c => n.clearMeta c.1 c.2.1 c.2.2) n

def applyAll (n : Node) (applies : List (Nat × Nat)) : Node :=
  applies.foldl (fun n a => n.applyBuffered a.1 a.2) n

/-- the background loops after the transaction: clear jobs always, applies only while alive -/
def finish (r : Node × List (Nat × Nat) × List (Nat × Nat × Nat)) : Node :=
  if (clearAll r.1 r.2.2).alive then applyAll (clearAll r.1 r.2.2) r.2.1 else clearAll r.1 r.2.2

/-- the fold of `processActor` over the actors of the batch -/
def deliverFold (n : Node) (batch : List Item) : Node × List (Nat × Nat) × List (Nat × Nat × Nat) :=
  (sitesOf (unknownOf n batch)).foldl (actorStep (unknownOf n batch)) (n, [], [])

theorem deliver_eq' (n : Node) (batch : List Item) : n.deliver batch = finish (deliverFold n batch) := rfl

theorem mem_dedupeBatch {batch : List Item} {it : Item} (h : it ∈ dedupeBatch batch) : it ∈ batch :=
  (mem_foldl_addNew _ h).resolve_left List.not_mem_nil

theorem dedupeBatch_single (it : Item) : dedupeBatch [it] = [it] := rfl

theorem dedupeBatch_repr {batch : List Item} {it : Item} (h : it ∈ batch) :
    ∃ it' ∈ dedupeBatch batch, it'.site = it.site ∧ it'.versions = it.versions ∧ it'.seqs = it.seqs := by
  unfold dedupeBatch
  suffices hs : ∀ (l acc : List Item), (it ∈ l ∨ ∃ it' ∈ acc, it'.site = it.site ∧ it'.versions = it.versions ∧
      it'.seqs = it.seqs) →
      ∃ it' ∈ l.foldl (fun acc it => if acc.any (fun x => x.site = it.site ∧ x.versions = it.versions ∧
        x.seqs = it.seqs) then acc else acc ++ [it]) acc,
        it'.site = it.site ∧ it'.versions = it.versions ∧ it'.seqs = it.seqs from hs batch [] (Or.inl h)
  intro l
  induction l with
  | nil => exact fun acc h => h.resolve_left (fun h => nomatch h)
  | cons a l ih =>
    intro acc h
    rw [List.foldl_cons]
    refine ih _ (h.elim (fun h => ?_) (fun ⟨it', h1, h2⟩ => Or.inr ?_))
    · rcases List.mem_cons.mp h with rfl | h
      · right
        split
        · rename_i hany
          obtain ⟨x, hx, hk⟩ := List.any_eq_true.mp hany
          exact ⟨x, hx, by simpa using hk⟩
        · exact ⟨it, by simp, rfl, rfl, rfl⟩
      · exact Or.inl h
    · split
      · exact ⟨it', h1, h2⟩
      · exact ⟨it', List.mem_append_left _ h1, h2⟩

theorem mem_unknownOf {n : Node} {batch : List Item} {it : Item} (h : it ∈ unknownOf n batch) :
    it ∈ batch := mem_dedupeBatch (List.mem_filter.mp h).1

theorem sitesOf_eq (batch : List Item) : sitesOf batch = dedupSorted (batch.map (·.site)) := by
  unfold sitesOf dedupSorted
  rw [List.foldl_map]

theorem sitesOf_fresh {batch : List Item} {done rest : List Nat} {s : Nat}
    (hl : sitesOf batch = done ++ s :: rest) : s ∉ done := by
  have hnd : (sitesOf batch).Pairwise (fun x y => x < y) := by rw [sitesOf_eq]; exact dedupSorted_sorted _
  rw [hl] at hnd
  exact fun hmem => Nat.lt_irrefl s ((List.pairwise_append.mp hnd).2.2 s hmem s List.mem_cons_self)

@[simp] theorem clearAll_nil (n : Node) : clearAll n [] = n := rfl
@[simp] theorem applyAll_nil (n : Node) : applyAll n [] = n := rfl

theorem clearAll_db (n : Node) (cl : List (Nat × Nat × Nat)) : (clearAll n cl).db = n.db :=
  foldl_inv (fun m : Node => m.db = n.db) _ cl n rfl (fun _ _ _ h => h)

theorem clearAll_book (n : Node) (cl : List (Nat × Nat × Nat)) : (clearAll n cl).book = n.book :=
  foldl_inv (fun m : Node => m.book = n.book) _ cl n rfl (fun _ _ _ h => h)

theorem clearAll_alive (n : Node) (cl : List (Nat × Nat × Nat)) : (clearAll n cl).alive = n.alive :=
  foldl_inv (fun m : Node => m.alive = n.alive) _ cl n rfl (fun _ _ _ h => h)

theorem clearAll_dbv (n : Node) (cl : List (Nat × Nat × Nat)) : (clearAll n cl).dbv = n.dbv :=
  foldl_inv (fun m : Node => m.dbv = n.dbv) _ cl n rfl (fun _ _ _ h => h)

/-- buffered rows of `(a, v)` -/
def bufOf (buf : List Chg) (a v : Nat) : List Chg := buf.filter (fun c => c.site = a ∧ c.dbv = v)

theorem applyBuffered_skip (m : Node) (a v : Nat)
    (h : ∀ p, (m.booked a).partial? v = some p → p.complete = false) : m.applyBuffered a v = m := by
  unfold Node.applyBuffered
  simp only
  cases hp : (m.booked a).partial? v with
  | none => rfl
  | some p => simp [h p hp]

/-- the node right before the clear job inside `applyBuffered` -/
def applyCore (m : Node) (a v : Nat) : Node :=
  let rows := sortBySeq (bufOf m.buf a v)
  (if rows.isEmpty then m.bumpDbv a v else m.mergeChanges rows).setBooked a ((m.booked a).insertDb [(v, v)])

theorem applyBuffered_complete (m : Node) (a v : Nat) (p : Partial)
    (hp : (m.booked a).partial? v = some p) (hc : p.complete = true) :
    m.applyBuffered a v = (applyCore m a v).clearMeta a v v := by
  unfold Node.applyBuffered applyCore
  simp only [hp, hc]
  rfl

theorem applyCore_db (m : Node) (a v : Nat) :
    (applyCore m a v).db = mergeAll m.db (sortBySeq (bufOf m.buf a v)) := by
  unfold applyCore
  simp only [setBooked_db]
  split
  · rename_i he
    rw [bumpDbv_db]
    have : sortBySeq (bufOf m.buf a v) = [] := List.isEmpty_iff.mp he
    rw [this]; rfl
  · exact mergeChanges_db _ _

theorem applyCore_buf (m : Node) (a v : Nat) : (applyCore m a v).buf = m.buf := by
  unfold applyCore
  rw [setBooked_buf, apply_ite Node.buf, bumpDbv_buf, mergeChanges_buf, ite_self]

theorem applyCore_seqRows (m : Node) (a v : Nat) : (applyCore m a v).seqRows = m.seqRows := by
  unfold applyCore
  rw [setBooked_seqRows, apply_ite Node.seqRows, bumpDbv_seqRows, mergeChanges_seqRows, ite_self]

theorem applyCore_alive (m : Node) (a v : Nat) : (applyCore m a v).alive = m.alive := by
  unfold applyCore
  rw [setBooked_alive, apply_ite Node.alive, bumpDbv_alive, mergeChanges_alive, ite_self]

theorem applyCore_booked_same (m : Node) (a v : Nat) :
    (applyCore m a v).booked a = (m.booked a).insertDb [(v, v)] := by
  unfold applyCore; exact booked_setBooked_same _ _ _

theorem applyCore_booked_other (m : Node) (a v a' : Nat) (h : a' ≠ a) :
    (applyCore m a v).booked a' = m.booked a' := by
  unfold applyCore
  simp only
  rw [booked_setBooked_other _ _ _ _ h]
  split
  · exact booked_bumpDbv _ _ _ _
  · exact booked_mergeChanges _ _ _

theorem dbvOf_applyCore (n : Node) (a v a' : Nat) :
    dbvOf (applyCore n a v) a' = if a' = a then Nat.max (dbvOf n a) v else dbvOf n a' := by
  unfold applyCore
  simp only
  rw [dbvOf_congr (setBooked_dbv _ _ _)]
  split
  · exact dbvOf_bumpDbv n a v a'
  · rename_i hne
    have hrows : ∀ c ∈ sortBySeq (bufOf n.buf a v), c.site = a ∧ c.dbv = v := by
      intro c hc
      have := List.mem_filter.mp (mem_sortBySeq.mp hc)
      simpa using this.2
    rw [dbvOf_mergeChanges n _ a v hrows a']
    have hne' : sortBySeq (bufOf n.buf a v) ≠ [] := by
      intro h; apply hne; rw [h]; rfl
    by_cases ha : a' = a
    · rw [if_pos ⟨ha, hne'⟩, if_pos ha]
    · rw [if_neg (fun h => ha h.1), if_neg ha]

theorem applyBuffered_cases (n : Node) (a v : Nat) :
    (n.applyBuffered a v = n ∧ ∀ p, (n.booked a).partial? v = some p → p.complete = false) ∨
    ∃ p, (n.booked a).partial? v = some p ∧ p.complete = true ∧
      n.applyBuffered a v = (applyCore n a v).clearMeta a v v := by
  by_cases h : ∀ p, (n.booked a).partial? v = some p → p.complete = false
  · exact Or.inl ⟨applyBuffered_skip n a v h, h⟩
  · cases hp : (n.booked a).partial? v with
    | none => exact absurd (fun p h' => by rw [hp] at h'; cases h') h
    | some p =>
      cases hcomp : p.complete with
      | false => exact absurd (fun q h' => by rw [hp] at h'; cases h'; exact hcomp) h
      | true => exact Or.inr ⟨p, rfl, hcomp, applyBuffered_complete n a v p hp hcomp⟩

theorem applyBuffered_sorted {n : Node} (h : n.book.Pairwise (fun x y => x.1 < y.1)) (a v : Nat) :
    (n.applyBuffered a v).book.Pairwise (fun x y => x.1 < y.1) := by
  rcases applyBuffered_cases n a v with ⟨h1, _⟩ | ⟨_, _, _, h1⟩ <;> rw [h1]
  · exact h
  · unfold applyCore
    refine setBooked_sorted ?_ _ _
    split
    · rw [bumpDbv_book]; exact h
    · rw [mergeChanges_book]; exact h

theorem applyBuffered_id (n : Node) (a v : Nat) : (n.applyBuffered a v).id = n.id := by
  rcases applyBuffered_cases n a v with ⟨h, _⟩ | ⟨_, _, _, h⟩ <;> rw [h]
  unfold applyCore
  rw [clearMeta_id, setBooked_id]
  split
  · exact bumpDbv_id _ _ _
  · exact mergeChanges_id _ _

theorem applyBuffered_alive (n : Node) (a v : Nat) : (n.applyBuffered a v).alive = n.alive := by
  rcases applyBuffered_cases n a v with ⟨h, _⟩ | ⟨_, _, _, h⟩ <;> rw [h]
  rw [clearMeta_alive, applyCore_alive]

theorem applyAll_id (n : Node) (ap : List (Nat × Nat)) : (applyAll n ap).id = n.id := by
  induction ap generalizing n with
  | nil => rfl
  | cons t ap ih => exact (ih _).trans (applyBuffered_id n t.1 t.2)

theorem partial?_applyBuffered (n : Node) (site ver a v : Nat) :
    ((n.applyBuffered site ver).booked a).partial? v = (n.booked a).partial? v := by
  rcases applyBuffered_cases n site ver with ⟨h, _⟩ | ⟨_, _, _, h⟩ <;> rw [h]
  rw [booked_clearMeta]
  by_cases ha : a = site
  · rw [ha, applyCore_booked_same, partial?_insertDb]
  · rw [applyCore_booked_other _ _ _ _ ha]

theorem partial?_applyAll (n : Node) (ap : List (Nat × Nat)) (a v : Nat) :
    ((applyAll n ap).booked a).partial? v = (n.booked a).partial? v :=
  foldl_inv (fun m : Node => (m.booked a).partial? v = (n.booked a).partial? v) _ ap n rfl
    (fun m x _ h => (partial?_applyBuffered m x.1 x.2 a v).trans h)

/-- an incomplete chunk: a forward seq range that is not the whole `0..=last_seq` -/
def Item.incomplete : Item → Prop
  | .full _ _ lo hi last _ => lo ≤ hi ∧ ¬ (lo = 0 ∧ hi = last)
  | .empty .. => False

instance (it : Item) : Decidable it.incomplete := by
  cases it <;> unfold Item.incomplete <;> exact inferInstance

/-- the state of the transaction after a list of incomplete chunks -/
structure IncSt (n : Node) (items : List Item) (st : TxSt) : Prop where
  db : st.node.db = n.db
  book : st.node.book = n.book
  alive : st.node.alive = n.alive
  dbv : st.node.dbv = n.dbv
  clears : st.clears = []
  proc : ∀ p ∈ st.processed, ∃ q, p.part = some q ∧ RSet.WF q.seqs ∧
    ∃ s lo hi last cs, Item.full s p.vlo lo hi last cs ∈ items

theorem txFold_incomplete (n : Node) (site : Nat) (items : List Item)
    (hinc : ∀ it ∈ items, it.incomplete) : IncSt n items (txFold n site items) := by
  unfold txFold
  apply foldl_inv (IncSt n items)
  · exact ⟨rfl, rfl, rfl, rfl, rfl, nofun⟩
  · intro st it hit hst
    -- an incomplete chunk is dropped or buffered: it is neither complete-and-empty nor complete
    obtain ⟨_, hc⟩ := procCase (n.booked site) st it
    cases hc with
    | skip hp => rw [hp]; exact hst
    | cleared _ hshape =>
      rcases hshape with rfl | ⟨_, rfl, _⟩
      · exact (hinc _ hit).elim
      · exact absurd ⟨rfl, rfl⟩ (hinc _ hit).2
    | complete _ hfull => subst hfull; exact absurd ⟨rfl, rfl⟩ (hinc _ hit).2
    | @buffer s ver lo hi last cs hp hfull hlh =>
      subst hfull
      rw [hp]
      refine ⟨hst.db, hst.book, hst.alive, hst.dbv, hst.clears, forall_mem_snoc.mpr ⟨hst.proc, ?_⟩⟩
      exact ⟨_, rfl, ⟨Nat.zero_le _, Nat.le_trans (mergedLo_le st.node.seqRows s ver lo hi)
        (Nat.le_trans hlh (le_mergedHi st.node.seqRows s ver lo hi)), trivial⟩, s, lo, hi, last, cs, hit⟩

def CompleteLe (b b' : Booked) : Prop :=
  ∀ v q, b.partial? v = some q → q.complete = true → ∃ q', b'.partial? v = some q' ∧ q'.complete = true

theorem CompleteLe.refl (b : Booked) : CompleteLe b b := fun _ q h hc => ⟨q, h, hc⟩

theorem CompleteLe.trans {a b c : Booked} (h1 : CompleteLe a b) (h2 : CompleteLe b c) : CompleteLe a c := by
  intro v q h hc
  obtain ⟨q', h', hc'⟩ := h1 v q h hc
  exact h2 v q' h' hc'

theorem insertPartial_completeLe {b : Booked} (hb : b.PWF) (v : Nat) {p : Partial} (hp : RSet.WF p.seqs) :
    CompleteLe b (b.insertPartial v p).1 := by
  intro w q h hc
  by_cases hw : w = v
  · subst hw
    exact ⟨_, partial?_insertPartial_same b w p, mergedPartial_complete_mono hb w hp h hc⟩
  · exact ⟨q, by rw [partial?_insertPartial_other b v p w hw]; exact h, hc⟩

/-- invariant of the after-commit fold for a transaction of incomplete chunks, from `PWF` of the
bookkeeping alone (`CI` of `NodeCommit` is about the same fold on a consistent node) -/
structure CommitInv (site : Nat) (b1 : Booked) (l : List Processed) (acc : Booked × List (Nat × Nat)) : Prop where
  pwf : acc.1.PWF
  le : CompleteLe b1 acc.1
  app : ∀ a ∈ acc.2, a.1 = site ∧ (∃ p ∈ l, p.vlo = a.2) ∧
    ∃ q, acc.1.partial? a.2 = some q ∧ q.complete = true

theorem commitFold_incomplete (site : Nat) (b1 : Booked) (hb : b1.PWF) (l : List Processed)
    (hl : ∀ p ∈ l, ∃ q, p.part = some q ∧ RSet.WF q.seqs) :
    CommitInv site b1 l (l.foldl (commitStep site) (b1, [])) := by
  apply foldl_inv (CommitInv site b1 l)
  · exact ⟨hb, CompleteLe.refl _, nofun⟩
  · intro acc p hp hacc
    obtain ⟨q, hq, hqw⟩ := hl p hp
    have hle := insertPartial_completeLe hacc.pwf p.vlo hqw
    have hkeep : ∀ a ∈ acc.2, a.1 = site ∧ (∃ p ∈ l, p.vlo = a.2) ∧
        ∃ q', (acc.1.insertPartial p.vlo q).1.partial? a.2 = some q' ∧ q'.complete = true :=
      fun a ha => let ⟨h1, h2, q0, h3, h4⟩ := hacc.app a ha; ⟨h1, h2, hle a.2 q0 h3 h4⟩
    rw [commitStep_some hq]
    refine ⟨insertPartial_pwf hacc.pwf p.vlo hqw, hacc.le.trans hle, ?_⟩
    simp only
    split
    · next hc =>
      exact forall_mem_snoc.mpr ⟨hkeep, rfl, ⟨p, hp, rfl⟩, _, partial?_insertPartial_same acc.1 p.vlo q, hc⟩
    · exact hkeep

theorem processActor_incomplete_db (n : Node) (site : Nat) (items : List Item)
    (hinc : ∀ it ∈ items, it.incomplete) :
    (processActor n site items).1.db = n.db ∧ (processActor n site items).1.alive = n.alive ∧
    (processActor n site items).2.2 = [] := by
  have hst := txFold_incomplete n site items hinc
  rw [processActor_node]
  split
  · exact ⟨hst.db, hst.alive, hst.clears⟩
  · exact ⟨(setBooked_db ..).trans hst.db, (setBooked_alive ..).trans hst.alive, hst.clears⟩

theorem processActor_incomplete (n : Node) (site : Nat) (items : List Item)
    (hinc : ∀ it ∈ items, it.incomplete) (hwf : n.BookWF) :
    (processActor n site items).1.BookWF ∧
    (∀ s, CompleteLe (n.booked s) ((processActor n site items).1.booked s)) ∧
    (∀ a ∈ (processActor n site items).2.1, a.1 = site ∧
      (∃ s lo hi last cs, Item.full s a.2 lo hi last cs ∈ items) ∧
      ∃ q, (((processActor n site items).1.booked site).partial? a.2 = some q ∧ q.complete = true)) := by
  have hst := txFold_incomplete n site items hinc
  have hbk : ∀ s, (txFold n site items).node.booked s = n.booked s := by
    intro s; unfold Node.booked; rw [hst.book]
  have hnwf : (txFold n site items).node.BookWF := by unfold Node.BookWF; rw [hst.book]; exact hwf
  rw [processActor_node]
  split
  · exact ⟨hnwf, fun s => by rw [hbk]; exact CompleteLe.refl _, nofun⟩
  · have hci := commitFold_incomplete site _
      (insertDb_pwf (booked_pwf hwf site) ((txFold n site items).processed.map (fun p => (p.vlo, p.vhi))))
      (txFold n site items).processed
      (fun p hp => by obtain ⟨q, h1, h2, _⟩ := hst.proc p hp; exact ⟨q, h1, h2⟩)
    refine ⟨setBooked_bookWF hnwf site hci.pwf, fun s => ?_, fun a ha => ?_⟩
    · rw [booked_setBooked, ← hbk s]
      split
      · subst s
        exact fun v q h hc => hci.le v q (by rw [partial?_insertDb, ← hbk]; exact h) hc
      · exact CompleteLe.refl _
    · obtain ⟨h1, ⟨p, hp, hpv⟩, h3⟩ := hci.app a ha
      obtain ⟨_, _, _, hmem⟩ := hst.proc p hp
      exact ⟨h1, hpv ▸ hmem, by rw [booked_setBooked_same]; exact h3⟩

/-- invariant of the fold over the actors of a batch of incomplete chunks -/
structure IncDeliver (n : Node) (batch : List Item)
    (acc : Node × List (Nat × Nat) × List (Nat × Nat × Nat)) : Prop where
  db : acc.1.db = n.db
  alive : acc.1.alive = n.alive
  clears : acc.2.2 = []
  wf : acc.1.BookWF
  app : ∀ a ∈ acc.2.1, (∃ lo hi last cs, Item.full a.1 a.2 lo hi last cs ∈ batch) ∧
    ∃ q, (acc.1.booked a.1).partial? a.2 = some q ∧ q.complete = true

theorem deliverFold_incomplete (n : Node) (batch : List Item) (hinc : ∀ it ∈ batch, it.incomplete)
    (hwf : n.BookWF) :
    IncDeliver n batch (deliverFold n batch) := by
  apply foldl_inv (IncDeliver n batch)
  · exact ⟨rfl, rfl, rfl, hwf, nofun⟩
  · intro acc s _ hacc
    have hitems : ∀ it ∈ (unknownOf n batch).filter (·.site = s), it.incomplete :=
      fun it hit => hinc it (mem_unknownOf (List.mem_filter.mp hit).1)
    obtain ⟨h1, h2, h3⟩ := processActor_incomplete_db acc.1 s _ hitems
    obtain ⟨h4, h5, h6⟩ := processActor_incomplete acc.1 s _ hitems hacc.wf
    unfold actorStep
    refine ⟨h1.trans hacc.db, h2.trans hacc.alive, by simp only [hacc.clears, h3, List.append_nil], h4, ?_⟩
    intro a ha
    rcases List.mem_append.mp ha with ha | ha
    · obtain ⟨hb, q, hq, hc⟩ := hacc.app a ha
      exact ⟨hb, h5 a.1 a.2 q hq hc⟩
    · obtain ⟨ha1, ⟨s', lo, hi, last, cs, hm⟩, hq⟩ := h6 a ha
      obtain ⟨hu, hs'⟩ := List.mem_filter.mp hm
      obtain rfl : s' = s := of_decide_eq_true hs'
      rw [ha1]
      exact ⟨⟨lo, hi, last, cs, mem_unknownOf hu⟩, hq⟩

/-- an alive node changes its store on a batch of incomplete chunks only if the batch completed a partial -/
theorem deliver_incomplete_alive (n : Node) (batch : List Item) (hinc : ∀ it ∈ batch, it.incomplete)
    (hwf : n.BookWF) :
    (n.deliver batch).db = n.db ∨
      ∃ site ver lo hi last cs q, Item.full site ver lo hi last cs ∈ batch ∧
        ((n.deliver batch).booked site).partial? ver = some q ∧ q.complete = true := by
  have hinv := deliverFold_incomplete n batch hinc hwf
  rw [deliver_eq']
  unfold finish
  rw [hinv.clears, clearAll_nil]
  split
  · cases hap : (deliverFold n batch).2.1 with
    | nil => exact Or.inl hinv.db
    | cons a ap =>
      obtain ⟨⟨lo, hi, last, cs, hm⟩, q, hq, hc⟩ := hinv.app a (by rw [hap]; simp)
      exact Or.inr ⟨a.1, a.2, lo, hi, last, cs, q, hm, by rw [← hap, partial?_applyAll]; exact hq, hc⟩
  · exact Or.inl hinv.db

end Corro.Node
