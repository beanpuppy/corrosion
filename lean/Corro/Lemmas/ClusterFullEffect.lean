/-
C01, protocol level, BATCHES AND CRASHES — the effect of ONE batch (`Node.deliver batch`, any batch of
changesets satisfying `ChunkOK`) on what a node holds, from `GI` with nothing pending.  Any node, dead
or alive: a version booked without a partial (a node's own versions) stays so (`deliverB_keeps`), and
the db-version rows only grow.  What delivered changesets do to the bookkeeping of one actor is
`NodeEffect.lean`'s (`BatchEff`, `deliverFold_eff`, `deliver_eff`).  An ALIVE node with
nothing pending (`GI False`): what will be held is held after the batch, and everything merged belongs to
a held version; with `deliver_gi` that gives `linv_deliverB`.
-/
import Corro.Lemmas.ClusterFullDeliver
import Corro.Lemmas.ClusterOwn

namespace Corro.ClusterSys.Full
open Corro.Crdt Corro.Node

section Fold
variable {D : Prop} {L : Log} {n : Node} {R : List Chg} (hG : GI D L n.booked n.seqRows n.buf R [] [])
  (hs : n.book.Pairwise (fun x y => x.1 < y.1)) (hL : LogOK L) (batch : List Item)
  (hck : ∀ it ∈ batch, ChunkOK L it)
include hG hs hL hck

/-- `(deliverFoldG n batch).2 ++ R` is the ghost list after the fold over the actors: what their
transactions merged, in front of `R`.  Everything in it belongs to a version that will be held -/
theorem deliverFold_merged (hr : ∀ e ∈ R, WillHold (n.booked e.site) e.dbv) :
    ∀ e ∈ (deliverFoldG n batch).2 ++ R, WillHold ((deliverFold n batch).1.booked e.site) e.dbv := by
  rw [← deliverFoldG_fst]
  unfold deliverFoldG
  refine (foldl_inv (fun acc => FoldG D L n R acc ∧ ∀ e ∈ acc.2 ++ R, WillHold (acc.1.1.booked e.site) e.dbv)
    _ _ _ ⟨FoldG.init hG hs, hr⟩ ?_).2
  intro acc s _ ⟨h1, h2⟩
  have hit : ∀ it ∈ unknownFor n batch s, ChunkOK L it ∧ it.site = s := fun it hit =>
    ⟨hck it (mem_unknownFor hit).1, (mem_unknownFor hit).2⟩
  have hbk := processActor_vbOf h1.gi (unknownFor n batch s) hit
  obtain ⟨_, hnew, hmono⟩ := txFoldG_known h1.gi hL _ hit
  rw [txFoldG_fst] at hnew hmono
  refine ⟨h1.step hL batch hck s, ?_⟩
  intro e he
  show WillHold ((processActor acc.1.1 s (unknownFor n batch s)).1.booked e.site) e.dbv
  rw [hbk]
  have hold : ∀ e ∈ acc.2 ++ R, WillHold (ovr acc.1.1.booked s (vbOf (acc.1.1.booked s) s (txFold acc.1.1 s (unknownFor n batch s))) e.site)
      e.dbv := by
    intro e he
    by_cases hes : e.site = s
    · rw [hes, ovr_same]
      exact hmono _ (hes ▸ h2 e he)
    · rw [ovr_other _ _ _ hes]; exact h2 e he
  rcases List.mem_append.mp he with he | he
  · rcases List.mem_append.mp he with he | he
    · exact hold e (List.mem_append_left _ he)
    · obtain ⟨g1, g2⟩ := hnew e he
      rw [g1, ovr_same]; exact g2
  · exact hold e (List.mem_append_right _ he)

end Fold

theorem held_of_willHold {D : Prop} {L : Log} {n : Node} {R : List Chg} {C : List (Nat × Nat × Nat)}
    (hG : GI D L n.booked n.seqRows n.buf R C []) (hD : ¬ D) {a v : Nat} (h : WillHold (n.booked a) v) :
    Held n a v := by
  refine ⟨h.1, ?_⟩
  intro p hp
  have hc := h.2 p hp
  rcases hG.part_state a v p hp with h1 | ⟨h1, _⟩ | ⟨_, _, h1 | ⟨h1, _⟩⟩
  · exact h1
  · rw [hc] at h1; cases h1
  · exact absurd h1 hD
  · cases h1

theorem willHold_of_held {n : Node} {a v : Nat} (h : Held n a v) : WillHold (n.booked a) v :=
  ⟨h.1, fun p hp => (h.2 p hp).1⟩

theorem mem_applyMerged {N : Node} {A : List (Nat × Nat)} {e : Chg} (h : e ∈ applyMerged N A) :
    ∃ p, (N.booked e.site).partial? e.dbv = some p ∧ p.complete = true := by
  induction A generalizing N with
  | nil => cases h
  | cons t A ih =>
    rw [applyMerged_cons] at h
    rcases List.mem_append.mp h with h | h
    · rcases applyBuffered_cases N t.1 t.2 with ⟨_, hskip⟩ | ⟨p, hp, hpc, _⟩
      · rw [appliedBy_skip hskip] at h; cases h
      · rw [appliedBy_complete hp hpc, mem_sortBySeq] at h
        have := (List.mem_filter.mp h).2
        simp only [decide_eq_true_eq] at this
        rw [this.1, this.2]
        exact ⟨p, hp, hpc⟩
    · obtain ⟨p, hp, hc⟩ := ih h
      rw [partial?_applyBuffered] at hp
      exact ⟨p, hp, hc⟩

theorem deliverB_keeps {P : Nat → Nat → Prop} {L : Log} {n : Node} {R : List Chg} (hI : Crash.CInv P L n R)
    (batch : List Item) {a v : Nat} (h : OwnB (n.booked a) v) : OwnB ((n.deliver batch).booked a) v :=
  (deliver_eff (hI.needed_wf a) (hI.pwf a) (hI.keys a) batch).own v h

theorem dbvOf_deliverB_ge (n : Node) (batch : List Item) (a : Nat) : dbvOf n a ≤ dbvOf (n.deliver batch) a :=
  (deliver_rel (fun n n' => dbvOf n a ≤ dbvOf n' a) (fun _ => Nat.le_refl _) Nat.le_trans
    (fun n s v => Crash.dbvOf_bump_ge n s v a) (fun n cs => Crash.dbvOf_mergeChanges_ge n cs a)
    (fun _ _ _ _ _ _ _ => Nat.le_of_eq (dbvOf_congr (bufferChunk_dbv _ _ _ _ _ _ _) a).symm)
    (fun _ _ => Nat.le_refl _) (fun _ _ _ _ => Nat.le_refl _)
    (fun n a0 v0 => Crash.dbvOf_applyBuffered_ge n a0 v0 a) n batch).2

section Effect
variable {L : Log} {n : Node} {R : List Chg} (hG : GI False L n.booked n.seqRows n.buf R [] [])
  (hs : n.book.Pairwise (fun x y => x.1 < y.1)) (hal : n.alive = true) (hL : LogOK L) {batch : List Item}
  (hck : ∀ it ∈ batch, ChunkOK L it)
include hG hs hal hL hck

theorem deliver_gi_alive :
    GI False L (n.deliver batch).booked (n.deliver batch).seqRows (n.deliver batch).buf
      (mergedByBatch n batch ++ R) [] [] := by
  have := (deliver_gi hG hs (fun _ h => h) hL hck).1
  rw [hal] at this
  exact this

theorem willHold_deliver {a v : Nat} (h : WillHold ((deliverFold n batch).1.booked a) v) :
    Held (n.deliver batch) a v :=
  held_of_willHold (deliver_gi_alive hG hs hal hL hck) id
    ((deliver_booked batch (deliverFold_eff (hG.needed_wf a) (hG.pwf a) (hG.keys a) batch).2).willHold h)

theorem deliverB_held_mono {a v : Nat} (hh : Held n a v) : Held (n.deliver batch) a v :=
  held_of_willHold (deliver_gi_alive hG hs hal hL hck) id
    ((deliver_eff (hG.needed_wf a) (hG.pwf a) (hG.keys a) batch).willHold (willHold_of_held hh))

theorem deliverB_rheld (hr : ∀ e ∈ R, Held n e.site e.dbv) :
    ∀ e ∈ mergedByBatch n batch ++ R, Held (n.deliver batch) e.site e.dbv := by
  have hfold := deliverFold_merged hG hs hL batch hck (fun e he => willHold_of_held (hr e he))
  have hcl := (deliverCleared_gi hG hs hL hck).1
  intro e he
  apply willHold_deliver hG hs hal hL hck
  rw [mergedByBatch_eq, (deliver_alive n batch).1, hal, if_pos rfl, List.append_assoc] at he
  rcases List.mem_append.mp he with he | he
  · exact hfold e (List.mem_append_left _ he)
  rcases List.mem_append.mp he with he | he
  · obtain ⟨p, hp, hc⟩ := mem_applyMerged he
    rw [booked_of_book (clearAll_book _ _)] at hp
    refine ⟨?_, fun q hq => by rw [hp] at hq; cases hq; exact hc⟩
    have := hcl.part_known e.site e.dbv p (by rw [booked_of_book (clearAll_book _ _)]; exact hp)
    rw [booked_of_book (clearAll_book _ _)] at this
    exact this
  · exact hfold e (List.mem_append_right _ he)

end Effect

/-- **one BATCH, alive node without crashes**: the batch preserves `LInv`, `rheld`
included -/
theorem linv_deliverB {L : Log} {n : Node} {R : List Chg} {batch : List Item} (hN : NInv L n R)
    (hI : LInv L n R) (hL : LogOK L) (hck : ∀ it ∈ batch, ChunkOK L it) :
    LInv L (n.deliver batch) (mergedByBatch n batch ++ R) := by
  have hG := gi_of_linv hN hI
  exact linv_of_gi
    (batch_of_gi (deliver_gi_alive hG hI.sorted hI.alive hL hck)
      (fun e he => Or.inl (deliverB_rheld hG hI.sorted hI.alive hL hck hI.rheld e he)))
    ((deliverB_alive n batch).trans hI.alive) (deliver_gi hG hI.sorted (fun _ h => h) hL hck).2.1

end Corro.ClusterSys.Full
