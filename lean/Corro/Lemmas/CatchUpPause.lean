/-
C12, a batch that the matcher has sent and not committed (the window in which the verification hook
`verif_hooks::before_matcher_commit` holds the real matcher; harness op `wpause`): the driver's coarse
step `sendBatch` is a schedule of `Act`s, and while the matcher stays there and the pipe delivers nothing
more a subscriber is never declared caught up (invariant `PInv`).
-/
import Corro.Lemmas.CatchUpStep

namespace Corro.CatchUp

theorem sendBatch_eq (cfg : Cfg) (n : Nat) : ∀ e : Env, sendBatch cfg e n = { e with sent := e.sent + n } := by
  induction n with
  | zero => intro e; rfl
  | succ n ih =>
    intro e
    simp only [sendBatch, ih, stepEnv]
    congr 1
    omega

theorem run_replicate_emit (cfg : Cfg) (n : Nat) : ∀ (e : Env) (s : Sub),
    run cfg (e, s) (List.replicate n .emit) = (sendBatch cfg e n, s) := by
  induction n with
  | zero => intro e s; rfl
  | succ n ih =>
    intro e s
    simp only [List.replicate_succ, run, step, sendBatch]
    exact ih _ s

/-- actions of the subscriber's own tasks: the matcher stays where it is, the pipe and the purge idle -/
def SubOnly (a : Act) : Prop := a = .main ∨ a = .qrecv ∨ a = .qcancel

/-- what holds at each program point while the matcher sits between send and commit -/
@[reducible] def PausePc (e : Env) (s : Sub) : Pc → Prop
  | .start => True
  | .readEoq pin => pin ≤ e.committed
  | .tryRecv => s.last ≤ e.committed
  | .loop _ => s.target = some e.sent ∧ s.last ≤ e.committed ∧ s.minId ≤ e.sent
  | .afterLoop => s.target = some e.sent ∧ s.minId ≤ e.sent
  | .done => ∃ pre, s.out = pre ++ [.error, .closed]
  | _ => False

/-- invariant of a subscriber that subscribed while `committed < sent` and to which nothing more is
published: its queue stays empty and its buffering task idle, nothing above `committed` is
delivered, it never gets past the reconcile loop -/
structure PInv (e : Env) (s : Sub) : Prop where
  idle : s.qHead = s.qTail ∧ s.cur = e.published + 1 ∧ s.qt = .running ∧ s.cancelled = false ∧ s.handed = false
  ids : ∀ k ∈ chg s.out, k ≤ e.committed
  md : ∀ n, s.mode = .since n → n ≤ e.committed
  pcs : PausePc e s s.pc

theorem PInv.running {e : Env} {s : Sub} (h : PInv e s) : s.qt = .running := h.idle.2.2.1

theorem PInv.not_cancelled {e : Env} {s : Sub} (h : PInv e s) : s.cancelled = false := h.idle.2.2.2.1

theorem PInv.not_handed {e : Env} {s : Sub} (h : PInv e s) : s.handed = false := h.idle.2.2.2.2

theorem PInv.at {e : Env} {s : Sub} {pc : Pc} (h : PInv e s) (hpc : s.pc = pc) : PausePc e s pc := hpc ▸ h.pcs

theorem pinv_attach (e : Env) (m : Mode) (hm : ∀ n, m = .since n → n ≤ e.committed) : PInv e (attach e m) :=
  ⟨⟨rfl, rfl, rfl, rfl, rfl⟩, nofun, hm, trivial⟩

theorem pinv_qrecv (cfg : Cfg) {e : Env} {s : Sub} (h : PInv e s) : stepQRecv cfg e s = s := by
  obtain ⟨-, hc, hq, -⟩ := h.idle
  have h1 : ¬ lagging cfg e s = true := by simp [lagging, hc]
  have h2 : ¬ s.cur ≤ e.published := by omega
  rw [stepQRecv, if_pos hq, if_neg h1, if_neg h2]

theorem pinv_qcancel {e : Env} {s : Sub} (h : PInv e s) : stepQCancel s = s := by
  simp [stepQCancel, h.not_cancelled]

theorem below_append {c : Nat} {a b : List Item} (ha : ∀ k ∈ chg a, k ≤ c) (hb : ∀ k ∈ chg b, k ≤ c) :
    ∀ k ∈ chg (a ++ b), k ≤ c := by
  intro k hk
  rw [chg_append] at hk
  exact (List.mem_append.mp hk).elim (ha k) (hb k)

theorem below_logRead (e : Env) (n : Nat) : ∀ k ∈ chg (logRead e n).1, k ≤ e.committed := by
  intro k hk
  rw [logRead, chg_map_change] at hk
  exact (mem_idsFrom hk).2

theorem pinv_main (cfg : Cfg) {e : Env} {s : Sub} (hun : e.committed < e.sent) (h : PInv e s) :
    PInv e (stepMain cfg e s) := by
  have hs := Main.of cfg e s
  have hpc := h.pcs
  generalize stepMain cfg e s = s' at hs
  generalize s.pc = pc at hs hpc
  cases hs with
  | startAnew => exact ⟨h.idle, below_append h.ids nofun, h.md, Nat.le_refl _⟩
  | startSkip => exact ⟨h.idle, h.ids, h.md, Nat.le_refl _⟩
  | startSince hm =>
    exact ⟨h.idle, below_append h.ids (below_logRead e _), h.md, Nat.max_le.mpr ⟨h.md _ hm, Nat.le_refl _⟩⟩
  | readEoq => exact ⟨h.idle, below_append h.ids nofun, h.md, hpc⟩
  -- `tryRecv`: nothing is buffered and `last ≤ committed < sent`, so the reconcile loop is entered with target `sent`
  | recvQueued hq => exact absurd hq (h.idle.1 ▸ Nat.lt_irrefl _)
  | recvClosed _ hq => rw [h.running] at hq; exact nomatch hq
  | recvCaughtUp _ _ hs => exact absurd (Nat.lt_of_le_of_lt (Nat.le_trans hs hpc) hun) (Nat.lt_irrefl _)
  | recvBehind => exact ⟨h.idle, h.ids, h.md, rfl, hpc, Nat.lt_of_le_of_lt hpc hun⟩
  | loopNone ht => exact nomatch ht.symm.trans hpc.1
  | loopRead ht _ hle =>
    exact ⟨h.idle, below_append h.ids (below_logRead e _), h.md, hpc.1, Nat.max_le.mpr ⟨hpc.2.1, Nat.le_refl _⟩,
      Option.some.inj (ht.symm.trans hpc.1) ▸ hle⟩
  | loopReached => exact ⟨h.idle, h.ids, h.md, hpc.1, Nat.lt_of_le_of_lt hpc.2.1 hun⟩
  | loopSpent => exact ⟨h.idle, h.ids, h.md, hpc.1, hpc.2.2⟩
  | afterNone ht => exact nomatch ht.symm.trans hpc.1
  -- `afterLoop`: the target was never committed, so the stream ends with the error event
  | afterShort => exact ⟨h.idle, below_append h.ids nofun, h.md, _, rfl⟩
  | afterOk ht hn => exact absurd (Option.some.inj (ht.symm.trans hpc.1) ▸ hpc.2) hn
  | done => exact h
  -- the points past the reconcile loop are never reached (`PausePc` is `False` there)
  | _ => exact hpc.elim

theorem run_pinv (cfg : Cfg) (acts : List Act) : ∀ (e : Env) (s : Sub), e.committed < e.sent → PInv e s →
    (∀ a ∈ acts, SubOnly a) →
    (run cfg (e, s) acts).1 = e ∧ PInv e (run cfg (e, s) acts).2 := by
  induction acts with
  | nil => intro e s _ h _; exact ⟨rfl, h⟩
  | cons a as ih =>
    intro e s hun h ha
    have hrest : ∀ a ∈ as, SubOnly a := fun x hx => ha x (List.mem_cons_of_mem _ hx)
    simp only [run]
    rcases ha a (List.mem_cons_self ..) with rfl | rfl | rfl
    · exact ih e _ hun (pinv_main cfg hun h) hrest
    · simp only [step, pinv_qrecv cfg h]
      exact ih e s hun h hrest
    · simp only [step, pinv_qcancel h]
      exact ih e s hun h hrest

end Corro.CatchUp
