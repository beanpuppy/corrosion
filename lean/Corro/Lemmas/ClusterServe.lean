/-
C01, protocol level — everything a sync server sends satisfies `ChunkOK` (`Crash.chunkOK_answers`).  The
server satisfies `Crash.CInv` (dead or alive, possibly with complete-but-unapplied versions) and has no
sequence row lacking a buffered row (`nodeClean`); the requests are those `computeAvailableNeeds`
produces from the two advertised states.  The relay lemma (`live_covers_got`) is stated from `rgot`: a
node serves its live entries of a version only if ALL changes of the version are merged or dominated,
whether or not it books the version as held (a killed node may have re-buffered a chunk of it).
-/
import Corro.Lemmas.ClusterInv
import Corro.Lemmas.NodeSync
import Corro.Lemmas.Needs
import Corro.Lemmas.NodeServe

namespace Corro.ClusterSys
open Corro.Crdt Corro.Node Corro.Needs

theorem aget_eq_alook {β : Type} (l : List (Nat × β)) (k : Nat) : aget k l = alook l k := by
  induction l with
  | nil => rfl
  | cons e l ih =>
    obtain ⟨k', v⟩ := e
    rw [alook_cons]
    show (if k' = k then some v else aget k l) = _
    rw [ih]

theorem mem_nf {β γ : Type} {g : β → Option γ} {l : List (Nat × β)} {x : Nat × γ} (h : x ∈ nf g l) :
    ∃ e ∈ l, e.1 = x.1 ∧ g e.2 = some x.2 := by
  unfold nf at h
  obtain ⟨e, he, h1⟩ := List.mem_filterMap.mp h
  cases hg : g e.2 with
  | none => rw [hg] at h1; cases h1
  | some y =>
    rw [hg] at h1
    simp only [Option.map_some, Option.some.injEq] at h1
    exact ⟨e, he, by rw [← h1], by rw [← h1]; exact hg⟩

theorem mem_nf_of {β γ : Type} {g : β → Option γ} {l : List (Nat × β)} {e : Nat × β} {y : γ}
    (he : e ∈ l) (hg : g e.2 = some y) : (e.1, y) ∈ nf g l := by
  unfold nf
  exact List.mem_filterMap.mpr ⟨e, he, by rw [hg]; rfl⟩

theorem syncState_at {n : Node} (hs : n.book.Pairwise (fun x y => x.1 < y.1)) (a : Nat) :
    aget a n.syncState.heads = gH (n.booked a) ∧ aget a n.syncState.need = gN (n.booked a) ∧
      aget a n.syncState.partialNeed = gPN (n.booked a) := by
  rw [syncState_nf]
  simp only [aget_eq_alook, nf_alook _ hs]
  exact ⟨bind_booked gH rfl n a, bind_booked gN rfl n a, bind_booked gPN rfl n a⟩

theorem headOf_syncState {n : Node} (hs : n.book.Pairwise (fun x y => x.1 < y.1)) (a : Nat) :
    headOf n.syncState a = (n.booked a).max := by
  rw [headOf, (syncState_at hs a).1, gH]
  split
  · rfl
  · rename_i hz; exact (Decidable.not_not.mp hz).symm

theorem needOf_eq {n : Node} (hs : n.book.Pairwise (fun x y => x.1 < y.1)) (a : Nat) :
    needOf n.syncState a = if (n.booked a).max ≠ 0 then (n.booked a).needed else [] := by
  rw [needOf, (syncState_at hs a).2.1, gN]
  split
  · split
    · rename_i he; exact (List.isEmpty_iff.mp he).symm
    · rfl
  · rfl

theorem partialsOf_eq {n : Node} (hs : n.book.Pairwise (fun x y => x.1 < y.1)) (a : Nat) :
    partialsOf n.syncState a = if (n.booked a).max ≠ 0 then nf gP (n.booked a).partials else [] := by
  rw [partialsOf, (syncState_at hs a).2.2, gPN]
  split
  · split
    · rename_i he; exact (List.isEmpty_iff.mp he).symm
    · rfl
  · rfl

theorem head_of_syncState {n : Node} (hs : n.book.Pairwise (fun x y => x.1 < y.1)) {a head : Nat}
    (h : (a, head) ∈ n.syncState.heads) : head = (n.booked a).max := by
  have hk : KeysSorted n.syncState.heads := by
    rw [syncState_nf]; exact List.pairwise_map.mpr (nf_sorted gH hs)
  rw [← headOf_syncState hs a, headOf, aget_of_mem hk h]; rfl

theorem needOf_syncState {n : Node} (hs : n.book.Pairwise (fun x y => x.1 < y.1)) (a : Nat)
    {r : Nat × Nat} (h : r ∈ needOf n.syncState a) : r ∈ (n.booked a).needed := by
  rw [needOf_eq hs a] at h
  split at h
  · exact h
  · cases h

theorem partialsOf_syncState {n : Node} (hs : n.book.Pairwise (fun x y => x.1 < y.1)) (a : Nat)
    {p : Nat × List (Nat × Nat)} (h : p ∈ partialsOf n.syncState a) :
    ∃ q, (n.booked a).partial? p.1 = some q := by
  rw [partialsOf_eq hs a] at h
  split at h
  · obtain ⟨e, he, h1, _⟩ := mem_nf h
    cases hq : (n.booked a).partial? p.1 with
    | some q => exact ⟨q, rfl⟩
    | none =>
      rw [partial?_eq, alook_eq_none] at hq
      exact absurd h1 (hq e he)
  · cases h

theorem Crash.CInv.need_forward {P : Nat → Nat → Prop} {L : Log} {n : Node} {R : List Chg} (h : Crash.CInv P L n R)
    (a : Nat) : ∀ r ∈ needOf n.syncState a, r.1 ≤ r.2 :=
  fun r hr => Corro.RSet.wf_forward (h.needed_wf a) r (needOf_syncState h.sorted a hr)

/-- the counterpart of C04's `requests_within_head`, with the well-formedness of the two advertised
states read off the nodes' invariants -/
theorem requests_le_head {P : Nat → Nat → Prop} {L : Log} {ni nj : Node} {Rj : List Chg}
    (hj : Crash.CInv P L nj Rj) {a : Nat}
    {ns : List Need} (h : (a, ns) ∈ computeAvailableNeeds ni.syncState nj.syncState) {need : Need}
    (hn : need ∈ ns) (v : Nat) (hv : requests need v) : v ≤ (nj.booked a).max := by
  obtain ⟨head, hhm, _, hh0, rfl, _⟩ := mem_computeAvailableNeeds.mp h
  have hhead := head_of_syncState hj.sorted hhm
  have hfw := hj.need_forward a
  have hh1 : 1 ≤ head := by omega
  have hwf := otherHaves_wf head hh1 (needOf nj.syncState a) (partialsOf nj.syncState a) hfw
  have hmo := mem_otherHaves head hh1 (needOf nj.syncState a) (partialsOf nj.syncState a) hfw
  rw [← hhead]
  rcases mem_needsFor.mp hn with h | h | h
  · obtain ⟨r, _, p, hp, rfl⟩ := mem_fullFromNeed.mp h
    have hps := ((RSet.mem_overlapping _ r p).mp hp).1
    have hpf := Corro.RSet.wf_forward hwf p hps
    have hhi := (hmo p.2).mp ⟨p, hps, hpf, Nat.le_refl _⟩
    simp only [requests, clip] at hv
    omega
  · obtain ⟨q, hq, h⟩ := mem_partialNeeds.mp h
    rcases h with ⟨hm, rfl⟩ | ⟨_, os, hos, _, rfl⟩
    · have := (hmo q.1).mp hm
      simp only [requests] at hv
      omega
    · obtain ⟨p, hp⟩ := partialsOf_syncState hj.sorted a (aget_mem hos)
      have := (containsVersion_iff _ _).mp (hj.part_known a q.1 p hp)
      simp only [requests] at hv
      omega
  · obtain ⟨_, rfl⟩ := (mem_missing_headOf hh0).mp h
    simp only [requests] at hv
    omega

section Server
variable {P : Nat → Nat → Prop} {L : Log} {n : Node} {R : List Chg}

theorem of_mem_live (hN : NInv L n R) (hI : Crash.CInv P L n R) (hL : LogOK L) {a v : Nat} {c : Chg}
    (hc : c ∈ n.live a v) : c ∈ L.get a v ∧ ∀ c' ∈ L.get a v, c' ∈ R ∨ Dom L.all c' := by
  obtain ⟨h1, h2, h3, _⟩ := mem_live.mp hc
  have hR := hN.store.lit.mem h1
  have hg := hL.get_of_mem_all (hN.rsub c hR)
  have hh := hI.rgot c hR
  rw [h2, h3] at hg hh
  exact ⟨hg, hh⟩

theorem live_covers_got (hN : NInv L n R) (hL : LogOK L) {a v : Nat}
    (hg : ∀ c' ∈ L.get a v, c' ∈ R ∨ Dom L.all c')
    {c : Chg} (hc : c ∈ L.get a v) : c ∈ n.live a v ∨ Dom L.all c := by
  by_cases hd : Dom L.all c
  · exact Or.inr hd
  · left
    obtain ⟨_, h2, h3, hok⟩ := hL.mem_get hc
    rcases hg c hc with h | h
    · have := live_of_nondominated hN.store hN.rsub hok h hd
      exact mem_live.mpr ⟨this, h2, h3, hok.seq_le⟩
    · exact absurd h hd

theorem Crash.live_covers (hN : NInv L n R) (hI : Crash.CInv P L n R) (hL : LogOK L) {a v : Nat} (hh : Held n a v)
    {c : Chg} (hc : c ∈ L.get a v) : c ∈ n.live a v ∨ Dom L.all c :=
  live_covers_got hN hL (hI.held a v hh) hc

theorem held_of_quiet (hI : Crash.CInv P L n R) (hcl : nodeClean n = true) {a v : Nat}
    (hv : v ≤ (n.booked a).max) (hg : n.inGaps a v = false) (hb : n.hasBuf a v = false) :
    Held n a v := by
  refine ⟨(containsVersion_iff _ _).mpr ⟨?_, hv⟩, ?_⟩
  · intro hm
    rw [inGaps_iff.mpr hm] at hg; cases hg
  · intro p hp
    have noRows : ¬ HasRows n a v := by
      rintro ⟨r, hr, h1, h2⟩
      unfold nodeClean at hcl
      have := List.all_eq_true.mp hcl r hr
      obtain ⟨c, hc, hk⟩ := List.any_eq_true.mp this
      simp only [decide_eq_true_eq] at hk
      exact hasBuf_false_iff.mp hb c hc ⟨hk.1.trans h1, hk.2.trans h2⟩
    rcases hI.part_state a v p hp with h | ⟨_, h, _⟩ | ⟨_, _, h⟩
    · exact h
    · exact absurd h noRows
    · exact absurd h noRows

theorem chunkOK_live (hN : NInv L n R) (hI : Crash.CInv P L n R) (hL : LogOK L) {a v lo hi : Nat}
    (hne : (n.live a v).isEmpty = false) :
    ChunkOK L (.full a v lo hi (maxSeq (n.live a v))
      ((n.live a v).filter (fun c => lo ≤ c.seq ∧ c.seq ≤ hi))) := by
  obtain ⟨c0, hc0⟩ : ∃ c0, c0 ∈ n.live a v := by
    cases hl : n.live a v with
    | nil => rw [hl] at hne; cases hne
    | cons c cs => exact ⟨c, by simp⟩
  obtain ⟨hg0, hgot⟩ := of_mem_live hN hI hL hc0
  refine ⟨?_, ?_, ?_, ?_⟩
  · apply Classical.byContradiction
    intro hlt
    rw [hL.get_beyond (by omega)] at hg0
    cases hg0
  · intro e he
    exact (of_mem_live hN hI hL (List.mem_filter.mp he).1).1
  · intro c hc h1 h2
    rcases live_covers_got hN hL hgot hc with h | h
    · exact Or.inl (List.mem_filter.mpr ⟨h, by simpa using ⟨h1, h2⟩⟩)
    · exact Or.inr h
  · intro c hc hlt
    rcases live_covers_got hN hL hgot hc with h | h
    · have := le_maxSeq h; omega
    · exact h

theorem chunkOK_buf (hN : NInv L n R) (hI : Crash.CInv P L n R) (hL : LogOK L) {a v lo hi : Nat} {r : SeqRow}
    (hr : r ∈ n.seqRows) (hs : r.site = a) (hv : r.ver = v) (h1 : r.lo ≤ lo) (h2 : hi ≤ r.hi) :
    ChunkOK L (.full a v lo hi r.last (n.bufIn a v lo hi)) := by
  refine ⟨?_, ?_, ?_, ?_⟩
  · have := hI.rows_le r hr
    have := hI.head_le a
    rw [hs, hv] at *
    omega
  · intro e he
    obtain ⟨h3, h4, h5, _⟩ := mem_bufIn.mp he
    have := hL.get_of_mem_all (hN.bufsub e h3)
    rw [h4, h5] at this
    exact this
  · intro c hc h3 h4
    have hsm : SeqMem n.seqRows a v c.seq := ⟨r, hr, hs, hv, by omega, by omega⟩
    rcases hI.cover a v c.seq hsm c hc rfl with h | h
    · left
      obtain ⟨_, h5, h6, _⟩ := hL.mem_get hc
      exact mem_bufIn.mpr ⟨h, h5, h6, h3, h4⟩
    · exact Or.inr h
  · intro c hc hlt
    have := hI.last_rows r hr
    rw [hs, hv] at this
    exact this c hc hlt

theorem chunkOK_empty_one (hN : NInv L n R) (hI : Crash.CInv P L n R) (hL : LogOK L) (hcl : nodeClean n = true)
    {a v : Nat} (hv : v ≤ (n.booked a).max) (hl : (n.live a v).isEmpty = true)
    (hb : n.hasBuf a v = false) (hg : n.inGaps a v = false) :
    ∀ c ∈ L.get a v, Dom L.all c := by
  intro c hc
  rcases Crash.live_covers hN hI hL (held_of_quiet hI hcl hv hg hb) hc with h | h
  · rw [List.isEmpty_iff.mp hl] at h; cases h
  · exact h

theorem chunkOK_handleNeed (hN : NInv L n R) (hI : Crash.CInv P L n R) (hL : LogOK L) (hcl : nodeClean n = true)
    {a : Nat} {need : Need} (hreq : ∀ v, requests need v → v ≤ (n.booked a).max) {it : Corro.Node.Item}
    (hit : it ∈ handleNeed n a need) : ChunkOK L it := by
  cases it with
  | empty s vlo vhi =>
    have hall := fun v h1 h2 => empty_mem_handleNeed (v := v) hit h1 h2
    have hf := empty_forward_handleNeed hit
    -- every version of the range carries `s = a`; read at `vhi`, which is also requested
    obtain ⟨rfl, hrq, _⟩ := hall vhi hf (Nat.le_refl _)
    refine ⟨Nat.le_trans (hreq vhi hrq) (hI.head_le s), fun v h1 h2 => ?_⟩
    obtain ⟨_, h3, h4, h5, h6⟩ := hall v h1 h2
    exact chunkOK_empty_one hN hI hL hcl (hreq v h3) h4 h5 h6
  | full s v lo hi last cs =>
    obtain ⟨rfl, _, ⟨hne, rfl, rfl, _⟩ | ⟨_, _, rfl, r, hr, hs, hv, h1, h2, rfl⟩⟩ := full_mem_handleNeed hit
    · exact chunkOK_live hN hI hL hne
    · exact chunkOK_buf hN hI hL hr hs hv h1 h2

end Server

theorem of_mem_answers {ni nj : Node} {it : Corro.Node.Item} (h : it ∈ answers ni nj) :
    ∃ a ns need, (a, ns) ∈ computeAvailableNeeds ni.syncState nj.syncState ∧ need ∈ ns ∧
      it ∈ handleNeed nj a need := by
  unfold answers at h
  obtain ⟨⟨a, ns⟩, han, h⟩ := List.mem_flatMap.mp h
  obtain ⟨need, hneed, h⟩ := List.mem_flatMap.mp h
  exact ⟨a, ns, need, han, hneed, mem_serve h⟩

theorem mem_answers {ni nj : Node} {a : Nat} {ns : List Need} {need : Need} {it : Corro.Node.Item}
    (h1 : (a, ns) ∈ computeAvailableNeeds ni.syncState nj.syncState) (h2 : need ∈ ns)
    (h3 : it ∈ nj.serve a need) : it ∈ answers ni nj := by
  unfold answers
  exact List.mem_flatMap.mpr ⟨(a, ns), h1, List.mem_flatMap.mpr ⟨need, h2, h3⟩⟩

theorem Crash.chunkOK_answers {P : Nat → Nat → Prop} {L : Log} {ni nj : Node} {Rj : List Chg}
    (hN : NInv L nj Rj) (hI : Crash.CInv P L nj Rj)
    (hL : LogOK L) (hcl : nodeClean nj = true) {it : Corro.Node.Item} (hit : it ∈ answers ni nj) :
    ChunkOK L it := by
  obtain ⟨a, ns, need, han, hneed, hit⟩ := of_mem_answers hit
  exact chunkOK_handleNeed hN hI hL hcl (fun v hv => requests_le_head hI han hneed v hv) hit

end Corro.ClusterSys
