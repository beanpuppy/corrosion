/-
The packed-key model (`Corro/Model/Pack.lean`): big-endian byte strings, minimal byte counts, the
round trip of one column and of a whole key, and how many bytes `unpack` consumes.
-/
import Corro.Model.Pack

namespace Corro.Pack

theorem beNat_nil : beNat [] = 0 := rfl

theorem beNat_snoc (xs : Bytes) (b : UInt8) : beNat (xs ++ [b]) = beNat xs * 256 + b.toNat := by
  rw [beNat, List.foldl_append]; rfl

theorem beBytes_length (k n : Nat) : (beBytes k n).length = k := by
  induction k generalizing n with
  | zero => rfl
  | succ k ih => rw [beBytes, List.length_append, ih]; rfl

theorem beNat_beBytes (k n : Nat) : beNat (beBytes k n) = n % 256 ^ k := by
  induction k generalizing n with
  | zero => exact (Nat.mod_one n).symm
  | succ k ih =>
    have : n % 256 % 2 ^ 8 = n % 256 := Nat.mod_mod n 256
    rw [beBytes, beNat_snoc, ih, UInt8.toNat_ofNat', this, Nat.pow_succ, Nat.mul_comm (256 ^ k),
      Nat.mod_mul, Nat.add_comm, Nat.mul_comm]

theorem beNat_beBytes_of_lt (k n : Nat) (h : n < 256 ^ k) : beNat (beBytes k n) = n := by
  rw [beNat_beBytes, Nat.mod_eq_of_lt h]

theorem take_beBytes (k n : Nat) (rest : Bytes) : (beBytes k n ++ rest).take k = beBytes k n :=
  List.take_left' (beBytes_length k n)

theorem drop_beBytes (k n : Nat) (rest : Bytes) : (beBytes k n ++ rest).drop k = rest :=
  List.drop_left' (beBytes_length k n)

/-! `numBytes32` and `numBytes64` are cascades of tests "is byte `k` non-zero?", from the top byte down.
Both compute the least `j` with `n < 256 ^ j`. -/

theorem succ_le_iff_lt_pow {n k : Nat} (lo : 256 ^ k ≤ n) (hi : n < 256 ^ (k + 1)) (j : Nat) :
    k + 1 ≤ j ↔ n < 256 ^ j :=
  ⟨fun h => Nat.lt_of_lt_of_le hi (Nat.pow_le_pow_right (by decide) h),
   fun h => (Nat.pow_lt_pow_iff_right (by decide)).1 (Nat.lt_of_le_of_lt lo h)⟩

/-- One test of a cascade.  `b = 256 ^ k` is the weight of the byte looked at and all higher bytes
are known to be zero (`n < b * 256`), so the byte is `n / b` itself: non-zero exactly when `b ≤ n`,
and then `k + 1` bytes are needed; otherwise `n < b` and the rest `r` of the cascade decides. -/
theorem numBytes_step {n b k r : Nat} (hb : b = 256 ^ k) (h : n < b * 256)
    (hr : n < b → ∀ j, r ≤ j ↔ n < 256 ^ j) :
    ∀ j, (if n / b % 256 ≠ 0 then k + 1 else r) ≤ j ↔ n < 256 ^ j := by
  subst hb
  by_cases hn : n < 256 ^ k
  · rw [Nat.div_eq_of_lt hn, if_neg (by decide)]
    exact hr hn
  · have lo := Nat.le_of_not_lt hn
    rw [Nat.mod_eq_of_lt (Nat.div_lt_of_lt_mul h),
      if_pos (Nat.ne_of_gt (Nat.div_pos lo (Nat.pow_pos (by decide))))]
    exact succ_le_iff_lt_pow lo h

theorem numBytes32_le_iff (m : Nat) (h : m < 4294967296) :
    ∀ j, numBytes32 m ≤ j ↔ m < 256 ^ j := by
  unfold numBytes32
  refine numBytes_step (k := 3) rfl h fun h => ?_
  refine numBytes_step (k := 2) rfl h fun h => ?_
  refine numBytes_step (k := 1) rfl h fun h => ?_
  -- the last test multiplies instead of masking; below 256 it still says `m ≠ 0`
  by_cases h0 : m = 0
  · subst h0
    exact fun j => ⟨fun _ => Nat.pow_pos (by decide), fun _ => Nat.zero_le j⟩
  · rw [if_pos (by omega)]
    exact succ_le_iff_lt_pow (k := 0) (Nat.pos_of_ne_zero h0) h

theorem numBytes64_le_iff (n : Nat) (h : n < 18446744073709551616) :
    ∀ j, numBytes64 n ≤ j ↔ n < 256 ^ j := by
  unfold numBytes64
  refine numBytes_step (k := 7) rfl h fun h => ?_
  refine numBytes_step (k := 6) rfl h fun h => ?_
  refine numBytes_step (k := 5) rfl h fun h => ?_
  refine numBytes_step (k := 4) rfl h fun h => ?_
  rw [Nat.mod_eq_of_lt h]
  exact numBytes32_le_iff n h

theorem ite_le {p : Prop} [Decidable p] {a b c : Nat} (ha : a ≤ c) (hb : b ≤ c) :
    (if p then a else b) ≤ c := by
  split
  · exact ha
  · exact hb

theorem numBytes32_le (m : Nat) : numBytes32 m ≤ 4 :=
  ite_le (by decide) <| ite_le (by decide) <| ite_le (by decide) <| ite_le (by decide) (by decide)

theorem numBytes32_spec (m : Nat) (h : m < 4294967296) : m < 256 ^ numBytes32 m :=
  (numBytes32_le_iff m h _).1 (Nat.le_refl _)

theorem numBytes64_le (n : Nat) : numBytes64 n ≤ 8 :=
  ite_le (by decide) <| ite_le (by decide) <| ite_le (by decide) <| ite_le (by decide) <|
    Nat.le_trans (numBytes32_le _) (by decide)

theorem numBytes64_spec (n : Nat) (h : n < 18446744073709551616) : n < 256 ^ numBytes64 n :=
  (numBytes64_le_iff n h _).1 (Nat.le_refl _)

/-- minimality: one byte fewer would not hold the pattern (so the encoding is the canonical
shortest one, as the extension produces it). -/
theorem numBytes64_minimal (n : Nat) (h : n < 18446744073709551616) (hk : 0 < numBytes64 n) :
    256 ^ (numBytes64 n - 1) ≤ n :=
  Nat.le_of_not_lt fun hlt => Nat.lt_irrefl _
    (Nat.lt_of_le_of_lt ((numBytes64_le_iff n h _).2 hlt) (Nat.sub_one_lt_of_lt hk))

theorem pat64_lt (v : Int) : pat64 v < 18446744073709551616 := by
  unfold pat64; omega

theorem ofPat64_pat64 (v : Int) (h1 : -9223372036854775808 ≤ v) (h2 : v < 9223372036854775808) :
    ofPat64 (pat64 v) = v := by
  unfold ofPat64 pat64; omega

theorem typeByte (k ty : Nat) (hk : k ≤ 8) (hty : ty < 8) :
    (UInt8.ofNat (k * 8 + ty)).toNat % 8 = ty ∧ (UInt8.ofNat (k * 8 + ty)).toNat / 8 = k := by
  have : k * 8 + ty < 2 ^ 8 := by omega
  rw [UInt8.toNat_ofNat', Nat.mod_eq_of_lt this]
  exact ⟨by rw [Nat.mul_add_mod_self_right, Nat.mod_eq_of_lt hty],
    by rw [Nat.add_comm, Nat.add_mul_div_right _ _ (by decide), Nat.div_eq_of_lt hty, Nat.zero_add]⟩

theorem packLen_eq (ty len : Nat) (h : len < 4294967296) :
    packLen ty len = UInt8.ofNat (numBytes32 len * 8 + ty) :: beBytes (numBytes32 len) len := by
  unfold packLen; rw [Nat.mod_eq_of_lt h]

theorem unpackPayload_beBytes (k : Nat) (p rest : Bytes) (h : p.length < 256 ^ k) :
    unpackPayload k (beBytes k p.length ++ (p ++ rest)) = .ok (p, rest) := by
  unfold unpackPayload
  simp only [take_beBytes, drop_beBytes, beNat_beBytes_of_lt _ _ h, List.length_append,
    beBytes_length]
  rw [if_neg (by omega), if_neg (by omega), List.take_left' rfl, List.drop_left' rfl]

theorem unpackOne_packVal (v : Val) (rest : Bytes) (h : WFVal v) :
    unpackOne (packVal v ++ rest) = .ok (v, rest) := by
  cases v with
  | null => rfl
  | int v =>
    have hk := numBytes64_le (pat64 v)
    have ht := typeByte _ 1 hk (by decide)
    simp only [packVal, List.cons_append, unpackOne, ht.1, ht.2, take_beBytes, drop_beBytes,
      beNat_beBytes_of_lt _ _ (numBytes64_spec _ (pat64_lt v)), List.length_append, beBytes_length,
      ofPat64_pat64 v h.1 h.2]
    simp [Nat.not_lt_of_le hk]
  | real b =>
    have h8 : b < 256 ^ 8 := h
    simp only [packVal, List.cons_append, unpackOne, take_beBytes, drop_beBytes,
      beNat_beBytes_of_lt _ _ h8, List.length_append, beBytes_length]
    simp
  | text p =>
    have h32 : p.length < 4294967296 := Nat.lt_trans h (by decide)
    have hk : numBytes32 p.length ≤ 8 := Nat.le_trans (numBytes32_le _) (by decide)
    have ht := typeByte _ 3 hk (by decide)
    simp only [packVal, packLen_eq 3 _ h32, List.cons_append, List.append_assoc, unpackOne, ht.1,
      ht.2, unpackPayload_beBytes _ p rest (numBytes32_spec _ h32)]
    simp [Nat.not_lt_of_le hk]
  | blob p =>
    have h32 : p.length < 4294967296 := Nat.lt_trans h (by decide)
    have hk : numBytes32 p.length ≤ 8 := Nat.le_trans (numBytes32_le _) (by decide)
    have ht := typeByte _ 4 hk (by decide)
    simp only [packVal, packLen_eq 4 _ h32, List.cons_append, List.append_assoc, unpackOne, ht.1,
      ht.2, unpackPayload_beBytes _ p rest (numBytes32_spec _ h32)]
    simp [Nat.not_lt_of_le hk]

theorem unpackCols_packVals (vs : List Val) (rest : Bytes) (h : ∀ v ∈ vs, WFVal v) :
    unpackCols vs.length (packVals vs ++ rest) = .ok vs := by
  induction vs with
  | nil => rfl
  | cons v vs ih =>
    simp only [packVals, List.length_cons, unpackCols, List.append_assoc]
    rw [unpackOne_packVal v _ (h v (by simp))]
    simp only []
    rw [ih (fun w hw => h w (by simp [hw]))]

theorem unpackPayload_len (il : Nat) (bs p r : Bytes) (h : unpackPayload il bs = .ok (p, r)) :
    p.length + r.length + il = bs.length := by
  rw [unpackPayload] at h
  by_cases h1 : bs.length < il
  · rw [if_pos h1] at h; cases h
  rw [if_neg h1] at h
  by_cases h2 : (bs.drop il).length < beNat (bs.take il)
  · rw [if_pos h2] at h; cases h
  rw [if_neg h2] at h
  cases h
  simp only [List.length_take, List.length_drop] at h2 ⊢
  omega

/- The tests on the header byte are taken one at a time with `by_cases`: `split at h` on the whole
cascade is an order of magnitude slower to check. -/
theorem unpackOne_len (bs r : Bytes) (v : Val) (h : unpackOne bs = .ok (v, r)) :
    weight v + r.length ≤ bs.length := by
  cases bs with
  | nil => cases h
  | cons t bs =>
    rw [unpackOne] at h
    by_cases h0 : t.toNat / 8 > 8
    · rw [if_pos h0] at h; cases h
    rw [if_neg h0] at h
    by_cases h4 : t.toNat % 8 = 4
    · rw [if_pos h4] at h
      split at h
      · cases h
      · rename_i p r' hp
        cases h
        have := unpackPayload_len _ _ _ _ hp
        simp only [weight, List.length_cons]; omega
    rw [if_neg h4] at h
    by_cases h2 : t.toNat % 8 = 2
    · rw [if_pos h2] at h
      split at h
      · cases h
      · cases h
        simp only [weight, List.length_cons, List.length_drop]; omega
    rw [if_neg h2] at h
    by_cases h1 : t.toNat % 8 = 1
    · rw [if_pos h1] at h
      split at h
      · cases h
      · cases h
        simp only [weight, List.length_cons, List.length_drop]; omega
    rw [if_neg h1] at h
    by_cases h5 : t.toNat % 8 = 5
    · rw [if_pos h5] at h
      cases h
      simp only [weight, List.length_cons]; omega
    rw [if_neg h5] at h
    by_cases h3 : t.toNat % 8 = 3
    · rw [if_pos h3] at h
      split at h
      · cases h
      · rename_i p r' hp
        cases h
        have := unpackPayload_len _ _ _ _ hp
        simp only [weight, List.length_cons]; omega
    rw [if_neg h3] at h
    cases h

theorem unpackCols_len (c : Nat) (bs : Bytes) (vs : List Val) (h : unpackCols c bs = .ok vs) :
    weights vs ≤ bs.length ∧ vs.length = c := by
  induction c generalizing bs vs with
  | zero =>
    simp only [unpackCols] at h
    injection h with h; subst h; simp [weights]
  | succ c ih =>
    simp only [unpackCols] at h
    split at h
    · cases h
    · rename_i v r h1
      split at h
      · cases h
      · rename_i ws h2
        injection h with h; subst h
        have a := unpackOne_len _ _ _ h1
        have b := ih _ _ h2
        simp only [weights, List.length_cons]; omega

end Corro.Pack
