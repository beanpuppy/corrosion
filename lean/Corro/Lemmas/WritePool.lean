/-
The inductive invariant of the write pool (`Inv`): whoever owns a guard is the requester the dispatcher
waits for, so the pool and semaphore counters are read off that one requester's phase.  After it the
biased `select!` (`firstNonEmpty`) and a measure that every step of the system itself decreases.
-/
import Corro.Model.WritePool

namespace Corro.WritePool

theorem holdsConn_hasGuardTok {p : Phase} (h : p.holdsConn = true) : p.hasGuardTok = true := by
  cases p <;> first | rfl | cases h

theorem tokless {p : Phase} (h : p.hasGuardTok = false) :
    p.holdsConn = false ∧ p ≠ .holding ∧ (p = .idle ∨ p = .queued ∨ p = .gone) := by
  revert h; cases p <;> decide

/-- `step` as a relation: one constructor for each way an action is enabled, so that a proof about a step
names its cases instead of unfolding the function. -/
inductive Step (cfg : Cfg) (s : State) : Action → State → Prop
  | enqueue {r p} : s.phase r = .idle →
      Step cfg s (.enqueue r p) (setPhase (setQ s p (s.q p ++ [r])) r .queued)
  | dispatch {p r rest} : s.disp = none → selectable cfg s p = true → s.q p = r :: rest →
      s.phase r = .queued →
      Step cfg s (.dispatch p) { setPhase (setQ s p rest) r .granted with disp := some r }
  | discard {p r rest} : s.disp = none → selectable cfg s p = true → s.q p = r :: rest →
      s.phase r ≠ .queued → Step cfg s (.dispatch p) (setQ s p rest)
  | wake {r} : s.disp = some r → (s.phase r).hasGuardTok = false → Step cfg s .wake { s with disp := none }
  | recvGuard {r} : s.phase r = .granted → Step cfg s (.recvGuard r) (setPhase s r .hasGuard)
  | takeConn {r} : s.phase r = .hasGuard → s.connsOut < cfg.poolSize →
      Step cfg s (.takeConn r) { setPhase s r .hasConn with connsOut := s.connsOut + 1 }
  | takePermit {r} : s.phase r = .hasConn → s.permitsOut < cfg.permits →
      Step cfg s (.takePermit r) { setPhase s r .holding with permitsOut := s.permitsOut + 1 }
  | release {r} : s.phase r = .holding → Step cfg s (.release r) (dropEffect s r)
  | cancel {r} : s.phase r ≠ .gone → Step cfg s (.cancel r) (dropEffect s r)
  | timeout {r} : s.phase r = .queued ∨ s.phase r = .hasGuard ∨ s.phase r = .hasConn →
      Step cfg s (.timeout r) (dropEffect s r)
  | extAcquire : s.permitsOut < cfg.permits →
      Step cfg s .extAcquire { s with permitsOut := s.permitsOut + 1, ext := s.ext + 1 }
  | extRelease : 0 < s.ext →
      Step cfg s .extRelease { s with permitsOut := s.permitsOut - 1, ext := s.ext - 1 }

theorem step_rel {cfg : Cfg} {s s' : State} {a : Action} (hs : step cfg s a = some s') :
    Step cfg s a s' := by
  cases a <;> simp only [step, Option.ite_none_right_eq_some, Option.ite_none_left_eq_some,
    Option.some.injEq, Bool.and_eq_true, Option.isNone_iff_eq_none] at hs
  case enqueue r p => exact hs.2 ▸ .enqueue hs.1
  case dispatch p =>
    obtain ⟨⟨hd, hsel⟩, hs⟩ := hs
    cases hq : s.q p with
    | nil => rw [hq] at hs; cases hs
    | cons r rest =>
      rw [hq] at hs
      by_cases hph : s.phase r = .queued
      · cases (if_pos hph).symm.trans hs; exact .dispatch hd hsel hq hph
      · cases (if_neg hph).symm.trans hs; exact .discard hd hsel hq hph
  case wake =>
    cases hd : s.disp with
    | none => rw [hd] at hs; cases hs
    | some r =>
      rw [hd] at hs
      simp only [Option.ite_none_left_eq_some, Bool.not_eq_true, Option.some.injEq] at hs
      exact hs.2 ▸ .wake hd hs.1
  case recvGuard r => exact hs.2 ▸ .recvGuard hs.1
  case takeConn r => exact hs.2 ▸ .takeConn hs.1.1 hs.1.2
  case takePermit r => exact hs.2 ▸ .takePermit hs.1.1 hs.1.2
  case release r => exact hs.2 ▸ .release hs.1
  case cancel r => exact hs.2 ▸ .cancel hs.1
  case timeout r => exact hs.2 ▸ .timeout hs.1
  case extAcquire => exact hs.2 ▸ .extAcquire hs.1
  case extRelease => exact hs.2 ▸ .extRelease hs.1

/-- the phase of the requester the dispatcher waits for; `gone` while it sits in its `select!` -/
def served (s : State) : Phase :=
  match s.disp with
  | some r => s.phase r
  | none => .gone

theorem served_of_disp {s : State} {r : Nat} (h : s.disp = some r) : served s = s.phase r := by
  unfold served; rw [h]

theorem served_of_idle {s : State} (h : s.disp = none) : served s = .gone := by
  unfold served; rw [h]

theorem served_setPhase {s : State} {r : Nat} {ph : Phase} (h : s.disp = some r → ph = s.phase r) :
    served (setPhase s r ph) = served s := by
  cases hd : s.disp with
  | none => rw [served_of_idle hd, served_of_idle (s := setPhase s r ph) hd]
  | some r0 =>
    rw [served_of_disp hd, served_of_disp (s := setPhase s r ph) hd]
    by_cases e : r0 = r
    · subst e; simp [setPhase, h hd]
    · simp [setPhase, e]

/-- The inductive invariant.
* `guard_owner`: whoever owns (or is being sent) a guard is the requester the dispatcher waits for —
  so the counters only have to be compared with that one requester's phase;
* `served_started`: that requester has been served (it is past `queued`);
* `conns` / `perms`: the pool / semaphore counters are exactly what its phase says;
* `queued_in_q`: a requester that waits for its oneshot has its sender in one of the queues. -/
structure Inv (s : State) : Prop where
  guard_owner : ∀ r, (s.phase r).hasGuardTok = true → s.disp = some r
  served_started : served s ≠ .idle ∧ served s ≠ .queued
  conns : s.connsOut = if (served s).holdsConn then 1 else 0
  perms : s.permitsOut = s.ext + if served s = .holding then 1 else 0
  queued_in_q : ∀ r, s.phase r = .queued → ∃ p, r ∈ s.q p

theorem inv_init : Inv init :=
  ⟨fun _ h => (nomatch h), (by decide), rfl, rfl, fun _ h => (nomatch h)⟩

theorem Inv.guard_unique {s : State} (h : Inv s) {r1 r2 : Nat}
    (h1 : (s.phase r1).hasGuardTok = true) (h2 : (s.phase r2).hasGuardTok = true) : r1 = r2 :=
  Option.some.inj ((h.guard_owner r1 h1).symm.trans (h.guard_owner r2 h2))

theorem Inv.served_moves {s s' : State} {r : Nat} {ph : Phase} (h : Inv s) (hd : s.disp = some r)
    (hph : ph ≠ .idle ∧ ph ≠ .queued)
    (ephase : s'.phase = (setPhase s r ph).phase) (edisp : s'.disp = s.disp) (eq : s'.q = s.q)
    (hc : s'.connsOut = if ph.holdsConn then 1 else 0)
    (hp : s'.permitsOut = s'.ext + if ph = .holding then 1 else 0) : Inv s' := by
  have hs : served s' = ph := by
    rw [served_of_disp (edisp.trans hd), ephase]; simp [setPhase]
  refine ⟨fun r' hr' => ?_, hs ▸ hph, hs ▸ hc, hs ▸ hp, fun r' hr' => ?_⟩
  · rw [ephase] at hr'
    by_cases e : r' = r
    · rw [edisp, hd, e]
    · rw [edisp]; exact h.guard_owner r' (by simpa [setPhase, e] using hr')
  · rw [ephase] at hr'
    by_cases e : r' = r
    · exact absurd (by simpa [setPhase, e] using hr') hph.2
    · rw [eq]; exact h.queued_in_q r' (by simpa [setPhase, e] using hr')

theorem Inv.of_queues {s : State} (h : Inv s) {p : Prio} {l : List Nat}
    (hq : ∀ r, s.phase r = .queued → ∃ p', r ∈ (setQ s p l).q p') : Inv (setQ s p l) :=
  ⟨h.guard_owner, h.served_started, h.conns, h.perms, hq⟩

theorem Inv.aside {s : State} {r : Nat} {ph : Phase} (h : Inv s) (hph : ph.hasGuardTok = false)
    (hd : s.disp = some r → ph = s.phase r) (hq : ph = .queued → ∃ p, r ∈ s.q p) :
    Inv (setPhase s r ph) := by
  have hs := served_setPhase hd
  refine ⟨?_, hs ▸ h.served_started, hs ▸ h.conns, hs ▸ h.perms, ?_⟩
  · intro r' hr'
    by_cases e : r' = r
    · rw [e] at hr'; simp [setPhase, hph] at hr'
    · exact h.guard_owner r' (by simpa [setPhase, e] using hr')
  · intro r' hr'
    by_cases e : r' = r
    · rw [e] at hr' ⊢; exact hq (by simpa [setPhase] using hr')
    · exact h.queued_in_q r' (by simpa [setPhase, e] using hr')

theorem inv_enqueue {s : State} {r : Nat} (p : Prio) (h : Inv s) (hid : s.phase r = .idle) :
    Inv (setPhase (setQ s p (s.q p ++ [r])) r .queued) := by
  have hq : Inv (setQ s p (s.q p ++ [r])) := by
    refine h.of_queues fun r' hr' => ?_
    obtain ⟨p', hp'⟩ := h.queued_in_q r' hr'
    refine ⟨p', ?_⟩
    by_cases e : p' = p
    · subst e; simp [setQ, hp']
    · simpa [setQ, e] using hp'
  -- the dispatcher does not wait for an idle requester
  exact hq.aside rfl (fun hd => absurd ((served_of_disp (s := s) hd).trans hid) h.served_started.1)
    (fun _ => ⟨p, by simp [setQ]⟩)

theorem Inv.queued_after_pop {s : State} (h : Inv s) {p : Prio} {r : Nat} {rest : List Nat}
    (hq : s.q p = r :: rest) {r' : Nat} (hr' : s.phase r' = .queued) (hne : r' ≠ r) :
    ∃ p', r' ∈ (setQ s p rest).q p' := by
  obtain ⟨p', hp'⟩ := h.queued_in_q r' hr'
  refine ⟨p', ?_⟩
  by_cases e : p' = p
  · subst e
    rw [hq] at hp'
    simpa [setQ, hne] using hp'
  · simpa [setQ, e] using hp'

theorem inv_dispatch {s : State} {p : Prio} {r : Nat} {rest : List Nat} (h : Inv s)
    (hd : s.disp = none) (hq : s.q p = r :: rest) :
    Inv { setPhase (setQ s p rest) r .granted with disp := some r } := by
  have h0 := served_of_idle hd
  have hs : served { setPhase (setQ s p rest) r .granted with disp := some r } = .granted := by
    simp [served, setPhase]
  refine ⟨?_, ?_, ?_, ?_, ?_⟩
  · intro r' hr'
    by_cases e : r' = r
    · rw [e]
    · -- nobody owns a guard while the dispatcher sits in its `select!`
      have := h.guard_owner r' (by simpa [setPhase, setQ, e] using hr')
      rw [hd] at this; cases this
  · rw [hs]; decide
  · have := h.conns; rw [h0] at this; rw [hs]; exact this
  · have := h.perms; rw [h0] at this; rw [hs]; exact this
  · intro r' hr'
    by_cases e : r' = r
    · rw [e] at hr'; simp [setPhase] at hr'
    · exact h.queued_after_pop hq (by simpa [setPhase, setQ, e] using hr') e

theorem inv_discard {s : State} {p : Prio} {r : Nat} {rest : List Nat} (h : Inv s)
    (hq : s.q p = r :: rest) (hdead : s.phase r ≠ .queued) : Inv (setQ s p rest) :=
  h.of_queues fun _ hr' => h.queued_after_pop hq hr' (fun e => hdead (e ▸ hr'))

theorem inv_wake {s : State} {r : Nat} (h : Inv s) (hd : s.disp = some r)
    (hng : (s.phase r).hasGuardTok = false) : Inv { s with disp := none } := by
  have ⟨hc, hp, _⟩ := tokless hng
  have hs := served_of_disp hd
  refine ⟨fun r' hr' => ?_, ⟨nofun, nofun⟩, ?_, ?_, h.queued_in_q⟩
  · have := h.guard_owner r' hr'
    rw [hd] at this; cases this
    rw [hng] at hr'; cases hr'
  · have := h.conns; rw [hs, hc] at this; exact this
  · have := h.perms; rw [hs, if_neg hp] at this; exact this

theorem inv_dropEffect {s : State} (r : Nat) (h : Inv s) : Inv (dropEffect s r) := by
  cases hg : (s.phase r).hasGuardTok with
  | true =>
    have hd := h.guard_owner r hg
    have hs := served_of_disp hd
    refine h.served_moves hd (by decide) rfl rfl rfl ?_ ?_
    · have := h.conns; rw [hs] at this
      show (if (s.phase r).holdsConn then s.connsOut - 1 else s.connsOut) = 0
      rw [this]; split <;> simp [*]
    · have := h.perms; rw [hs] at this
      show (if s.phase r = .holding then s.permitsOut - 1 else s.permitsOut) = s.ext
      rw [this]; split <;> simp [*]
  | false =>
    have ⟨hc, hp, hph⟩ := tokless hg
    have e : dropEffect s r = setPhase s r .gone := by simp [dropEffect, hc, hp]
    rw [e]
    refine h.aside rfl (fun hd => ?_) (fun e => nomatch e)
    -- the dispatcher waits for `r`, which is past `queued` and has no guard: it is gone already
    have := h.served_started; rw [served_of_disp hd] at this
    rcases hph with e | e | e
    · exact absurd e this.1
    · exact absurd e this.2
    · exact e.symm

theorem Inv.counters {s : State} {r : Nat} (h : Inv s) (hg : (s.phase r).hasGuardTok = true) :
    s.disp = some r ∧ (s.connsOut = if (s.phase r).holdsConn then 1 else 0) ∧
      s.permitsOut = s.ext + if s.phase r = .holding then 1 else 0 :=
  have hd := h.guard_owner r hg
  ⟨hd, served_of_disp hd ▸ h.conns, served_of_disp hd ▸ h.perms⟩

theorem inv_step {cfg : Cfg} {s s' : State} (a : Action) (h : Inv s)
    (hs : step cfg s a = some s') : Inv s' := by
  cases step_rel hs with
  | enqueue hid => exact inv_enqueue _ h hid
  | dispatch hd _ hq _ => exact inv_dispatch h hd hq
  | discard _ _ hq hdead => exact inv_discard h hq hdead
  | wake hd hng => exact inv_wake h hd hng
  | recvGuard hph =>
    obtain ⟨hd, hc, hp⟩ := h.counters (by rw [hph]; rfl)
    rw [hph] at hc hp
    exact h.served_moves hd (by decide) rfl rfl rfl hc hp
  | takeConn hph =>
    obtain ⟨hd, hc, hp⟩ := h.counters (by rw [hph]; rfl)
    rw [hph] at hc hp
    exact h.served_moves hd (by decide) rfl rfl rfl (congrArg (· + 1) hc) hp
  | takePermit hph =>
    obtain ⟨hd, hc, hp⟩ := h.counters (by rw [hph]; rfl)
    rw [hph] at hc hp
    exact h.served_moves hd (by decide) rfl rfl rfl hc (congrArg (· + 1) hp)
  | release | cancel | timeout => exact inv_dropEffect _ h
  | extAcquire =>
    refine ⟨h.guard_owner, h.served_started, h.conns, ?_, h.queued_in_q⟩
    have := h.perms
    show s.permitsOut + 1 = s.ext + 1 + if served s = .holding then 1 else 0
    omega
  | extRelease =>
    refine ⟨h.guard_owner, h.served_started, h.conns, ?_, h.queued_in_q⟩
    have := h.perms
    show s.permitsOut - 1 = s.ext - 1 + if served s = .holding then 1 else 0
    omega

theorem inv_reachable {cfg : Cfg} {s : State} (h : Reachable cfg s) : Inv s := by
  induction h with
  | init => exact inv_init
  | step a _ hs ih => exact inv_step a ih hs

theorem firstNonEmpty_cons_of_nonempty {q : Prio → List Nat} {p : Prio} (h : q p ≠ []) (ps : List Prio) :
    firstNonEmpty q (p :: ps) = some p := by
  simp [firstNonEmpty, h]

theorem firstNonEmpty_cons_of_empty {q : Prio → List Nat} {p : Prio} (h : q p = []) (ps : List Prio) :
    firstNonEmpty q (p :: ps) = firstNonEmpty q ps := by
  simp [firstNonEmpty, h]

theorem firstNonEmpty_nonempty {q : Prio → List Nat} {p0 : Prio} :
    ∀ {ps : List Prio}, firstNonEmpty q ps = some p0 → q p0 ≠ []
  | p :: ps, h => by
    by_cases e : q p = []
    · exact firstNonEmpty_nonempty ((firstNonEmpty_cons_of_empty e ps).symm.trans h)
    · cases (firstNonEmpty_cons_of_nonempty e ps).symm.trans h; exact e

theorem firstNonEmpty_some {q : Prio → List Nat} {p : Prio} (hne : q p ≠ []) :
    ∀ {ps : List Prio}, p ∈ ps → ∃ p0, firstNonEmpty q ps = some p0
  | p' :: ps, hp => by
    by_cases e : q p' = []
    · rw [firstNonEmpty_cons_of_empty e]
      exact firstNonEmpty_some hne ((List.mem_cons.mp hp).resolve_left fun e' => hne (e' ▸ e))
    · exact ⟨p', firstNonEmpty_cons_of_nonempty e ps⟩

theorem dispatch_enabled {cfg : Cfg} {s : State} {p : Prio} (hd : s.disp = none)
    (hsel : selectable cfg s p = true) (hne : s.q p ≠ []) : ∃ s', step cfg s (.dispatch p) = some s' := by
  simp only [step, hd, hsel, Option.isNone_none, Bool.and_self, if_true]
  cases hq : s.q p with
  | nil => exact absurd hq hne
  | cons r rest =>
    simp only
    split <;> exact ⟨_, rfl⟩

/-! ### a measure that every system step decreases

A dispatch removes one queue entry and raises `dispRank` from 0 to 5, so an entry has to weigh more
than 5 (7 is any such factor).  `wake` only resets `disp`, so a served requester that is `gone` (or
otherwise without the guard) still ranks 1, above the waiting dispatcher's 0. -/

def phaseRank : Phase → Nat
  | .granted => 5
  | .hasGuard => 4
  | .hasConn => 3
  | .holding => 2
  | _ => 1

def dispRank (s : State) : Nat :=
  match s.disp with
  | none => 0
  | some r => phaseRank (s.phase r)

/-- bounds the number of system steps that can happen before the environment acts again -/
def measure (s : State) : Nat := 7 * totalQueued s + dispRank s + s.ext

theorem totalQueued_pop {s : State} {p : Prio} {r : Nat} {rest : List Nat} (h : s.q p = r :: rest) :
    totalQueued (setQ s p rest) + 1 = totalQueued s := by
  cases p <;> simp [totalQueued, setQ, h] <;> omega

theorem dispRank_of_disp {s : State} {r : Nat} (h : s.disp = some r) : dispRank s = phaseRank (s.phase r) := by
  unfold dispRank; rw [h]

theorem measure_served_moves {s s' : State} {r : Nat} {ph : Phase} (hd : s.disp = some r)
    (edisp : s'.disp = s.disp) (eq : s'.q = s.q) (ee : s'.ext = s.ext) (ephase : s'.phase r = ph)
    (hlt : phaseRank ph < phaseRank (s.phase r)) : measure s' < measure s := by
  have hq : totalQueued s' = totalQueued s := by unfold totalQueued; rw [eq]
  unfold measure
  rw [hq, ee, dispRank_of_disp hd, dispRank_of_disp (edisp.trans hd), ephase]
  omega

theorem bounds_step {cfg : Cfg} {s s' : State} (a : Action)
    (ih : s.connsOut ≤ cfg.poolSize ∧ s.permitsOut ≤ cfg.permits)
    (hs : step cfg s a = some s') :
    s'.connsOut ≤ cfg.poolSize ∧ s'.permitsOut ≤ cfg.permits := by
  have back : ∀ {c : Prop} [Decidable c] {x n : Nat}, x ≤ n → (if c then x - 1 else x) ≤ n := by
    intros; split <;> omega
  cases step_rel hs with
  | enqueue | dispatch | discard | wake | recvGuard => exact ih
  | takeConn _ hlt => exact ⟨hlt, ih.2⟩
  | takePermit _ hlt | extAcquire hlt => exact ⟨ih.1, hlt⟩
  | release | cancel | timeout => exact ⟨back ih.1, back ih.2⟩
  | extRelease => exact ⟨ih.1, Nat.le_trans (Nat.sub_le _ _) ih.2⟩

end Corro.WritePool
