/-
For C02: what `compute_gaps_change` returns and what the two loops of
`insert_db` do to a canonical `needed` set whose rows are stored one-to-one in the gaps table.
-/
import Corro.Lemmas.Book

namespace Corro.Book
open Corro Corro.RSet

theorem mem_hsInsert {l : List (Nat × Nat)} {r p : Nat × Nat} : p ∈ hsInsert l r ↔ p ∈ l ∨ p = r := by
  unfold hsInsert
  split
  · rename_i h
    exact ⟨.inl, fun h1 => h1.elim id fun e => e ▸ List.contains_iff_mem.mp h⟩
  · rw [List.mem_append, List.mem_singleton]

theorem nodup_hsInsert {l : List (Nat × Nat)} {r : Nat × Nat} (h : l.Nodup) : (hsInsert l r).Nodup := by
  unfold hsInsert
  split
  · exact h
  · rename_i hc
    rw [List.nodup_append]
    refine ⟨h, List.pairwise_singleton _ r, fun a ha b hb hab => hc ?_⟩
    rw [List.contains_iff_mem, ← List.mem_singleton.mp hb, ← hab]
    exact ha

theorem covers_hsInsert {l : List (Nat × Nat)} {r : Nat × Nat} {x : Nat} :
    Mem (hsInsert l r) x ↔ Mem l x ∨ (r.1 ≤ x ∧ x ≤ r.2) := by
  constructor
  · rintro ⟨p, hp, hx⟩
    rcases mem_hsInsert.mp hp with hp | rfl
    · exact .inl ⟨p, hp, hx⟩
    · exact .inr hx
  · rintro (⟨p, hp, hx⟩ | hx)
    · exact ⟨p, mem_hsInsert.mpr (.inl hp), hx⟩
    · exact ⟨r, mem_hsInsert.mpr (.inr rfl), hx⟩

/-- The insert set is canonical and covers the ranges marked for removal, which are stored ranges
of `N`, and the points of `G`: the "gap between max + 1 and start" ranges inserted so far. -/
structure CInv (N : RSet) (c : GapsChanges) (G : Nat → Prop) : Prop where
  wf : WF c.insertSet
  nodup : c.removeRanges.Nodup
  sub : ∀ r ∈ c.removeRanges, r ∈ N
  memI : ∀ x, Mem c.insertSet x ↔ Mem c.removeRanges x ∨ G x

theorem CInv.congr {N : RSet} {c : GapsChanges} {G G' : Nat → Prop} (h : CInv N c G)
    (hG : ∀ x, G x ↔ G' x) : CInv N c G' :=
  ⟨h.wf, h.nodup, h.sub, fun x => (h.memI x).trans (or_congr_right (hG x))⟩

theorem CInv.add {N : RSet} {c : GapsChanges} {G : Nat → Prop} {r : Nat × Nat}
    (hN : WF N) (h : CInv N c G) (hr : r ∈ N) : CInv N (addCollapsible c r) G := by
  have hf := wf_forward hN r hr
  refine ⟨insert_wf _ r.1 r.2 hf h.wf, nodup_hsInsert h.nodup, fun q hq => ?_, fun x => ?_⟩
  · exact (mem_hsInsert.mp hq).elim (h.sub q) fun e => e ▸ hr
  · show Mem (RSet.insert c.insertSet (r.1, r.2)) x ↔ Mem (hsInsert c.removeRanges r) x ∨ G x
    rw [mem_insert _ _ _ _ hf, h.memI, covers_hsInsert, or_right_comm]

theorem addAll_spec {N : RSet} {G : Nat → Prop} (hN : WF N) :
    ∀ (l : List (Nat × Nat)) (c : GapsChanges), CInv N c G → (∀ r ∈ l, r ∈ N) →
      CInv N (l.foldl addCollapsible c) G ∧ (l.foldl addCollapsible c).max = c.max ∧
      (∀ q, q ∈ c.removeRanges ∨ q ∈ l → q ∈ (l.foldl addCollapsible c).removeRanges) := by
  intro l
  induction l with
  | nil => exact fun c h _ => ⟨h, rfl, fun q hq => hq.elim id nofun⟩
  | cons r t ih =>
    intro c h hl
    have hl' := List.forall_mem_cons.mp hl
    obtain ⟨i1, i2, i3⟩ := ih (addCollapsible c r) (h.add hN hl'.1) hl'.2
    refine ⟨i1, i2, fun q hq => i3 q ?_⟩
    rcases hq with hq | hq
    · exact .inl (mem_hsInsert.mpr (.inl hq))
    · exact (List.mem_cons.mp hq).imp (fun e => mem_hsInsert.mpr (.inr e)) id

/-- the stored ranges one inserted range `v` collapses with: those it overlaps and the two it may
touch at either end -/
def touching (N : RSet) (v : Nat × Nat) : List (Nat × Nat) :=
  overlapping N v ++ (N.get? (v.1 - 1)).toList ++ (N.get? (v.2 + 1)).toList

/-- the rest of the loop body: the gap between the old head and the start of `v` -/
def gapPhase (N : RSet) (M : Option Nat) (v : Nat × Nat) (c : GapsChanges) : GapsChanges :=
  if M.getD 0 + 1 < v.1 then
    (overlapping N (M.getD 0 + 1, v.1)).foldl addCollapsible
      { c with insertSet := c.insertSet.insert (M.getD 0 + 1, v.1) }
  else c

theorem stepRange_eq (N : RSet) (M : Option Nat) (c : GapsChanges) (v : Nat × Nat) :
    stepRange N M c v =
      gapPhase N M v ((touching N v).foldl addCollapsible { c with max := optMax c.max v.2 }) := by
  have hget : ∀ c x, addGet N c x = (N.get? x).toList.foldl addCollapsible c := by
    intro c x; unfold addGet; cases N.get? x <;> rfl
  simp only [stepRange, gapPhase, touching, hget, List.foldl_append]

theorem touching_sub {N : RSet} {v : Nat × Nat} : ∀ r ∈ touching N v, r ∈ N := by
  intro r hr
  simp only [touching, List.mem_append, Option.mem_toList] at hr
  rcases hr with (hr | hr) | hr
  · exact ((mem_overlapping N v r).mp hr).1
  · exact (get?_some hr).1
  · exact (get?_some hr).1

/-- the points of the gap range that `gapPhase` inserts for `v` -/
def InGap (M : Option Nat) (v : Nat × Nat) (x : Nat) : Prop :=
  M.getD 0 + 1 < v.1 ∧ M.getD 0 + 1 ≤ x ∧ x ≤ v.1

theorem gapPhase_spec {N : RSet} {M : Option Nat} {c : GapsChanges} {G : Nat → Prop} (v : Nat × Nat)
    (hN : WF N) (h : CInv N c G) :
    CInv N (gapPhase N M v c) (fun x => G x ∨ InGap M v x) ∧ (gapPhase N M v c).max = c.max ∧
    (∀ q ∈ c.removeRanges, q ∈ (gapPhase N M v c).removeRanges) := by
  unfold gapPhase
  by_cases hg : M.getD 0 + 1 < v.1
  · rw [if_pos hg]
    have h4 : CInv N { c with insertSet := c.insertSet.insert (M.getD 0 + 1, v.1) }
        (fun x => G x ∨ InGap M v x) :=
      ⟨insert_wf _ _ _ (Nat.le_of_lt hg) h.wf, h.nodup, h.sub, fun x => by
        rw [mem_insert _ _ _ _ (Nat.le_of_lt hg), h.memI, or_assoc, InGap, and_iff_right hg]⟩
    obtain ⟨h5, m5, r5⟩ := addAll_spec hN _ _ h4 fun r hr => ((mem_overlapping N _ r).mp hr).1
    exact ⟨h5, m5, fun q hq => r5 q (.inl hq)⟩
  · rw [if_neg hg]
    exact ⟨h.congr fun x => (or_iff_left fun hx => hg hx.1).symm, rfl, fun _ hq => hq⟩

theorem stepRange_spec {N : RSet} {M : Option Nat} {c : GapsChanges} {G : Nat → Prop}
    (v : Nat × Nat) (hN : WF N) (h : CInv N c G) :
    CInv N (stepRange N M c v) (fun x => G x ∨ InGap M v x) ∧
    (stepRange N M c v).max = optMax c.max v.2 ∧
    (∀ q, q ∈ c.removeRanges ∨ q ∈ overlapping N v → q ∈ (stepRange N M c v).removeRanges) := by
  obtain ⟨h3, m3, r3⟩ := addAll_spec hN (touching N v) { c with max := optMax c.max v.2 }
    ⟨h.wf, h.nodup, h.sub, h.memI⟩ touching_sub
  obtain ⟨h5, m5, r5⟩ := gapPhase_spec (M := M) v hN h3
  rw [stepRange_eq]
  refine ⟨h5, m5.trans m3, fun q hq => r5 q (r3 q (hq.imp id fun hq => ?_))⟩
  exact List.mem_append_left _ (List.mem_append_left _ hq)

/-- `stepRange_spec` along the first loop of `compute_gaps_change`, which folds `stepRange` over the
inserted ranges -/
theorem foldStep_spec {N : RSet} {M : Option Nat} (hN : WF N) :
    ∀ (vs : List (Nat × Nat)) (c : GapsChanges) (G : Nat → Prop), CInv N c G →
      CInv N (vs.foldl (stepRange N M) c) (fun x => G x ∨ ∃ v ∈ vs, InGap M v x) ∧
      (vs.foldl (stepRange N M) c).max = vs.foldl (fun a v => optMax a v.2) c.max ∧
      (∀ q, (q ∈ c.removeRanges ∨ ∃ v ∈ vs, q ∈ overlapping N v) →
        q ∈ (vs.foldl (stepRange N M) c).removeRanges) := by
  intro vs
  induction vs with
  | nil =>
    intro c G h
    exact ⟨h.congr fun x => (or_iff_left nofun).symm, rfl, fun q hq => hq.elim id nofun⟩
  | cons v t ih =>
    intro c G h
    obtain ⟨s1, s2, s3⟩ := stepRange_spec (M := M) v hN h
    obtain ⟨i1, i2, i3⟩ := ih _ _ s1
    refine ⟨i1.congr fun x => ?_, by rw [List.foldl_cons, List.foldl_cons, i2, s2], fun q hq => i3 q ?_⟩
    · simp only [List.mem_cons, exists_eq_or_imp, or_assoc]
    · simp only [List.mem_cons, exists_eq_or_imp, ← or_assoc] at hq
      exact hq.imp_left (s3 q)

/-- largest end of a list of ranges (0 for the empty list) -/
def supHi : List (Nat × Nat) → Nat
  | [] => 0
  | v :: t => max v.2 (supHi t)

theorem le_supHi {vs : List (Nat × Nat)} {v : Nat × Nat} (h : v ∈ vs) : v.2 ≤ supHi vs := by
  induction vs with
  | nil => cases h
  | cons w t ih =>
    rcases List.mem_cons.mp h with rfl | h
    · exact Nat.le_max_left ..
    · exact Nat.le_trans (ih h) (Nat.le_max_right ..)

theorem supHi_le {vs : List (Nat × Nat)} {B : Nat} (h : ∀ v ∈ vs, v.2 ≤ B) : supHi vs ≤ B := by
  induction vs with
  | nil => exact Nat.zero_le B
  | cons w t ih =>
    have h' := List.forall_mem_cons.mp h
    exact Nat.max_le.mpr ⟨h'.1, ih h'.2⟩

theorem supHi_attained {vs : List (Nat × Nat)} (h : vs ≠ []) : ∃ v ∈ vs, v.2 = supHi vs := by
  induction vs with
  | nil => exact absurd rfl h
  | cons w t ih =>
    by_cases ht : t = []
    · exact ⟨w, List.mem_cons_self, by rw [ht, supHi, supHi, Nat.max_zero]⟩
    · obtain ⟨v, hv, he⟩ := ih ht
      rcases Nat.le_total (supHi t) w.2 with hle | hle
      · exact ⟨w, List.mem_cons_self, (Nat.max_eq_left hle).symm⟩
      · exact ⟨v, List.mem_cons_of_mem _ hv, he.trans (Nat.max_eq_right hle).symm⟩

theorem optMax_getD (m : Option Nat) (x : Nat) : optMax m x = some (max (m.getD 0) x) := by
  cases m
  · exact congrArg some (Nat.zero_max x).symm
  · rfl

theorem optMax_fold : ∀ (vs : List (Nat × Nat)) (m : Option Nat), vs ≠ [] →
    vs.foldl (fun a v => optMax a v.2) m = some (max (m.getD 0) (supHi vs)) := by
  intro vs
  induction vs with
  | nil => exact fun m h => absurd rfl h
  | cons v t ih =>
    intro m _
    rw [List.foldl_cons, optMax_getD]
    by_cases ht : t = []
    · rw [ht, List.foldl_nil, supHi, supHi, Nat.max_zero]
    · rw [ih _ ht, Option.getD_some, supHi, Nat.max_assoc]

theorem inGap_iff {M : Option Nat} {vs : RSet} (hv : WF vs) (hne : vs ≠ []) {x : Nat}
    (hx : ¬ Mem vs x) : (∃ v ∈ vs, InGap M v x) ↔ M.getD 0 + 1 ≤ x ∧ x ≤ supHi vs := by
  constructor
  · rintro ⟨v, hv1, _, hlo, hhi⟩
    exact ⟨hlo, Nat.le_trans hhi (Nat.le_trans (wf_forward hv v hv1) (le_supHi hv1))⟩
  · rintro ⟨hlo, hhi⟩
    obtain ⟨v, hv1, hv2⟩ := supHi_attained hne
    have : ¬ (v.1 ≤ x ∧ x ≤ v.2) := fun hh => hx ⟨v, hv1, hh⟩
    exact ⟨v, hv1, by omega, hlo, by omega⟩

theorem computeGapsChange_spec {s : Book} {vs : RSet} (hN : WF s.needed) (hv : WF vs) (hne : vs ≠ []) :
    let ch := computeGapsChange s vs
    ch.max = some (max (s.max.getD 0) (supHi vs)) ∧
    ch.removeRanges.Nodup ∧ (∀ r ∈ ch.removeRanges, r ∈ s.needed) ∧
    (∀ v ∈ vs, ∀ q ∈ s.needed, q.1 ≤ v.2 → v.1 ≤ q.2 → q ∈ ch.removeRanges) ∧
    WF ch.insertSet ∧
    (∀ x, Mem ch.insertSet x ↔
      (Mem ch.removeRanges x ∨ (s.max.getD 0 + 1 ≤ x ∧ x ≤ supHi vs)) ∧ ¬ Mem vs x) := by
  have hfwd := wf_forward hv
  obtain ⟨i1, i2, i3⟩ := foldStep_spec (M := s.max) hN vs ⟨s.max, [], []⟩ (fun _ => False)
    ⟨trivial, List.nodup_nil, nofun, fun x => (or_iff_left id).symm⟩
  refine ⟨i2.trans (optMax_fold vs s.max hne), i1.nodup, i1.sub,
    fun v hv1 q hq h1 h2 => i3 q (.inr ⟨v, hv1, (mem_overlapping _ v q).mpr ⟨hq, h1, h2⟩⟩),
    removeAll_wf _ _ i1.wf hfwd, fun x => ?_⟩
  refine (mem_removeAll _ _ i1.wf hfwd x).trans (and_congr_left fun hx => ?_)
  rw [i1.memI, false_or, inGap_iff hv hne hx]
  exact Iff.rfl

theorem foldl_pmRemoveRange (rs : List (Nat × Nat)) : ∀ (P : PMap),
    rs.foldl pmRemoveRange P = P.filter (fun e => !coveredBy rs e.1) := by
  induction rs with
  | nil => exact fun P => (List.filter_eq_self.mpr fun _ _ => rfl).symm
  | cons r t ih =>
    intro P
    rw [List.foldl_cons, ih, pmRemoveRange, List.filter_filter]
    refine List.filter_congr fun e _ => ?_
    simp only [coveredBy, List.any_cons, Bool.not_or]
    rw [Bool.and_comm]

theorem coveredBy_iff (rs : List (Nat × Nat)) (v : Nat) : coveredBy rs v = true ↔ Mem rs v :=
  contains_iff rs v

/-- the DELETE loop: every range to remove is a stored range, so each DELETE hits one row and the
rows keep mirroring `needed` -/
theorem deleteLoop_ok : ∀ (rr : List (Nat × Nat)) (P : PMap) (N : RSet) (m : Option Nat),
    WF N → rr.Nodup → (∀ r ∈ rr, r ∈ N) →
    deleteLoop rr ⟨P, N, m⟩ N = .ok (⟨rr.foldl pmRemoveRange P, removeAll N rr, m⟩, removeAll N rr) := by
  intro rr
  induction rr with
  | nil => exact fun _ _ _ _ _ _ => rfl
  | cons r t ih =>
    intro P N m hw hnd hsub
    have hr := hsub r List.mem_cons_self
    have hnd' := List.nodup_cons.mp hnd
    rw [deleteLoop, if_pos (rowCount_one hw hr), ← remove_exact hw hr]
    refine ih _ _ m (remove_wf _ _ _ (wf_forward hw r hr) hw) hnd'.2 fun q hq => ?_
    rw [remove_exact hw hr, mem_rowDelete]
    exact ⟨hsub q (List.mem_cons_of_mem _ hq), fun e => hnd'.1 (e ▸ hq)⟩

/-- the INSERT loop: every range to insert touches nothing that is stored, so no primary key
collides and the rows keep mirroring `needed` -/
theorem insertLoop_ok : ∀ (ins : List (Nat × Nat)) (lb : Nat) (P : PMap) (N : RSet) (m : Option Nat),
    WF N → WFfrom lb ins → (∀ r ∈ ins, Isolated N r) →
    insertLoop ins ⟨P, N, m⟩ N = .ok (⟨P, insertAll N ins, m⟩, insertAll N ins) := by
  intro ins
  induction ins with
  | nil => exact fun _ _ _ _ _ _ _ => rfl
  | cons r t ih =>
    intro lb P N m hw hins hiso
    obtain ⟨a, b⟩ := r
    obtain ⟨h1, h2⟩ := insert_isolated hw hins.2.1 (hiso (a, b) List.mem_cons_self)
    rw [insertLoop, h2, if_neg Bool.false_ne_true, ← h1]
    refine ih (b + 2) P _ m (insert_wf _ a b hins.2.1 hw) hins.2.2 fun q hq p hp => ?_
    rw [h1, mem_rowInsert] at hp
    rcases hp with rfl | hp
    · exact .inl (wfFrom_forall hins.2.2 q hq).1
    · exact hiso q (List.mem_cons_of_mem _ hq) p hp

end Corro.Book
