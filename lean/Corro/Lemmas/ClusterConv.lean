/-
C01, protocol level, batches and crashes — liveness under a fairness hypothesis.  In a reachable cluster
a lossless session of an alive client with a clean server makes the client hold every foreign version
the server holds (`sync_step_progressF`); every node knows its own versions; hence after writes and
crashes have stopped, any schedule of lossless sessions with a session `i ← a` for every alive `i` and
every other `a` ends with every alive node holding every version (`holds_after_scheduleF`) and showing
the specification of the log (`eventual_convergence_alive`).  In a crash-free run every node is alive,
which is how the statements about `ReachLiveB` follow; the statements about runs of the
one-changeset-per-batch model (`Crash.*`) are read off these through `step_eq_stepB`, `run_eq_runB` and
`LosslessRun.covers`.
-/
import Corro.Lemmas.ClusterSession
import Corro.Lemmas.ClusterReachInv
import Corro.Lemmas.ClusterSched

namespace Corro.ClusterSys
open Corro.Crdt Corro.Node

namespace Full

/-- **`sync_round_progress`, batches and crashes**: an ALIVE client, a clean server (dead or alive), a
lossless session (`CoversB`: the client's batches contain answers only, every answer in at least one
batch) -/
theorem sync_step_progressF {k : Nat} {c : Cluster} (h : ReachF k c) (hL : LogOK c.log)
    {i j : Nat} (hij : i ≠ j) {ni nj : Node} (hi : c.nodes[i]? = some ni)
    (hj : c.nodes[j]? = some nj) (hcl : nodeClean nj = true) (hal : ni.alive = true)
    {batches : List (List Pick)} (hless : CoversB c.log (answers ni nj) batches) :
    ∃ ni', (stepB c (.syncB i j batches)).nodes[i]? = some ni' ∧ ni'.alive = true ∧
      (∀ a v, a ≠ i → 1 ≤ v → Held nj a v → Held ni' a v) ∧ (∀ a v, Held ni a v → Held ni' a v) := by
  have hfull := reachF_inv h hL
  have hown := reachF_own h hL
  have hni := hfull.node i ni hi
  have hnj := hfull.node j nj hj
  have hA : Crash.AInv c.log ni (c.R i) := ⟨hni.1, Crash.kinv_alive hni.2 hal, hal⟩
  have hck := chunkOK_pickBatches (ni := ni) hnj.1 hnj.2 hL hcl batches
  rw [stepB_syncB]
  simp only [hi, hj, if_neg hij]
  refine ⟨_, setNode_nodes_self hi _, ?_, ?_, ?_⟩
  · exact (foldB_ainv hL _ (ni, c.R i) hA hck).alive
  · intro a v ha hv hh
    exact session_progressB hL hA hnj.1 hnj.2 hcl
      (by rw [(hown.node i ni hi).id]; exact ha) hv hh _ hless.1 hless.2
  · intro a v hh
    exact foldB_held_mono hL _ (ni, c.R i) hA hck hh

theorem aliveAt_syncB (c : Cluster) (i j : Nat) (batches : List (List Pick)) (m : Nat) :
    Crash.AliveAt (stepB c (.syncB i j batches)) m ↔ Crash.AliveAt c m := by
  cases stepBCase c (.syncB i j batches) with
  | same h' => rw [h']
  | sync i j batches ni nj hop _ hi hj h' =>
    cases hop
    rw [h']
    unfold Crash.AliveAt
    by_cases him : i = m
    · subst him
      rw [setNode_nodes_self hi, hi]
      simp only [Option.some.injEq, forall_eq']
      rw [foldB_alive _ (ni, c.R i)]
    · rw [setNode_nodes_other him]
  | write _ _ _ _ _ _ hop => cases hop
  | origins _ _ _ hop => cases hop
  | kill _ _ hop => cases hop
  | restart _ _ hop => cases hop

theorem reachF_sync {k : Nat} {c : Cluster} (h : ReachF k c) (hcl : c.clean = true) (i j : Nat)
    (batches : List (List Pick)) : ReachF k (stepB c (.syncB i j batches)) :=
  ReachF.step (.syncB i j batches) h trivial (serverCleanB_of_clean hcl _)

theorem holdsAll_syncF {k : Nat} {c : Cluster} (h : ReachF k c) (hL : LogOK c.log)
    (hcl : c.clean = true) (i j : Nat) (batches : List (List Pick)) {m a : Nat} (hal : Crash.AliveAt c m)
    (hm : HoldsAll c m a) : HoldsAll (stepB c (.syncB i j batches)) m a := by
  intro n hn v h1 h2
  rw [syncB_log] at h2
  cases stepBCase c (.syncB i j batches) with
  | same h' => rw [h'] at hn; exact hm n hn v h1 h2
  | sync i j batches ni nj hop _ hi hj h' =>
    cases hop
    rw [h'] at hn
    by_cases him : i = m
    · subst him
      rw [setNode_nodes_self hi] at hn
      cases hn
      have hfull := reachF_inv h hL
      have hni := hfull.node i ni hi
      have hnj := hfull.node j nj hj
      exact foldB_held_mono hL _ (ni, c.R i) ⟨hni.1, Crash.kinv_alive hni.2 (hal ni hi), hal ni hi⟩
        (chunkOK_pickBatches hnj.1 hnj.2 hL (clean_node hcl hj) batches) (hm ni hi v h1 h2)
    · rw [setNode_nodes_other him] at hn
      exact hm n hn v h1 h2
  | write _ _ _ _ _ _ hop => cases hop
  | origins _ _ _ hop => cases hop
  | kill _ _ hop => cases hop
  | restart _ _ hop => cases hop

/-- **`eventual_convergence`, the bookkeeping half, batches and crashes.**  From a reachable cluster run
ANY schedule `ops` of lossless sync sessions from clean states, each in any split into batches.  If for
every ALIVE node `i` and every other node `a` it contains a session `i ← a`, then at the end every node
that was alive holds every version of every actor (killed nodes serve, but are not claimed to catch up). -/
theorem holds_after_scheduleF {k : Nat} {c : Cluster} (h : ReachF k c) (hL : LogOK c.log)
    (ops : List OpB) (hrun : CoversRunB c ops)
    (hcov : ∀ i a, i < k → a < k → Crash.AliveAt c i →
      HoldsAll c i a ∨ (i ≠ a ∧ ∃ batches, OpB.syncB i a batches ∈ ops)) :
    ReachF k (runB c ops) ∧ (runB c ops).log = c.log ∧
      (∀ i, Crash.AliveAt (runB c ops) i ↔ Crash.AliveAt c i) ∧
      ∀ i a, i < k → a < k → Crash.AliveAt c i → HoldsAll (runB c ops) i a := by
  induction ops generalizing c with
  | nil =>
    refine ⟨h, rfl, fun _ => Iff.rfl, ?_⟩
    intro i a hi ha hal
    rcases hcov i a hi ha hal with h1 | ⟨_, _, h2⟩
    · exact h1
    · cases h2
  | cons op ops ih =>
    obtain ⟨⟨i0, j0, b0, rfl, hless⟩, hcl, hrest⟩ := hrun
    have hr' := reachF_sync h hcl i0 j0 b0
    have hlog := syncB_log c i0 j0 b0
    have hL' : LogOK (stepB c (.syncB i0 j0 b0)).log := by rw [hlog]; exact hL
    have hA := aliveAt_syncB c i0 j0 b0
    have := ih hr' hL' hrest ?_
    · exact ⟨this.1, this.2.1.trans hlog, fun i => (this.2.2.1 i).trans (hA i),
        fun i a hi ha hal => this.2.2.2 i a hi ha ((hA i).mpr hal)⟩
    · intro i a hi ha hal'
      have hal := (hA i).mp hal'
      rcases hcov i a hi ha hal with h1 | ⟨hne, batches, hmem⟩
      · exact Or.inl (holdsAll_syncF h hL hcl i0 j0 b0 hal h1)
      · rcases List.mem_cons.mp hmem with heq | hmem
        · simp only [OpB.syncB.injEq] at heq
          obtain ⟨rfl, rfl, rfl⟩ := heq
          left
          have hown := reachF_own h hL
          have hlen := hown.nodes_len
          obtain ⟨ni, hni⟩ : ∃ ni, c.nodes[i]? = some ni :=
            ⟨c.nodes[i]'(by omega), List.getElem?_eq_getElem (by omega)⟩
          obtain ⟨na, hna⟩ : ∃ na, c.nodes[a]? = some na :=
            ⟨c.nodes[a]'(by omega), List.getElem?_eq_getElem (by omega)⟩
          obtain ⟨ni', h1, _, h2, _⟩ :=
            sync_step_progressF h hL hne hni hna (clean_node hcl hna) (hal ni hni) (hless ni na hni hna)
          intro n hn v hv1 hv2
          rw [h1] at hn
          cases hn
          rw [hlog] at hv2
          exact h2 a v (fun h => hne h.symm) hv1 ((hown.node a na hna).own v hv1 hv2).held
        · exact Or.inr ⟨hne, batches, hmem⟩

/-- the coverage hypothesis of `holds_after_scheduleF` from a session for every pair of DISTINCT nodes: a
node holds its own versions anyway -/
theorem cover_of_own {k : Nat} {c : Cluster} (hown : AllNodes k (fun i n _ => Crash.OwnAt k c.log i n) c)
    {P : Prop} (i a : Nat) (h : i ≠ a → P) : HoldsAll c i a ∨ (i ≠ a ∧ P) := by
  by_cases hia : i = a
  · subst hia
    exact Or.inl (fun n hn v h1 h2 => ((hown.node i n hn).own v h1 h2).held)
  · exact Or.inr ⟨hia, h hia⟩

theorem allAlive_of_reachLiveB {k : Nat} {c : Cluster} (h : ReachLiveB k c) : Crash.AllAlive c := by
  suffices hs : AllNodes k (fun _ n _ => n.alive = true) c from hs.node
  induction h with
  | init => exact allNodes_init _ k (fun _ _ => rfl)
  | @step c op _ hlive hok _ ih =>
    exact allNodes_stepB (P := fun _ _ n _ => n.alive = true) (Src := fun _ _ => True) ih hok
      -- the writer of a local write; the other nodes
      (fun _ _ _ _ _ _ _ hw _ _ h => (localWrite_alive hw).trans h)
      (fun _ _ _ _ _ _ _ _ _ _ _ _ _ h => h)
      -- nothing is asked of the delivered changesets
      (fun _ _ _ _ _ => trivial)
      (fun _ _ _ _ _ _ _ _ _ _ => trivial)
      -- a batch; no kill and no restart in a crash-free run
      (fun _ n _ b h _ => (deliverB_alive n b).trans h)
      (fun _ _ hop => by subst hop; cases hlive)
      (fun _ _ hop => by subst hop; cases hlive)

/-- **`converged_at_quiescence`, one node** of a reachable state, dead or alive -/
theorem converged_node {k : Nat} {c : Cluster} (h : ReachF k c) (hL : LogOK c.log)
    (hnt : NoTies c.log.all) (hcs : CompleteStrong c.log.all) (i : Nat) (n : Node)
    (hi : c.nodes[i]? = some n) (hq : ∀ e ∈ c.log, Held n e.1.1 e.1.2) : view n.db = spec c.log.all := by
  obtain ⟨hN, hI⟩ := (reachF_inv h hL).node i n hi
  exact view_of_holds_log hN hL hI.held hnt hcs hq

/-- **`eventual_convergence` for the alive nodes**: the schedule contains a session `i ← a` for every alive
node `i` and every other node `a` -/
theorem eventual_convergence_alive {k : Nat} {c : Cluster} (h : ReachF k c)
    (hL : LogOK c.log) (hnt : NoTies c.log.all) (hcs : CompleteStrong c.log.all) (ops : List OpB)
    (hrun : CoversRunB c ops)
    (hcov : ∀ i a, i < k → a < k → i ≠ a → Crash.AliveAt c i → ∃ batches, OpB.syncB i a batches ∈ ops) :
    (runB c ops).log = c.log ∧
    ∀ (i : Nat) (n : Node), (runB c ops).nodes[i]? = some n → n.alive = true →
      (∀ e ∈ c.log, Held n e.1.1 e.1.2) ∧ view n.db = spec c.log.all := by
  have hown := reachF_own h hL
  obtain ⟨hr', hlog, halive, hall⟩ := holds_after_scheduleF h hL ops hrun
    (fun i a hi ha hal => cover_of_own hown i a (fun hia => hcov i a hi ha hia hal))
  have hL' : LogOK (runB c ops).log := by rw [hlog]; exact hL
  have hown' := reachF_own hr' hL'
  refine ⟨hlog, ?_⟩
  intro i n hi hal
  have hlt : i < k := by
    have := (List.getElem?_eq_some_iff.mp hi).1
    rw [hown'.nodes_len] at this; exact this
  have hAt : Crash.AliveAt c i := (halive i).mp (fun m hm => by rw [hi] at hm; cases hm; exact hal)
  have hheld : ∀ e ∈ c.log, Held n e.1.1 e.1.2 := by
    intro e he
    have he' : e ∈ (runB c ops).log := by rw [hlog]; exact he
    have hv := hL'.ver_le e he'
    exact hall i e.1.1 hlt ((hown'.node i n hi).sites e he') hAt n hi e.1.2 hv.1 hv.2
  refine ⟨hheld, ?_⟩
  have := converged_node hr' hL' (by rw [hlog]; exact hnt) (by rw [hlog]; exact hcs) i n hi
    (by rw [hlog]; exact hheld)
  rw [hlog] at this
  exact this

/-- **`eventual_convergence`**: every node alive, and a session for every ordered pair of distinct nodes -/
theorem eventual_convergence {k : Nat} {c : Cluster} (h : ReachF k c) (hL : LogOK c.log)
    (hnt : NoTies c.log.all) (hcs : CompleteStrong c.log.all) (hal : Crash.AllAlive c) (ops : List OpB)
    (hrun : CoversRunB c ops)
    (hcov : ∀ i a, i < k → a < k → i ≠ a → ∃ batches, OpB.syncB i a batches ∈ ops) :
    (runB c ops).log = c.log ∧
    ∀ (i : Nat) (n : Node), (runB c ops).nodes[i]? = some n →
      (∀ e ∈ (runB c ops).log, Held n e.1.1 e.1.2) ∧ view n.db = spec c.log.all := by
  obtain ⟨hlog, hall⟩ := eventual_convergence_alive h hL hnt hcs ops hrun
    (fun i a hi ha hne _ => hcov i a hi ha hne)
  obtain ⟨_, _, halive, _⟩ := holds_after_scheduleF h hL ops hrun
    (fun i a hi ha _ => cover_of_own (reachF_own h hL) i a (fun hia => hcov i a hi ha hia))
  refine ⟨hlog, fun i n hi => ?_⟩
  rw [hlog]
  exact hall i n hi ((halive i).mpr (fun m hm => hal i m hm) n hi)

end Full

namespace Crash

/-- **`sync_round_progress`, with crashes**: `Full.sync_step_progressF` for a session of the
one-changeset-per-batch model in which every answer is delivered -/
theorem sync_step_progress_crash {k : Nat} {c : Cluster} (h : ReachC k c) (hL : LogOK c.log)
    {i j : Nat} (hij : i ≠ j) {ni nj : Node} (hi : c.nodes[i]? = some ni)
    (hj : c.nodes[j]? = some nj) (hcl : nodeClean nj = true) (hal : ni.alive = true) {keep : List Nat}
    (hkeep : pick (answers ni nj) keep = answers ni nj) :
    ∃ ni', (step c (.sync i j keep)).nodes[i]? = some ni' ∧ ni'.alive = true ∧
      (∀ a v, a ≠ i → 1 ≤ v → Held nj a v → Held ni' a v) ∧ (∀ a v, Held ni a v → Held ni' a v) := by
  rw [step_eq_stepB]
  exact Full.sync_step_progressF (Full.reachF_of_reachC h) hL hij hi hj hcl hal
    (coversB_singletons c.log hkeep)

/-- **`eventual_convergence`, the bookkeeping half, with crashes**: `Full.holds_after_scheduleF` for the
one-changeset-per-batch model -/
theorem holds_after_schedule_crash {k : Nat} {c : Cluster} (h : ReachC k c) (hL : LogOK c.log)
    (ops : List Op) (hrun : LosslessRun c ops)
    (hcov : ∀ i a, i < k → a < k → AliveAt c i →
      HoldsAll c i a ∨ (i ≠ a ∧ ∃ keep, Op.sync i a keep ∈ ops)) :
    ReachC k (run c ops) ∧ (run c ops).log = c.log ∧ (∀ i, AliveAt (run c ops) i ↔ AliveAt c i) ∧
      ∀ i a, i < k → a < k → AliveAt c i → HoldsAll (run c ops) i a := by
  rw [run_eq_runB]
  have hF := Full.holds_after_scheduleF (Full.reachF_of_reachC h) hL _ hrun.covers
    (fun i a hi ha hal => (hcov i a hi ha hal).imp_right (fun h => ⟨h.1, mem_liftOp_sync h.2⟩))
  exact ⟨by rw [← run_eq_runB]; exact reachC_lossless h hrun, hF.2⟩

/-- **`eventual_convergence` for the alive nodes, with crashes**; with it: the same nodes are alive -/
theorem converges_after_schedule {k : Nat} {c : Cluster} (h : ReachC k c) (hL : LogOK c.log)
    (hnt : NoTies c.log.all) (hcs : CompleteStrong c.log.all) (ops : List Op) (hrun : LosslessRun c ops)
    (hcov : ∀ i a, i < k → a < k → i ≠ a → AliveAt c i → ∃ keep, Op.sync i a keep ∈ ops) :
    (run c ops).log = c.log ∧ (∀ i, AliveAt (run c ops) i ↔ AliveAt c i) ∧
    ∀ (i : Nat) (n : Node), (run c ops).nodes[i]? = some n → n.alive = true →
      (∀ e ∈ c.log, Held n e.1.1 e.1.2) ∧ view n.db = spec c.log.all := by
  have hown := reachC_own h hL
  obtain ⟨_, _, halive, _⟩ := holds_after_schedule_crash h hL ops hrun
    (fun i a hi ha hal => Full.cover_of_own hown i a (fun hia => hcov i a hi ha hia hal))
  have hF := Full.eventual_convergence_alive (Full.reachF_of_reachC h) hL hnt hcs _ hrun.covers
    (fun i a hi ha hne hal => mem_liftOp_sync (hcov i a hi ha hne hal))
  rw [← run_eq_runB] at hF
  exact ⟨hF.1, halive, hF.2⟩

/-- `converges_after_schedule` when every node is alive -/
theorem converges_after_schedule_allAlive {k : Nat} {c : Cluster} (h : ReachC k c) (hL : LogOK c.log)
    (hnt : NoTies c.log.all) (hcs : CompleteStrong c.log.all) (hal : AllAlive c) (ops : List Op)
    (hrun : LosslessRun c ops)
    (hcov : ∀ i a, i < k → a < k → i ≠ a → ∃ keep, Op.sync i a keep ∈ ops) :
    (run c ops).log = c.log ∧
    (∀ (i : Nat) (n : Node), (run c ops).nodes[i]? = some n → ∀ e ∈ (run c ops).log, Held n e.1.1 e.1.2) ∧
    ∀ (i : Nat) (n : Node), (run c ops).nodes[i]? = some n → view n.db = spec c.log.all := by
  obtain ⟨hlog, halive, hall⟩ := converges_after_schedule h hL hnt hcs ops hrun
    (fun i a hi ha hne _ => hcov i a hi ha hne)
  have hal' : ∀ (i : Nat) (n : Node), (run c ops).nodes[i]? = some n → n.alive = true :=
    fun i n hi => (halive i).mpr (fun m hm => hal i m hm) n hi
  refine ⟨hlog, ?_, fun i n hi => (hall i n hi (hal' i n hi)).2⟩
  intro i n hi e he
  rw [hlog] at he
  exact (hall i n hi (hal' i n hi)).1 e he

theorem allAlive_of_reachLive {k : Nat} {c : Cluster} (h : ReachLive k c) : AllAlive c :=
  Full.allAlive_of_reachLiveB (reachLiveB_of_reachLive h)

end Crash

end Corro.ClusterSys
