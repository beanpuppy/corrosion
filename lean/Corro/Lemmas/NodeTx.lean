/-
The transaction part of `process_multiple_changes` for one actor (`txFold`): invariant `TI` relating
the node inside the transaction, the `seen` map, the `processed` list and the scheduled clear jobs
to the node before the transaction.
-/
import Corro.Lemmas.NodeConsistent
namespace Corro.Node
open Corro.Crdt

theorem hasRows_bufferChunk_same (n : Node) (site ver lo hi last : Nat) (cs : List Chg) :
    HasRows (n.bufferChunk site ver lo hi last cs).1 site ver :=
  ⟨⟨site, ver, mergedLo n.seqRows site ver lo hi, mergedHi n.seqRows site ver lo hi, last⟩,
    by rw [bufferChunk_eq]; simp, rfl, rfl⟩

theorem hasRows_bufferChunk_other (n : Node) (site ver lo hi last : Nat) (cs : List Chg) (a v : Nat)
    (h : ¬ (a = site ∧ v = ver)) :
    HasRows (n.bufferChunk site ver lo hi last cs).1 a v ↔ HasRows n a v :=
  exists_congr fun r => and_congr_left fun hr => mem_bufferChunk_rows_other (by rw [hr.1, hr.2]; exact h)

/-- a processed entry that cleared / completed its versions -/
def Processed.isNone (e : Processed) : Prop := e.part = none

/-- The state `st` inside the transaction of actor `site`, relative to the node `n` before it.
Frame: `book`, `alive`, `id`, the durable rows of every `other` actor.  The `processed` list: `seenNone`
(a cleared range is in `seen`); `pw` (no chunk is buffered for a version cleared before it); `shape`
(ranges are forward; an entry with a partial is for one version and its partial has a canonical,
non-empty seq set and the true `last_seq`, any old partial of the version being incomplete);
`clearsFrom`, `cleared` (clear jobs are for cleared ranges, and a cleared version that still has rows
has one).  The durable rows of `site`: `rows_fwd`, `seqmem` (the old points and those of the buffered
chunks), `buf_cov`.  Its db-version row: not below the old one (`dbv_ge`), above it only through a
processed range (`dbv_le`), reached by every cleared range at or above the old head (`dbv_none`). -/
structure TI (L : Nat → Nat → Nat) (n : Node) (site : Nat) (st : TxSt) : Prop where
  book : st.node.book = n.book
  alive : st.node.alive = n.alive
  id : st.node.id = n.id
  other : ∀ a, a ≠ site → (∀ r, r.site = a → (r ∈ st.node.seqRows ↔ r ∈ n.seqRows)) ∧
    (∀ c, c.site = a → (c ∈ st.node.buf ↔ c ∈ n.buf)) ∧ dbvOf st.node a = dbvOf n a
  seenNone : ∀ v, (∃ e ∈ st.processed, e.part = none ∧ e.vlo ≤ v ∧ v ≤ e.vhi) →
    seenGet st.seen v = some none
  pw : st.processed.Pairwise (fun e f => e.part = none → f.part.isSome = true →
    ¬ (e.vlo ≤ f.vlo ∧ f.vlo ≤ e.vhi))
  shape : ∀ e ∈ st.processed, e.vlo ≤ e.vhi ∧ ∀ q, e.part = some q →
    e.vlo = e.vhi ∧ RSet.WF q.seqs ∧ q.last = L site e.vlo ∧
      (∀ p0, (n.booked site).partial? e.vlo = some p0 → p0.complete = false) ∧
      ∃ x, RSet.Mem q.seqs x
  clearsFrom : ∀ c ∈ st.clears, c.1 = site ∧
    ∃ e ∈ st.processed, e.part = none ∧ c.2.1 = e.vlo ∧ c.2.2 = e.vhi
  cleared : ∀ e ∈ st.processed, e.part = none → ∀ v, e.vlo ≤ v → v ≤ e.vhi →
    (HasRows st.node site v ∨ ∃ c ∈ st.node.buf, c.site = site ∧ c.dbv = v) →
      ∃ c ∈ st.clears, c.2.1 ≤ v ∧ v ≤ c.2.2
  rows_fwd : ∀ r ∈ st.node.seqRows, r.site = site → r.lo ≤ r.hi ∧ r.last = L site r.ver
  seqmem : ∀ v x, SeqMem st.node.seqRows site v x ↔ SeqMem n.seqRows site v x ∨
    ∃ e ∈ st.processed, e.vlo = v ∧ ∃ q, e.part = some q ∧ RSet.Mem q.seqs x
  buf_cov : ∀ c ∈ st.node.buf, c.site = site → SeqMem st.node.seqRows site c.dbv c.seq
  dbv_ge : dbvOf n site ≤ dbvOf st.node site
  dbv_le : dbvOf st.node site ≤ dbvOf n site ∨ ∃ e ∈ st.processed, dbvOf st.node site ≤ e.vhi
  dbv_none : ∀ e ∈ st.processed, e.part = none → (n.booked site).max ≤ e.vhi →
    e.vhi ≤ dbvOf st.node site

section
variable {L : Nat → Nat → Nat} {n : Node} {site : Nat} {st : TxSt} (h : TI L n site st)
  {e : Processed} (he : e ∈ st.processed) {q : Partial} (hq : e.part = some q)
include h he hq

theorem TI.part_wf : RSet.WF q.seqs := ((h.shape e he).2 q hq).2.1

theorem TI.part_last : q.last = L site e.vlo := ((h.shape e he).2 q hq).2.2.1

theorem TI.old_incomplete {p0 : Partial} (hp0 : (n.booked site).partial? e.vlo = some p0) :
    p0.complete = false := ((h.shape e he).2 q hq).2.2.2.1 p0 hp0

theorem TI.part_nonempty : ∃ x, RSet.Mem q.seqs x := ((h.shape e he).2 q hq).2.2.2.2

end

theorem TI.init (L : Nat → Nat → Nat) (n : Node) (site : Nat) (hc : ConsA L n site) :
    TI L n site { node := n, seen := [], processed := [], clears := [] } := by
  refine ⟨rfl, rfl, rfl, fun a _ => ⟨fun _ _ => Iff.rfl, fun _ _ => Iff.rfl, rfl⟩, ?_, List.Pairwise.nil,
    (fun e he => by cases he), (fun c hc' => by cases hc'), (fun e he => by cases he),
    hc.rows_fwd, ?_, hc.buf_cov, Nat.le_refl _, Or.inl (Nat.le_refl _), (fun e he => by cases he)⟩
  · rintro v ⟨e, he, _⟩; cases he
  · exact fun v x => ⟨Or.inl, fun h => h.resolve_right (fun ⟨e, he, _⟩ => by cases he)⟩

theorem TI.buffer {L : Nat → Nat → Nat} {n : Node} {site : Nat} {st : TxSt} (h : TI L n site st)
    (ver lo hi last : Nat) (cs : List Chg) (hlh : lo ≤ hi) (hlast : last = L site ver)
    (hcw : ChunkWF site ver lo hi cs) (hseen : seenGet st.seen ver ≠ some none)
    (hp0 : ∀ p0, (n.booked site).partial? ver = some p0 → p0.complete = false) :
    TI L n site (stBuffer st site ver lo hi last cs) := by
  have hf : ∀ r ∈ rowsOf st.node.seqRows site ver, r.lo ≤ r.hi :=
    fun r hr => (h.rows_fwd r (mem_rowsOf.mp hr).1 (mem_rowsOf.mp hr).2.1).1
  have hm : mergedLo st.node.seqRows site ver lo hi ≤ mergedHi st.node.seqRows site ver lo hi :=
    Nat.le_trans (mergedLo_le ..) (Nat.le_trans hlh (le_mergedHi ..))
  -- no earlier entry of the transaction cleared or completed `ver`
  have hnone : ∀ e ∈ st.processed, e.part = none → ¬ (e.vlo ≤ ver ∧ ver ≤ e.vhi) :=
    fun e he hn hc => hseen (h.seenNone ver ⟨e, he, hn, hc.1, hc.2⟩)
  have hsm := seqMem_bufferChunk st.node site ver lo hi last cs hlh hf
  have hsmo := seqMem_bufferChunk_other st.node site ver lo hi last cs
  -- the new row covers exactly the seqs of the new entry
  have hnew : ∀ x, RSet.Mem [(st.node.bufferChunk site ver lo hi last cs).2] x →
      SeqMem (st.node.bufferChunk site ver lo hi last cs).1.seqRows site ver x := fun x hx =>
    ⟨_, by rw [bufferChunk_eq]; exact List.mem_append_right _ (List.mem_singleton_self _), rfl, rfl,
      (RSet.mem_singleton.mp hx).1, (RSet.mem_singleton.mp hx).2⟩
  unfold stBuffer
  simp only
  refine ⟨h.book, h.alive, h.id, ?_, ?_, ?_, ?_, ?_, ?_, ?_, ?_, ?_, h.dbv_ge, ?_, ?_⟩
  · -- other
    intro a ha
    obtain ⟨o1, o2, o3⟩ := h.other a ha
    refine ⟨fun r hr => ?_, fun c hc => ⟨fun hm => ?_, fun hm => mem_buf_bufferChunk ((o2 c hc).mpr hm)⟩,
      (dbvOf_congr (bufferChunk_dbv ..) a).trans o3⟩
    · rw [← o1 r hr]; exact mem_bufferChunk_rows_other (fun hc => ha (hr ▸ hc.1))
    · rcases mem_bufferChunk_buf hm with h1 | h1
      · exact (o2 c hc).mp h1
      · exact absurd ((hcw c h1).1 ▸ hc).symm ha
  · -- seenNone
    intro v hv
    rcases exists_mem_snoc.mp hv with ⟨e, he, hn, hc⟩ | ⟨hn, _⟩
    · rw [seenGet_cons, if_neg (fun hv : ver ≤ v ∧ v ≤ ver => hnone e he hn (Nat.le_antisymm hv.2 hv.1 ▸ hc))]
      exact h.seenNone v ⟨e, he, hn, hc⟩
    · cases hn
  · -- pw
    refine List.pairwise_append.mpr ⟨h.pw, List.pairwise_singleton _ _, fun e he f hf' => ?_⟩
    cases List.mem_singleton.mp hf'
    exact fun hn _ => hnone e he hn
  · -- shape
    refine forall_mem_snoc.mpr ⟨h.shape, Nat.le_refl _, fun q hq => ?_⟩
    cases hq
    exact ⟨rfl, ⟨Nat.zero_le _, hm, trivial⟩, hlast, hp0, _, RSet.mem_singleton.mpr ⟨Nat.le_refl _, hm⟩⟩
  · -- clearsFrom
    intro c hc
    obtain ⟨h1, e, he, h2⟩ := h.clearsFrom c hc
    exact ⟨h1, e, List.mem_append_left _ he, h2⟩
  · -- cleared
    refine forall_mem_snoc.mpr ⟨fun e he hn v hv1 hv2 hex => ?_, nofun⟩
    have hvne : v ≠ ver := fun hvv => hnone e he hn (hvv ▸ ⟨hv1, hv2⟩)
    refine h.cleared e he hn v hv1 hv2 (hex.imp ?_ ?_)
    · exact (hasRows_bufferChunk_other _ _ _ _ _ _ _ site v (fun hc => hvne hc.2)).mp
    · rintro ⟨c, hc, hs, hd⟩
      rcases mem_bufferChunk_buf hc with h1 | h1
      · exact ⟨c, h1, hs, hd⟩
      · exact absurd ((hcw c h1).2.1 ▸ hd).symm hvne
  · -- rows_fwd
    intro r hr hs
    by_cases hv : r.ver = ver
    · rw [bufferChunk_eq] at hr
      rcases List.mem_append.mp hr with h1 | h1
      · exact h.rows_fwd r (List.mem_filter.mp h1).1 hs
      · cases List.mem_singleton.mp h1; exact ⟨hm, hlast⟩
    · exact h.rows_fwd r ((mem_bufferChunk_rows_other (fun hc => hv hc.2)).mp hr) hs
  · -- seqmem
    intro v x
    rw [exists_mem_snoc, ← or_assoc, ← h.seqmem v x]
    by_cases hv : v = ver
    · subst hv
      rw [hsm x]
      constructor
      · exact Or.imp_right fun hx => ⟨rfl, _, rfl, RSet.mem_singleton.mpr
          ⟨Nat.le_trans (mergedLo_le ..) hx.1, Nat.le_trans hx.2 (le_mergedHi ..)⟩⟩
      · rintro (hx | ⟨_, q, hq, hx⟩)
        · exact Or.inl hx
        · cases hq; exact (hsm x).mp (hnew x hx)
    · rw [hsmo site v (fun hc => hv hc.2) x]
      exact ⟨Or.inl, fun hx => hx.elim (fun h => h) (fun hx => absurd hx.1.symm hv)⟩
  · -- buf_cov
    intro c hc hs
    rcases mem_bufferChunk_buf hc with h1 | h1
    · exact seqMem_bufferChunk_mono _ _ _ _ _ _ _ hlh hf (h.buf_cov c h1 hs)
    · rw [(hcw c h1).2.1]; exact (hsm _).mpr (Or.inr (hcw c h1).2.2)
  · -- dbv_le
    exact h.dbv_le.imp_right (fun ⟨e, he, h1⟩ => ⟨e, List.mem_append_left _ he, h1⟩)
  · -- dbv_none
    exact forall_mem_snoc.mpr ⟨h.dbv_none, nofun⟩

/-- the step that clears or completes a version range: `N'` is `st.node` up to db-version rows -/
theorem TI.noneStep {L : Nat → Nat → Nat} {n : Node} {site : Nat} {st : TxSt} (h : TI L n site st)
    (N' : Node) (vlo vhi : Nat) (hv : vlo ≤ vhi)
    (hbook : N'.book = st.node.book) (halive : N'.alive = st.node.alive) (hid : N'.id = st.node.id)
    (hrows : N'.seqRows = st.node.seqRows) (hbuf : N'.buf = st.node.buf)
    (hdo : ∀ a, a ≠ site → dbvOf N' a = dbvOf st.node a)
    (hd : dbvOf N' site = Nat.max (dbvOf st.node site) vhi ∨
      dbvOf N' site = dbvOf st.node site ∧ ¬ (n.booked site).max ≤ vhi) :
    TI L n site
      { node := N', seen := seenInsert st.seen (vlo, vhi) none,
        processed := st.processed ++ [⟨vlo, vhi, none⟩],
        clears := if hasBufferedMeta N' site vlo vhi then st.clears ++ [(site, vlo, vhi)] else st.clears } := by
  have hhr : ∀ v, HasRows N' site v ↔ HasRows st.node site v := by
    intro v; unfold HasRows; rw [hrows]
  obtain ⟨hd1, hd2, hd3⟩ : dbvOf st.node site ≤ dbvOf N' site ∧
      (dbvOf N' site ≤ dbvOf st.node site ∨ dbvOf N' site ≤ vhi) ∧
      ((n.booked site).max ≤ vhi → vhi ≤ dbvOf N' site) := by
    rcases hd with hd | ⟨hd, hm⟩ <;> rw [hd]
    · exact ⟨Nat.le_max_left _ _, (Nat.le_total vhi (dbvOf st.node site)).imp
        (fun hle => Nat.max_le.mpr ⟨Nat.le_refl _, hle⟩) (fun hle => Nat.max_le.mpr ⟨hle, Nat.le_refl _⟩),
        fun _ => Nat.le_max_right _ _⟩
    · exact ⟨Nat.le_refl _, Or.inl (Nat.le_refl _), fun hc => absurd hc hm⟩
  refine ⟨hbook.trans h.book, halive.trans h.alive, hid.trans h.id, ?_, ?_, ?_, ?_, ?_, ?_, ?_, ?_, ?_,
    Nat.le_trans h.dbv_ge hd1, ?_, ?_⟩
  · -- other
    intro a ha
    obtain ⟨o1, o2, o3⟩ := h.other a ha
    exact ⟨by rw [hrows]; exact o1, by rw [hbuf]; exact o2, (hdo a ha).trans o3⟩
  · -- seenNone
    intro v hv
    rw [seenGet_cons]
    split
    · rfl
    · next hvv =>
      rcases exists_mem_snoc.mp hv with hv | ⟨_, hc⟩
      · exact h.seenNone v hv
      · exact absurd hc hvv
  · -- pw
    refine List.pairwise_append.mpr ⟨h.pw, List.pairwise_singleton _ _, fun e _ f hf' => ?_⟩
    cases List.mem_singleton.mp hf'
    exact fun _ hs => nomatch hs
  · -- shape
    exact forall_mem_snoc.mpr ⟨h.shape, hv, nofun⟩
  · -- clearsFrom
    have hold : ∀ c ∈ st.clears, c.1 = site ∧
        ∃ e ∈ st.processed ++ [(⟨vlo, vhi, none⟩ : Processed)], e.part = none ∧ c.2.1 = e.vlo ∧ c.2.2 = e.vhi :=
      fun c hc => let ⟨h1, e, he, h2⟩ := h.clearsFrom c hc; ⟨h1, e, List.mem_append_left _ he, h2⟩
    intro c hc
    simp only at hc
    split at hc
    · rcases List.mem_append.mp hc with hc' | hc'
      · exact hold c hc'
      · cases List.mem_singleton.mp hc'
        exact ⟨rfl, _, List.mem_append_right _ (List.mem_singleton_self _), rfl, rfl, rfl⟩
    · exact hold c hc
  · -- cleared
    refine forall_mem_snoc.mpr ⟨fun e he hn v hv1 hv2 hex => ?_, fun _ v hv1 hv2 hex => ?_⟩
    · obtain ⟨c, hc, h1⟩ := h.cleared e he hn v hv1 hv2 (by rw [← hhr v, ← hbuf]; exact hex)
      refine ⟨c, ?_, h1⟩
      simp only
      split
      · exact List.mem_append_left _ hc
      · exact hc
    · simp only [if_pos (hasBufferedMeta_of hv1 hv2 hex)]
      exact ⟨_, List.mem_append_right _ (List.mem_singleton_self _), hv1, hv2⟩
  · -- rows_fwd
    simp only; rw [hrows]; exact h.rows_fwd
  · -- seqmem
    intro v x
    simp only
    rw [hrows, exists_mem_snoc, h.seqmem v x]
    exact ⟨fun hx => hx.imp_right Or.inl, fun hx => hx.imp_right (·.resolve_right (fun ⟨_, _, hq, _⟩ => nomatch hq))⟩
  · -- buf_cov
    simp only; rw [hrows, hbuf]; exact h.buf_cov
  · -- dbv_le
    simp only
    rcases hd2 with h1 | h1
    · exact h.dbv_le.imp (Nat.le_trans h1) (fun ⟨e, he, h2⟩ => ⟨e, List.mem_append_left _ he, Nat.le_trans h1 h2⟩)
    · exact Or.inr ⟨_, List.mem_append_right _ (List.mem_singleton_self _), h1⟩
  · -- dbv_none
    exact forall_mem_snoc.mpr ⟨fun e he hn hm => Nat.le_trans (h.dbv_none e he hn hm) hd1, fun _ => hd3⟩

theorem TI.complete {L : Nat → Nat → Nat} {n : Node} {site : Nat} {st : TxSt} (h : TI L n site st)
    (ver : Nat) (cs : List Chg) (hne : cs ≠ []) (hcs : ∀ c ∈ cs, c.site = site ∧ c.dbv = ver) :
    TI L n site (stComplete st site ver cs) := by
  have hd := dbvOf_mergeChanges st.node cs site ver hcs
  exact h.noneStep (st.node.mergeChanges cs) ver ver (Nat.le_refl _) (mergeChanges_book _ _)
    (mergeChanges_alive _ _) (mergeChanges_id _ _) (mergeChanges_seqRows _ _) (mergeChanges_buf _ _)
    (fun a ha => by rw [hd a, if_neg (fun hc => ha hc.1)]) (Or.inl (by rw [hd site, if_pos ⟨rfl, hne⟩]))

theorem TI.clearedStep {L : Nat → Nat → Nat} {n : Node} {site : Nat} {st : TxSt} (h : TI L n site st)
    (vlo vhi : Nat) (hv : vlo ≤ vhi) :
    TI L n site (stCleared (n.booked site) st site vlo vhi) := by
  unfold stCleared
  by_cases hm : (n.booked site).max ≤ vhi
  · simp only [if_pos hm]
    exact h.noneStep (st.node.bumpDbv site vhi) vlo vhi hv (bumpDbv_book _ _ _) (bumpDbv_alive _ _ _)
      (bumpDbv_id _ _ _) (bumpDbv_seqRows _ _ _) (bumpDbv_buf _ _ _)
      (fun a ha => by rw [dbvOf_bumpDbv, if_neg ha]) (Or.inl (by rw [dbvOf_bumpDbv, if_pos rfl]))
  · simp only [if_neg hm]
    exact h.noneStep st.node vlo vhi hv rfl rfl rfl rfl rfl (fun _ _ => rfl) (Or.inr ⟨rfl, hm⟩)

theorem TI.step {L : Nat → Nat → Nat} {n : Node} {site : Nat} {st : TxSt} (hc : ConsA L n site)
    (h : TI L n site st) (it : Item) (hwf : ItemWF L it) (hs : it.site = site) :
    TI L n site (processOne (n.booked site) st it) := by
  obtain ⟨_, hcase⟩ := procCase (n.booked site) st it
  cases hcase with
  | skip hp => rw [hp]; exact h
  | @cleared s vlo vhi hp hshape hlh =>
    obtain rfl : s = site := by
      rcases hshape with rfl | ⟨_, rfl, _⟩ <;> exact hs
    rw [hp]
    exact h.clearedStep vlo vhi hlh
  | @complete s ver last _ hp hfull hne =>
    subst hfull
    obtain rfl : s = site := hs
    rw [hp]
    exact h.complete ver _ hne (fun c hc' => ⟨(hwf.2.2 c hc').1, (hwf.2.2 c hc').2.1⟩)
  | @buffer s ver lo hi last cs hp hfull hlh _ hnc hns =>
    subst hfull
    obtain rfl : s = site := hs
    obtain ⟨hl, hhi, hcw⟩ := hwf
    rw [hp]
    refine h.buffer ver lo hi last cs hlh hl hcw (not_alreadySeen_full hns) (fun p0 hp0 => ?_)
    -- a complete partial of `ver` would have made the chunk "contained"
    refine Bool.eq_false_iff.mpr (fun hcc => Bool.eq_false_iff.mp hnc ?_)
    rw [containsAll_single]
    exact contains_of_complete (hc.pwf.of_partial? hp0) hp0 hcc
      (by rw [hc.part_last ver p0 hp0, ← hl]; exact hhi) (hc.part_known ver p0 hp0)

theorem txFold_TI {L : Nat → Nat → Nat} {n : Node} {site : Nat} (hc : ConsA L n site) (items : List Item)
    (hwf : ∀ it ∈ items, ItemWF L it ∧ it.site = site) : TI L n site (txFold n site items) := by
  unfold txFold
  apply foldl_inv (TI L n site)
  · exact TI.init L n site hc
  · intro st it hit hst
    exact TI.step hc hst it (hwf it hit).1 (hwf it hit).2

end Corro.Node
