/-
C01, protocol level, BATCHES AND CRASHES — one actor's transaction inside `process_multiple_changes`,
followed changeset by changeset with the virtual bookkeeping (`cV`, `vbOf`; `Lemmas/NodeEffect.lean`), on a
dead or alive node, for any list of changesets that satisfy `ChunkOK`; then `processActor`.  The invariant
of the transaction is `TXI`.  Its first part, `TXC`, says that at every point `GI`
(`Lemmas/ClusterFullGI.lean`) holds of the virtual bookkeeping together with the rows, the buffer, the ghost
list and the clear jobs and applies pending so far, and that the durable db-version rows do not exceed the
virtual heads (`DbvLe`) if they did not before.  Its second part is the invariant `VB` of the bookkeeping alone.  What the transaction
does to the bookkeeping — `Eff`, `TXK` — is `NodeEffect.lean`'s; here: "will be held" is monotone and covers
everything merged (`TXI.willHold_step`, `TXI.merged_step`).
-/
import Corro.Lemmas.ClusterFullGI

namespace Corro.ClusterSys.Full
open Corro.Crdt Corro.Node

theorem booked_fun_of_book {n N : Node} (h : N.book = n.book) : N.booked = n.booked := by
  funext a; exact booked_of_book h a

/-- the virtual bookkeeping function inside the transaction of `site` started at node `N0` -/
def vbk (N0 : Node) (site : Nat) (P : List Processed) : Nat → Booked :=
  ovr N0.booked site (cV (N0.booked site) site P).1

theorem vbk_nil (N0 : Node) (site : Nat) : vbk N0 site [] = N0.booked := by
  unfold vbk; rw [cV_nil]; exact ovr_self _ _

/-- inside the transaction of actor `site`, started at node `N0` (ghost list `R0`, pending clear jobs
`C0` and applies `A0` of the actors processed before), `s = (transaction state, merged so far)`: the
clauses of `TXI` about the log, the ghost list, the rows and the buffer, which the two kinds of step
establish each in its own way (`TXI.noneStep`, `TXI.bufferStep`) -/
structure TXC (D : Prop) (L : Log) (N0 : Node) (site : Nat) (R0 : List Chg) (C0 : List (Nat × Nat × Nat))
    (A0 : List (Nat × Nat)) (s : TxSt × List Chg) : Prop where
  book : s.1.node.book = N0.book
  gi : GI D L (vbk N0 site s.1.processed) s.1.node.seqRows s.1.node.buf (s.2 ++ R0) (C0 ++ s.1.clears)
    (A0 ++ (cV (N0.booked site) site s.1.processed).2)
  dbv : DbvLe N0 → ∀ a, dbvOf s.1.node a ≤ (vbk N0 site s.1.processed a).max

/-- the invariant of the transaction: `TXC`, and the invariant `VB` of its bookkeeping (`NodeEffect.lean`) -/
structure TXI (D : Prop) (L : Log) (N0 : Node) (site : Nat) (R0 : List Chg) (C0 : List (Nat × Nat × Nat))
    (A0 : List (Nat × Nat)) (s : TxSt × List Chg) : Prop extends TXC D L N0 site R0 C0 A0 s where
  vb : VB (N0.booked site) site s.1

section
variable {D : Prop} {L : Log} {N0 : Node} {site : Nat} {R0 : List Chg} {C0 : List (Nat × Nat × Nat)}
  {A0 : List (Nat × Nat)}

theorem TXI.init (hG : GI D L N0.booked N0.seqRows N0.buf R0 C0 A0) :
    TXI D L N0 site R0 C0 A0 ({ node := N0, seen := [], processed := [], clears := [] }, []) := by
  refine ⟨⟨rfl, ?_, ?_⟩, VB.init (hG.needed_wf site) (hG.pwf site) (hG.keys site)⟩
  · show GI D L (vbk N0 site []) N0.seqRows N0.buf ([] ++ R0) (C0 ++ []) (A0 ++ (cV (N0.booked site) site []).2)
    rw [vbk_nil, cV_nil, List.append_nil, List.append_nil]
    exact hG
  · intro hdbv a
    show dbvOf N0 a ≤ (vbk N0 site [] a).max
    rw [vbk_nil]; exact hdbv a

/-- a version range is completed / cleared.  `N'` is the node after the step (the changes merged, or the
db-version row bumped); `hbook`, `hrows`, `hbuf`, `hdbv` are all that is used of it -/
theorem TXI.noneStep {st : TxSt} {M : List Chg} (h : TXI D L N0 site R0 C0 A0 (st, M)) (hL : LogOK L) (N' : Node)
    (vlo vhi : Nat) (cs : List Chg) (hlh : vlo ≤ vhi) (hhead : vhi ≤ L.head site)
    (hbook : N'.book = st.node.book) (hrows : N'.seqRows = st.node.seqRows)
    (hbuf : N'.buf = st.node.buf)
    (hdbv : ∀ a', dbvOf N' a' ≤ if a' = site then max (dbvOf st.node site) vhi else dbvOf st.node a')
    (hcs : ∀ e ∈ cs, e.site = site ∧ vlo ≤ e.dbv ∧ e.dbv ≤ vhi)
    (hdata : ∀ v, vlo ≤ v → v ≤ vhi → ∀ c ∈ L.get site v, c ∈ cs ∨ Dom L.all c) :
    TXC D L N0 site R0 C0 A0
      ({ node := N', seen := seenInsert st.seen (vlo, vhi) none,
         processed := st.processed ++ [⟨vlo, vhi, none⟩],
         clears := if hasBufferedMeta N' site vlo vhi then st.clears ++ [(site, vlo, vhi)] else st.clears },
       M ++ cs) := by
  have hcvE : cV (N0.booked site) site (st.processed ++ [⟨vlo, vhi, none⟩]) =
      ((((cV (N0.booked site) site st.processed).1.insertDb [(vlo, vhi)]).dropPartials vlo vhi),
        (cV (N0.booked site) site st.processed).2) := by
    rw [cV_append, commitStepV_none]
  have hvbk : vbk N0 site (st.processed ++ [⟨vlo, vhi, none⟩]) =
      ovr (vbk N0 site st.processed) site
        (((vbk N0 site st.processed site).insertDb [(vlo, vhi)]).dropPartials vlo vhi) := by
    unfold vbk
    rw [ovr_same, hcvE, ovr_ovr]
  have hG := h.gi
  simp only at hG
  refine ⟨hbook.trans h.book, ?_, ?_⟩
  · dsimp only
    rw [hvbk, hcvE, hrows, hbuf]
    -- the clear jobs pending now: those before, and this range if it has rows or buffered rows
    have hsched : ∀ a' v', InClears (C0 ++ if hasBufferedMeta N' site vlo vhi then st.clears ++ [(site, vlo, vhi)]
          else st.clears) a' v' ↔
        InClears (C0 ++ st.clears) a' v' ∨
          (hasBufferedMeta N' site vlo vhi = true ∧ a' = site ∧ vlo ≤ v' ∧ v' ≤ vhi) := by
      intro a' v'
      split
      · rename_i hm
        rw [← List.append_assoc, inClears_append (C0 ++ st.clears), inClears_cons]
        exact or_congr_right ⟨fun h => ⟨hm, (h.resolve_right (not_inClears_nil _ _)).1.symm,
          (h.resolve_right (not_inClears_nil _ _)).2⟩, fun h => Or.inl ⟨h.2.1.symm, h.2.2⟩⟩
      · rename_i hm
        exact ⟨Or.inl, fun h => h.resolve_right (fun h' => hm h'.1)⟩
    refine gi_cleared hG hL hlh hhead (fun e he => ?_) (fun e he => ?_) (fun v h1 h2 c hc => ?_)
      (fun a' v' hc => (hsched a' v').mpr (Or.inl hc)) (fun a' v' hc => ((hsched a' v').mp hc).imp_right And.right)
      (fun r hr hs h1 h2 => (hsched site r.ver).mpr (Or.inr
        ⟨hasBufferedMeta_of h1 h2 (Or.inl ⟨r, by rw [hrows]; exact hr, hs, rfl⟩), rfl, h1, h2⟩))
    · rcases List.mem_append.mp he with he | he
      · exact List.mem_append_left _ (List.mem_append_left _ he)
      · exact List.mem_append_right _ he
    · rcases List.mem_append.mp he with he | he
      · rcases List.mem_append.mp he with he | he
        · exact Or.inl (List.mem_append_left _ he)
        · exact Or.inr (hcs e he)
      · exact Or.inl (List.mem_append_right _ he)
    · rcases hdata v h1 h2 c hc with h3 | h3
      · exact Or.inl (List.mem_append_left _ (List.mem_append_right _ h3))
      · exact Or.inr h3
  · intro h0 a'
    have h1 := hdbv a'
    have h2 : dbvOf st.node a' ≤ (vbk N0 site st.processed a').max := h.dbv h0 a'
    dsimp only
    rw [hvbk]
    by_cases ha : a' = site
    · subst ha
      rw [if_pos rfl] at h1
      rw [ovr_same, dropPartials_max, insertDb_single_max]
      exact Nat.le_trans h1 (Nat.max_le.mpr ⟨Nat.le_trans h2 (Nat.le_max_left _ _), Nat.le_max_right _ _⟩)
    · rw [if_neg ha] at h1
      rw [ovr_other _ _ _ ha]
      exact Nat.le_trans h1 h2

theorem TXI.bufferStep {st : TxSt} {M : List Chg} (h : TXI D L N0 site R0 C0 A0 (st, M)) (hL : LogOK L)
    (v lo hi last : Nat) (cs : List Chg) (hck : ChunkOK L (.full site v lo hi last cs)) (hlh : lo ≤ hi)
    (hnc : (N0.booked site).containsAll v v (some (lo, hi)) = false)
    (hns : seenGet st.seen v ≠ some none) :
    TXC D L N0 site R0 C0 A0 (stBuffer st site v lo hi last cs, M) := by
  -- the step is `gi_buffer` on the virtual node `V`
  have hVb : (vNode (N0.booked site) site st).booked = vbk N0 site st.processed := by
    unfold vNode vbk vbOf
    rw [booked_setBooked_ovr, booked_fun_of_book h.book]
  have hVbs := vNode_booked (N0.booked site) site st
  generalize hV : vNode (N0.booked site) site st = V at hVb hVbs
  have hVr : V.seqRows = st.node.seqRows := by rw [← hV]; exact setBooked_seqRows _ _ _
  have hVf : V.buf = st.node.buf := by rw [← hV]; exact setBooked_buf _ _ _
  have hG : GI D L V.booked V.seqRows V.buf (M ++ R0) (C0 ++ st.clears)
      (A0 ++ (cV (N0.booked site) site st.processed).2) := by
    rw [hVb, hVr, hVf]; exact h.gi
  obtain ⟨_, hchr, hchb⟩ := bufferChunk_setBooked st.node site (cV (N0.booked site) site st.processed).1 site v lo hi
    last cs
  have hres := gi_buffer hG hL hck hlh
    (fun hc => h.vb.not_own hnc hns (by have := hG.clr_none site v hc; rwa [hVbs] at this))
  have hcvE := cV_buffer (N0.booked site) site st v lo hi last cs
  rw [hV] at hcvE
  have hE1 : (bufNode V site v lo hi last cs).booked =
      vbk N0 site (stBuffer st site v lo hi last cs).processed := by
    rw [bufNode_booked_ovr, hVb]
    unfold vbk
    rw [hcvE, ovr_ovr]
  have hE2 : (bufNode V site v lo hi last cs).seqRows = (stBuffer st site v lo hi last cs).node.seqRows := by
    rw [bufNode_rows, ← hV]; exact hchr
  have hE3 : (bufNode V site v lo hi last cs).buf = (stBuffer st site v lo hi last cs).node.buf := by
    rw [bufNode_buf, ← hV]; exact hchb
  refine ⟨h.book, ?_, ?_⟩
  · rw [hE1, hE2, hE3] at hres
    dsimp only
    rw [hcvE]
    dsimp only
    split at hres
    · rw [if_pos (by assumption), ← List.append_assoc]; exact hres
    · rw [if_neg (by assumption)]; exact hres
  · intro h0 a'
    have h2 : dbvOf st.node a' ≤ (vbk N0 site st.processed a').max := h.dbv h0 a'
    dsimp only
    rw [← hE1]
    show dbvOf (st.node.bufferChunk site v lo hi last cs).1 a' ≤ _
    rw [dbvOf_congr (bufferChunk_dbv _ _ _ _ _ _ _)]
    by_cases ha : a' = site
    · subst ha
      rw [bufNode_booked_same, bufBooked_max, hVb]
      exact Nat.le_trans h2 (Nat.le_max_left _ _)
    · rw [bufNode_booked_other _ _ _ _ _ _ _ a' ha, hVb]
      exact h2

theorem TXI.step {s : TxSt × List Chg} (h : TXI D L N0 site R0 C0 A0 s) (hL : LogOK L) (it : Item)
    (hck : ChunkOK L it) (hs : it.site = site) :
    TXI D L N0 site R0 C0 A0 (txStepG (N0.booked site) s it) := by
  obtain ⟨st, M⟩ := s
  refine ⟨?_, h.vb.step it hs⟩
  unfold txStepG
  simp only
  obtain ⟨cs, hc⟩ := procCase (N0.booked site) st it
  rw [stepMerged_of_case hc]
  cases hc with
  | skip h' => rw [h', List.append_nil]; exact h.toTXC
  | @cleared s vlo vhi h' hshape hlh =>
    obtain rfl : s = site := by
      rcases hshape with rfl | ⟨_, rfl, _⟩ <;> exact hs
    rw [h', List.append_nil]
    -- an `Empty`, or a complete changeset without changes: everything in the range is dominated
    obtain ⟨hhead, _, hdata⟩ := hck.clears hL (hshape.imp_right (fun ⟨last, h1, h2⟩ => ⟨last, [], h1, h2⟩))
    have hnil : itemChanges it = [] := by
      rcases hshape with rfl | ⟨_, rfl, _⟩ <;> rfl
    rw [hnil] at hdata
    -- the node after the step: the db-version row of `s` bumped, book, rows and buffered changes as before
    have := h.noneStep hL (if (N0.booked s).max ≤ vhi then st.node.bumpDbv s vhi else st.node) vlo vhi []
      hlh hhead (by rw [apply_ite Node.book, bumpDbv_book, ite_self])
      (by rw [apply_ite Node.seqRows, bumpDbv_seqRows, ite_self]) (by rw [apply_ite Node.buf, bumpDbv_buf, ite_self])
      (dbvOf_bump_le st.node s vhi · _) (fun e he => by cases he) hdata
    rw [List.append_nil] at this
    exact this
  | @complete s v last _ h' hit =>
    subst hit
    simp only [Item.site] at hs
    subst hs
    rw [h']
    obtain ⟨hvh, hsv, hdata⟩ := hck.clears hL (Or.inr ⟨last, cs, rfl, rfl⟩)
    refine h.noneStep hL (st.node.mergeChanges cs) v v cs (Nat.le_refl _) hvh (mergeChanges_book _ _)
      (mergeChanges_seqRows _ _) (mergeChanges_buf _ _) ?_
      (fun e he => ⟨(hsv e he).1, Nat.le_of_eq (hsv e he).2.symm, Nat.le_of_eq (hsv e he).2⟩) hdata
    intro a'
    -- `dbvOf_mergeChanges` speaks of `Nat.max`, the bound of `max`
    have hmx : ∀ x y : Nat, Nat.max x y = max x y := fun _ _ => rfl
    rw [dbvOf_mergeChanges st.node cs s v hsv a']
    by_cases ha : a' = s
    · rw [if_pos ha]
      split
      · rw [hmx]; exact Nat.le_refl _
      · rw [ha]; exact Nat.le_max_left _ _
    · rw [if_neg (fun h => ha h.1), if_neg ha]; exact Nat.le_refl _
  | @buffer s v lo hi last cs h' hit hlh _ hnc hns =>
    subst hit
    simp only [Item.site] at hs
    subst hs
    rw [h', List.append_nil]
    exact h.bufferStep hL v lo hi last cs hck hlh hnc (not_alreadySeen_full hns)

/-- **"will be held" is monotone** inside the transaction -/
theorem TXI.willHold_step {s : TxSt × List Chg} (h : TXI D L N0 site R0 C0 A0 s) (it : Item)
    (hs : it.site = site) {v : Nat} (hw : WillHold (vbOf (N0.booked site) site s.1) v) :
    WillHold (vbOf (N0.booked site) site (txStepG (N0.booked site) s it).1) v :=
  (contains_none_iff _ _).mp ((h.vb.eff it hs v).contains h.vb.pwf none ((contains_none_iff _ _).mpr hw))

/-- only a complete changeset of the transaction's actor is merged, and its version is booked on the spot -/
theorem TXI.merged_step {s : TxSt × List Chg} (h : TXI D L N0 site R0 C0 A0 s) (hL : LogOK L) (it : Item)
    (hck : ChunkOK L it) (hs : it.site = site)
    (hm : ∀ e ∈ s.2, e.site = site ∧ WillHold (vbOf (N0.booked site) site s.1) e.dbv) :
    ∀ e ∈ (txStepG (N0.booked site) s it).2,
      e.site = site ∧ WillHold (vbOf (N0.booked site) site (txStepG (N0.booked site) s it).1) e.dbv := by
  obtain ⟨st, M⟩ := s
  intro e he
  rcases List.mem_append.mp he with he' | he'
  · exact ⟨(hm e he').1, h.willHold_step it hs (hm e he').2⟩
  clear he
  obtain ⟨cs, hc⟩ := procCase (N0.booked site) st it
  rw [stepMerged_of_case hc] at he'
  cases hc with
  | skip | cleared | buffer => cases he'
  | @complete a v last _ h' hit =>
    subst hit
    simp only [Item.site] at hs
    subst hs
    obtain ⟨_, h1, h2, _⟩ := hL.mem_get (hck.2.1 e he')
    refine ⟨h1, ?_⟩
    rw [h2]
    have hproc : (processOne (N0.booked a) st (.full a v 0 last last cs)).processed =
        st.processed ++ [⟨v, v, none⟩] := by rw [h']; rfl
    unfold txStepG
    simp only
    rw [vbOf_none _ _ hproc]
    exact (ownB_cleared h.vb.wf (Nat.le_refl v) (Nat.le_refl v)).willHold

/-- **one actor's transaction**: the invariant `TXI` at its end; everything merged belongs to the
transaction's actor and to a version that will be held; what was to be held before it will be held -/
theorem txFoldG_known (hG : GI D L N0.booked N0.seqRows N0.buf R0 C0 A0) (hL : LogOK L)
    (items : List Item) (hit : ∀ it ∈ items, ChunkOK L it ∧ it.site = site) :
    TXI D L N0 site R0 C0 A0 (txFoldG N0 site items) ∧
    (∀ e ∈ (txFoldG N0 site items).2,
      e.site = site ∧ WillHold (vbOf (N0.booked site) site (txFoldG N0 site items).1) e.dbv) ∧
    ∀ v, WillHold (N0.booked site) v → WillHold (vbOf (N0.booked site) site (txFoldG N0 site items).1) v := by
  unfold txFoldG
  refine foldl_inv
    (fun s => TXI D L N0 site R0 C0 A0 s ∧
      (∀ e ∈ s.2, e.site = site ∧ WillHold (vbOf (N0.booked site) site s.1) e.dbv) ∧
      ∀ v, WillHold (N0.booked site) v → WillHold (vbOf (N0.booked site) site s.1) v)
    _ _ _ ⟨TXI.init hG, fun _ he => (nomatch he), fun _ h => h⟩ ?_
  rintro s it hmem ⟨h1, h4, h5⟩
  obtain ⟨hck, hs⟩ := hit it hmem
  exact ⟨h1.step hL it hck hs, h1.merged_step hL it hck hs h4, fun v h => h1.willHold_step it hs (h5 v h)⟩

end

section
variable {D : Prop} {L : Log} {N0 : Node} {site : Nat} {R0 : List Chg} {C0 : List (Nat × Nat × Nat)}
  {A0 : List (Nat × Nat)} (hG : GI D L N0.booked N0.seqRows N0.buf R0 C0 A0) (hL : LogOK L)
  (items : List Item) (hit : ∀ it ∈ items, ChunkOK L it ∧ it.site = site)
include hG hL hit

omit hL in
/-- `Node.processActor_vbOf` for the bookkeeping of all actors: the others keep theirs -/
theorem processActor_vbOf :
    (processActor N0 site items).1.booked = ovr N0.booked site (vbOf (N0.booked site) site (txFold N0 site items)) := by
  funext a
  by_cases ha : a = site
  · subst ha
    rw [ovr_same]
    exact Node.processActor_vbOf (hG.needed_wf a) (hG.pwf a) (hG.keys a) items (fun it h => (hit it h).2)
  · rw [(processActor_obs N0 site items).2.2.1 a ha, ovr_other _ _ _ ha]

/-- one actor's share of the batch: the clear jobs (`.2.2`) and applies (`.2.1`) it schedules are pending -/
theorem processActor_gi (hsorted : N0.book.Pairwise (fun x y => x.1 < y.1)) :
    GI D L (processActor N0 site items).1.booked (processActor N0 site items).1.seqRows
      (processActor N0 site items).1.buf (txMerged N0 site items ++ R0)
      (C0 ++ (processActor N0 site items).2.2) (A0 ++ (processActor N0 site items).2.1) ∧
    (processActor N0 site items).1.book.Pairwise (fun x y => x.1 < y.1) ∧
    (DbvLe N0 → DbvLe (processActor N0 site items).1) := by
  have hti := (txFoldG_known hG hL items hit).1
  have hgi := hti.gi
  have hdv := hti.dbv
  rw [txFoldG_fst] at hgi hdv
  obtain ⟨⟨bk, hnode⟩, _, _, h3, h4⟩ := processActor_obs N0 site items
  unfold txMerged DbvLe
  rw [processActor_vbOf hG items hit, h3,
    txFold_committed (hG.needed_wf site) (hG.pwf site) (hG.keys site) items (fun it h => (hit it h).2)]
  unfold vbOf
  refine ⟨?_, h4 hsorted, fun h0 a => ?_⟩
  · rw [hnode]; exact hgi
  · rw [hnode]; exact hdv h0 a

end

end Corro.ClusterSys.Full
