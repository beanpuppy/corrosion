/-
One iteration of the loop of C14: the candidates of the batch are pushed (`folded`), a prefix of the
cache may be cut off, `process` may be raised, and the buffer is flushed if `process` is set (`arm_eq`).
Seen from one key: its offered causal lengths go through `offer` one by one (`view_folded`), its cache
entry may vanish (`cache_step`), its buffered value may be emitted (`buf_step`).  Sortedness inside the
horizon, `Backed` and `Track` are read off these.
-/
import Corro.Lemmas.Updates

namespace Corro.Updates

/-- state after the candidates of a batch, before eviction -/
def folded (s : St) : In → St
  | .batch b => b.foldl pushCand s
  | .tick => s

theorem arm_eq (p : Params) (s : St) (x : In) :
    ∃ n pr, arm p s x = { folded s x with cache := (folded s x).cache.drop n, process := pr } ∧
      ((folded s x).cache.length ≤ p.cap → n = 0) := by
  cases x with
  | tick =>
    simp only [arm, folded]
    split
    · exact ⟨0, true, rfl, fun _ => rfl⟩
    · exact ⟨0, s.process, rfl, fun _ => rfl⟩
  | batch b =>
    obtain ⟨n, e, hn⟩ := evict_eq_drop p (b.foldl pushCand s).cache
    simp only [arm, folded, e]
    split
    · exact ⟨n, _, rfl, hn⟩
    · exact ⟨n, _, rfl, hn⟩

theorem arm_buf (p : Params) (s : St) (x : In) : (arm p s x).buf = (folded s x).buf := by
  obtain ⟨_, _, h, _⟩ := arm_eq p s x
  rw [h]

theorem arm_bufCount (p : Params) (s : St) (x : In) : (arm p s x).bufCount = (folded s x).bufCount := by
  obtain ⟨_, _, h, _⟩ := arm_eq p s x
  rw [h]

variable {p : Params} {s : St} {k : Nat}

theorem step_of_process {x : In} (h : (arm p s x).process = true) :
    step p s x = ({ arm p s x with buf := [], bufCount := 0 }, (arm p s x).buf.map toEvent) := by
  simp [step, finish, h]

theorem step_of_not_process {x : In} (h : (arm p s x).process = false) :
    step p s x = (arm p s x, []) := by
  simp [step, finish, h]

theorem step_cache (p : Params) (s : St) (x : In) : (step p s x).1.cache = (arm p s x).cache := by
  unfold step finish; split <;> rfl

theorem coh_folded (x : In) (h : Coh s) : Coh (folded s x) := by
  cases x with
  | tick => exact h
  | batch b => exact coh_fold b h

theorem coh_arm (x : In) (h : Coh s) : Coh (arm p s x) := by
  have hf := coh_folded x h
  obtain ⟨n, _, e, _⟩ := arm_eq p s x
  rw [e]
  refine ⟨?_, hf.bufNodup, fun k c b hc => ?_, hf.count⟩
  · simpa only [List.map_drop] using (List.drop_sublist n _).nodup hf.cacheNodup
  · rcases lookup_drop k n hf.cacheNodup with e | e <;> rw [e] at hc
    · cases hc
    · exact hf.agree k c b hc

theorem coh_step (x : In) (h : Coh s) : Coh (step p s x).1 := by
  have ha := coh_arm (p := p) x h
  unfold step finish; split
  · exact ⟨ha.cacheNodup, List.nodup_nil, (fun _ _ _ _ hb => nomatch hb), fun _ => rfl⟩
  · exact ha

theorem coh_stateAfter (xs : List In) (h : Coh s) : Coh (stateAfter p s xs) := by
  induction xs generalizing s with
  | nil => exact h
  | cons x xs ih => exact ih (coh_step x h)

/-- the cached and the buffered causal length of a key -/
abbrev view (k : Key) (s : St) : Option Nat × Option Nat := (lookup k s.cache, lookup k s.buf)

/-- what a candidate with causal length `v` does to the cached and the buffered value of its own key:
skipped when the cache holds a larger one, otherwise both are overwritten -/
def offer (cb : Option Nat × Option Nat) (v : Nat) : Option Nat × Option Nat :=
  match cb.1 with
  | some old => if v < old then cb else (some v, some v)
  | none => (some v, some v)

theorem offer_cases (cb : Option Nat × Option Nat) (v : Nat) :
    (∃ old, cb.1 = some old ∧ v < old ∧ offer cb v = cb) ∨
    ((∀ old, cb.1 = some old → old ≤ v) ∧ offer cb v = (some v, some v)) := by
  unfold offer
  cases cb.1 with
  | none => exact Or.inr ⟨fun _ h => (nomatch h), rfl⟩
  | some old =>
    by_cases hv : v < old
    · exact Or.inl ⟨old, rfl, hv, if_pos hv⟩
    · exact Or.inr ⟨fun o ho => by cases ho; omega, if_neg hv⟩

theorem view_pushCand (k : Key) (s : St) (c : Cand) :
    view k (pushCand s c) = if c.1 = k then offer (view k s) c.2 else view k s := by
  unfold pushCand
  by_cases hk : c.1 = k
  · subst hk
    rw [if_pos rfl]
    rcases offer_cases (view c.1 s) c.2 with ⟨old, ho, hlt, e⟩ | ⟨hle, e⟩ <;> rw [e]
    · rw [if_pos (stale_iff.2 ⟨old, ho, hlt⟩)]
    · rw [if_neg (by rw [stale_false_iff.2 hle]; exact Bool.false_ne_true)]
      simp [lookup_upsert]
  · rw [if_neg hk]
    split
    · rfl
    · simp [lookup_upsert, hk]

theorem view_folded (k : Key) (s : St) (x : In) :
    view k (folded s x) = (offeredIn k x).foldl offer (view k s) := by
  cases x with
  | tick => rfl
  | batch b =>
    simp only [folded, offeredIn]
    induction b generalizing s with
    | nil => rfl
    | cons c b ih =>
      rw [List.foldl_cons, ih, view_pushCand, List.filter_cons]
      by_cases hk : c.1 = k <;> simp [hk]

theorem foldl_offer_rec {Q : Option Nat × Option Nat → Prop} (vs : List Nat) (cb : Option Nat × Option Nat)
    (h0 : Q cb) (hQ : ∀ cb w, Q cb → (∀ old, cb.1 = some old → old ≤ w) → Q (some w, some w)) :
    Q (vs.foldl offer cb) := by
  refine List.foldlRecOn vs offer h0 fun cb h w _ => ?_
  rcases offer_cases cb w with ⟨_, _, _, e⟩ | ⟨hw, e⟩ <;> rw [e]
  · exact h
  · exact hQ cb w h hw

theorem view_folded_rec {Q : Option Nat × Option Nat → Prop} (k : Key) (s : St) (x : In)
    (h0 : Q (view k s))
    (hQ : ∀ cb w, Q cb → (∀ old, cb.1 = some old → old ≤ w) → Q (some w, some w)) :
    Q (view k (folded s x)) :=
  view_folded k s x ▸ foldl_offer_rec _ _ h0 hQ

theorem folded_cache_mono (x : In) {v : Nat} (h : lookup k s.cache = some v) :
    ∃ v', lookup k (folded s x).cache = some v' ∧ v ≤ v' :=
  view_folded_rec (Q := fun cb => ∃ v', cb.1 = some v' ∧ v ≤ v') k s x ⟨v, h, Nat.le_refl v⟩
    fun _ w ⟨v', hv', hle⟩ hw => ⟨w, rfl, Nat.le_trans hle (hw v' hv')⟩

theorem folded_buf_keeps (x : In) (h : (lookup k s.buf).isSome) :
    (lookup k (folded s x).buf).isSome :=
  view_folded_rec (Q := fun cb => cb.2.isSome) k s x h fun _ _ _ _ => rfl

theorem folded_cached (x : In) (h : cached k s = true ∨ offeredIn k x ≠ []) :
    cached k (folded s x) = true := by
  rcases h with h | h
  · exact view_folded_rec (Q := fun cb => cb.1.isSome) k s x h fun _ _ _ _ => rfl
  · obtain ⟨w, ws, e⟩ := List.exists_cons_of_ne_nil h
    show (view k (folded s x)).1.isSome
    rw [view_folded, e, List.foldl_cons]
    refine foldl_offer_rec (Q := fun cb => cb.1.isSome) ws _ ?_ fun _ _ _ _ => rfl
    rcases offer_cases (view k s) w with ⟨_, hc, _, e⟩ | ⟨_, e⟩ <;> rw [e]
    · rw [hc]; rfl
    · rfl

/-- A candidate that the cache test would pass at the start of its batch leaves its key buffered after the
batch's candidates: it is accepted itself, unless a larger one of the same key was accepted before it. -/
theorem fold_buffers_accepted {b : List Cand} {cl : Nat} (hm : (k, cl) ∈ b)
    (hst : stale s (k, cl) = false) : (lookup k (b.foldl pushCand s).buf).isSome := by
  have hv : cl ∈ offeredIn k (.batch b) :=
    List.mem_map.2 ⟨(k, cl), List.mem_filter.2 ⟨hm, decide_eq_true rfl⟩, rfl⟩
  have hle : ∀ old, (view k s).1 = some old → old ≤ cl := stale_false_iff.1 hst
  show (view k (folded s (.batch b))).2.isSome
  rw [view_folded]
  generalize offeredIn k (.batch b) = vs at hv
  generalize view k s = cb at hle
  induction vs generalizing cb with
  | nil => cases hv
  | cons w ws ih =>
    rw [List.foldl_cons]
    rcases offer_cases cb w with ⟨old, ho, hlt, e⟩ | ⟨_, e⟩ <;> rw [e]
    · refine ih ((List.mem_cons.1 hv).resolve_left fun e => ?_) cb hle
      exact Nat.lt_irrefl _ (Nat.lt_of_lt_of_le (e ▸ hlt) (hle old ho))
    · exact foldl_offer_rec (Q := fun cb => cb.2.isSome) ws _ rfl fun _ _ _ _ => rfl

theorem cache_step (x : In) (hs : Coh s) (k : Nat) :
    lookup k (step p s x).1.cache = none ∨
      lookup k (step p s x).1.cache = lookup k (folded s x).cache := by
  obtain ⟨n, _, e, _⟩ := arm_eq p s x
  rw [step_cache, e]
  exact lookup_drop k n (coh_folded x hs).cacheNodup

theorem buf_step (x : In) (hs : Coh s) (k : Nat) :
    (lookup k (step p s x).1.buf = lookup k (folded s x).buf ∧ clsOf k (step p s x).2 = []) ∨
    (lookup k (step p s x).1.buf = none ∧
      clsOf k (step p s x).2 = (lookup k (folded s x).buf).toList) := by
  cases hp : (arm p s x).process with
  | false => rw [step_of_not_process hp, arm_buf]; exact Or.inl ⟨rfl, rfl⟩
  | true =>
    rw [step_of_process hp, clsOf_flush k (coh_arm x hs).bufNodup, arm_buf]
    exact Or.inr ⟨rfl, rfl⟩

theorem horizon_sorted_aux (p : Params) (k : Nat) : ∀ (xs : List In) (s : St), Coh s →
    (horizonCls p k s xs).Pairwise (· ≤ ·) ∧
    (∀ v, lookup k s.cache = some v → ∀ x ∈ horizonCls p k s xs, v ≤ x) := by
  intro xs
  induction xs with
  | nil => intro s _; simp [horizonCls]
  | cons x xs ih =>
    intro s hs
    obtain ⟨ihs, ihge⟩ := ih (step p s x).1 (coh_step x hs)
    have hagree := (coh_folded x hs).agree k
    -- this iteration emits at most the buffered value
    have hE : ∀ b ∈ clsOf k (step p s x).2, lookup k (folded s x).buf = some b := by
      rcases buf_step (p := p) x hs k with ⟨_, e⟩ | ⟨_, e⟩ <;> simp [e]
    -- which fits in front of any sorted `tl` that is bounded below by the value cached now
    have key : ∀ tl : List Nat, tl.Pairwise (· ≤ ·) →
        (∀ y ∈ tl, ∃ c, lookup k (folded s x).cache = some c ∧ c ≤ y) →
        (clsOf k (step p s x).2 ++ tl).Pairwise (· ≤ ·) ∧
        ∀ v, lookup k s.cache = some v → ∀ y ∈ clsOf k (step p s x).2 ++ tl, v ≤ y := by
      intro tl hS hT
      refine ⟨List.pairwise_append.2 ⟨List.pairwise_of_forall_mem_list fun a ha b hb => ?_, hS,
        fun a ha y hy => ?_⟩, fun v hv y hy => ?_⟩
      · exact Nat.le_of_eq (Option.some.inj ((hE a ha).symm.trans (hE b hb)))
      · obtain ⟨c, hc, hle⟩ := hT y hy
        exact hagree c a hc (hE a ha) ▸ hle
      · obtain ⟨v', hv', hle⟩ := folded_cache_mono x hv
        rcases List.mem_append.1 hy with hy | hy
        · exact hagree v' y hv' (hE y hy) ▸ hle
        · obtain ⟨c, hc, hcy⟩ := hT y hy
          rw [hv'] at hc; cases hc
          exact Nat.le_trans hle hcy
    simp only [horizonCls]
    cases hc : cached k (step p s x).1 with
    | false => exact key [] List.Pairwise.nil fun _ h => nomatch h
    | true =>
      obtain ⟨c, hc⟩ := Option.isSome_iff_exists.1 hc
      refine key _ ihs fun y hy => ⟨c, ?_, ihge c hc y hy⟩
      rcases cache_step (p := p) x hs k with e | e <;> rw [e] at hc
      · cases hc
      · exact hc

/-- for every cached `(k, c)`: `(k, c)` is buffered, or the event for `(k, c)` is among `evs` -/
def Backed (s : St) (evs : List Event) : Prop :=
  ∀ k c, lookup k s.cache = some c → lookup k s.buf = some c ∨ toEvent (k, c) ∈ evs

theorem backed_folded {evs : List Event} (x : In) (h : Backed s evs) :
    Backed (folded s x) evs := fun k =>
  view_folded_rec (Q := fun cb => ∀ c, cb.1 = some c → cb.2 = some c ∨ toEvent (k, c) ∈ evs) k s x (h k)
    fun _ _ _ _ _ hc => Or.inl hc

theorem backed_step {evs : List Event} (x : In) (hs : Coh s) (h : Backed s evs) :
    Backed (step p s x).1 (evs ++ (step p s x).2) := by
  intro k c hc
  have hf : lookup k (arm p s x).buf = some c ∨ toEvent (k, c) ∈ evs := by
    rw [arm_buf]
    refine backed_folded x h k c ?_
    rcases cache_step (p := p) x hs k with e | e <;> rw [e] at hc
    · cases hc
    · exact hc
  cases hp : (arm p s x).process with
  | false => rw [step_of_not_process hp, List.append_nil]; exact hf
  | true =>
    rw [step_of_process hp]
    exact Or.inr (List.mem_append.2 (hf.symm.imp_right fun hb => List.mem_map_of_mem (lookup_some_mem hb)))

theorem backed_run : ∀ (xs : List In) (s : St) (evs : List Event), Coh s → Backed s evs →
    Backed (stateAfter p s xs) (evs ++ events p s xs) := by
  intro xs
  induction xs with
  | nil => intro s evs _ h; simpa [stateAfter, events, run] using h
  | cons x xs ih =>
    intro s evs hs h
    rw [stateAfter_cons, events_cons, ← List.append_assoc]
    exact ih _ _ (coh_step x hs) (backed_step x hs h)

theorem mem_events_of_buffered (h : (lookup k s.buf).isSome) :
    ∃ e ∈ s.buf.map toEvent, e.key = k := by
  obtain ⟨v, hv⟩ := Option.isSome_iff_exists.1 h
  exact ⟨toEvent (k, v), List.mem_map_of_mem (lookup_some_mem hv), rfl⟩

theorem emitted_of_arm {x : In} {ys : List In}
    (ih : (lookup k (arm p s x).buf).isSome → ∃ e ∈ events p (arm p s x) ys, e.key = k)
    (h : (lookup k (arm p s x).buf).isSome) : ∃ e ∈ events p s (x :: ys), e.key = k := by
  rw [events_cons]
  cases hp : (arm p s x).process with
  | true =>
    obtain ⟨e, he, hk⟩ := mem_events_of_buffered h
    rw [step_of_process hp]
    exact ⟨e, List.mem_append_left _ he, hk⟩
  | false =>
    rw [step_of_not_process hp]
    obtain ⟨e, he, hk⟩ := ih h
    exact ⟨e, List.mem_append_right _ he, hk⟩

theorem buffered_is_emitted (p : Params) (k : Nat) : ∀ (xs : List In) (s : St), Coh s →
    (lookup k s.buf).isSome → ∃ e ∈ events p s (xs ++ [.tick]), e.key = k := by
  intro xs
  induction xs with
  | nil =>
    intro s hs h
    have hne : s.bufCount ≠ 0 := fun h0 => by rw [hs.count h0] at h; cases h
    obtain ⟨e, he, hk⟩ := mem_events_of_buffered h
    exact ⟨e, by simp [events, run, step, arm, finish, hne, he], hk⟩
  | cons x xs ih =>
    intro s hs h
    refine emitted_of_arm (ih _ (coh_arm x hs)) ?_
    rw [arm_buf]
    exact folded_buf_keeps x h

theorem kind_of_mem_events : ∀ (xs : List In) (s : St) {e : Event},
    e ∈ events p s xs → e.kind = kindOf e.cl := by
  intro xs
  induction xs with
  | nil => intro s e h; cases h
  | cons x xs ih =>
    intro s e h
    rw [events_cons, List.mem_append] at h
    rcases h with h | h
    · unfold step finish at h
      split at h
      · obtain ⟨c, _, rfl⟩ := List.mem_map.1 h; rfl
      · cases h
    · exact ih _ h

theorem maxCl_append (a b : List Nat) : maxCl (a ++ b) = max (maxCl a) (maxCl b) := by
  induction a with
  | nil => simp [maxCl]
  | cons x xs ih => simp only [List.cons_append, maxCl, ih, Nat.max_assoc]

theorem le_maxCl_of_mem {a : List Nat} {x : Nat} (h : x ∈ a) : x ≤ maxCl a := by
  obtain ⟨l, r, rfl⟩ := List.append_of_mem h
  rw [maxCl_append, maxCl]
  omega

/-- `seen`: the causal lengths offered for the key so far, `cb`: its cached and buffered value, `cls`: the
causal lengths of its events so far.  Nothing seen: neither cached nor buffered.  Otherwise the cache
holds the maximum of what was offered; the events are sorted and bounded by that maximum, and when
nothing is buffered the last of them carries it. -/
structure Track (seen : List Nat) (cb : Option Nat × Option Nat) (cls : List Nat) : Prop where
  fresh : seen = [] → cb = (none, none)
  cache : seen ≠ [] → cb.1 = some (maxCl seen)
  sorted : cls.Pairwise (· ≤ ·)
  bound : ∀ x ∈ cls, x ≤ maxCl seen
  last : seen ≠ [] → cb.2 = none → cls.getLast? = some (maxCl seen)

variable {seen : List Nat} {cb : Option Nat × Option Nat} {cls : List Nat}

theorem track_init : Track [] (none, none) [] :=
  ⟨fun _ => rfl, fun h => absurd rfl h, List.Pairwise.nil, fun _ h => (nomatch h), fun h => absurd rfl h⟩

theorem track_offer (h : Track seen cb cls) (v : Nat) : Track (seen ++ [v]) (offer cb v) cls := by
  have hmax : maxCl (seen ++ [v]) = max (maxCl seen) v := by
    rw [maxCl_append]; exact congrArg _ (Nat.max_zero v)
  have hne : seen ++ [v] ≠ [] := List.append_ne_nil_of_right_ne_nil _ (List.cons_ne_nil v [])
  rcases offer_cases cb v with ⟨old, ho, hlt, e⟩ | ⟨hle, e⟩ <;> rw [e]
  · -- skipped: something larger was seen before
    have hs : seen ≠ [] := fun hs => by rw [h.fresh hs] at ho; cases ho
    have hm : maxCl (seen ++ [v]) = maxCl seen :=
      hmax.trans (Nat.max_eq_left (Nat.le_of_lt (Option.some.inj ((h.cache hs).symm.trans ho) ▸ hlt)))
    exact ⟨fun e => absurd e hne, fun _ => hm ▸ h.cache hs, h.sorted, fun x hx => hm ▸ h.bound x hx,
      fun _ hb => hm ▸ h.last hs hb⟩
  · -- accepted: `v` is the new maximum
    have hm : maxCl seen ≤ v := by
      by_cases hs : seen = []
      · rw [hs]; exact Nat.zero_le v
      · exact hle _ (h.cache hs)
    have hm' : maxCl (seen ++ [v]) = v := hmax.trans (Nat.max_eq_right hm)
    exact ⟨fun e => absurd e hne, fun _ => congrArg some hm'.symm, h.sorted,
      fun x hx => by rw [hm']; exact Nat.le_trans (h.bound x hx) hm, fun _ hb => nomatch hb⟩

theorem track_offers (h : Track seen cb cls) (vs : List Nat) :
    Track (seen ++ vs) (vs.foldl offer cb) cls := by
  induction vs generalizing seen cb with
  | nil => rwa [List.append_nil]
  | cons v vs ih => rw [List.append_cons]; exact ih (track_offer h v)

theorem track_evict {c' : Option Nat} (h : Track seen cb cls) (hc : c' = none ∨ c' = cb.1)
    (hk : seen ≠ [] → c'.isSome) : Track seen (c', cb.2) cls := by
  refine ⟨fun hs => ?_, fun hs => ?_, h.sorted, h.bound, h.last⟩
  · have := h.fresh hs
    rcases hc with e | e <;> rw [e, this]
  · rcases hc with e | e
    · have := hk hs; rw [e] at this; cases this
    · rw [e]; exact h.cache hs

theorem track_flush (h : Track seen cb cls) (hag : ∀ c b, cb.1 = some c → cb.2 = some b → b = c) :
    Track seen (cb.1, none) (cls ++ cb.2.toList) := by
  cases hb : cb.2 with
  | none =>
    rw [Option.toList_none, List.append_nil]
    exact ⟨fun hs => by rw [h.fresh hs], h.cache, h.sorted, h.bound, fun hs _ => h.last hs hb⟩
  | some b =>
    have hs : seen ≠ [] := fun hs => by rw [h.fresh hs] at hb; cases hb
    cases hag _ b (h.cache hs) hb
    refine ⟨fun e => absurd e hs, h.cache, ?_, ?_, fun _ _ => List.getLast?_concat⟩
    · exact List.pairwise_append.2 ⟨h.sorted, List.pairwise_singleton _ _,
        fun a ha y hy => by cases List.mem_singleton.1 hy; exact h.bound a ha⟩
    · intro x hx
      rcases List.mem_append.1 hx with hx | hx
      · exact h.bound x hx
      · cases List.mem_singleton.1 hx; exact Nat.le_refl _

/-- one iteration's conjunct of `keptThroughout` (`kept_cons`) -/
def keptStep (p : Params) (k : Nat) (s : St) (x : In) : Prop :=
  (cached k s = true ∨ offeredIn k x ≠ []) → cached k (step p s x).1 = true

theorem track_step {evs : List Event} (x : In) (hs : Coh s) (h : Track seen (view k s) (clsOf k evs))
    (hk : keptStep p k s x) :
    Track (seen ++ offeredIn k x) (view k (step p s x).1) (clsOf k (evs ++ (step p s x).2)) := by
  have hf : Track (seen ++ offeredIn k x) (view k (folded s x)) (clsOf k evs) := by
    rw [view_folded]; exact track_offers h _
  have he : Track (seen ++ offeredIn k x) (lookup k (step p s x).1.cache, lookup k (folded s x).buf)
      (clsOf k evs) := by
    refine track_evict hf (cache_step x hs k) fun hne => hk ?_
    by_cases hseen : seen = []
    · exact Or.inr fun e => hne (by rw [hseen, e]; rfl)
    · exact Or.inl (by show (view k s).1.isSome = true; rw [h.cache hseen]; rfl)
  rw [clsOf_append]
  rcases buf_step (p := p) x hs k with ⟨eb, ec⟩ | ⟨eb, ec⟩ <;> rw [view, eb, ec]
  · rwa [List.append_nil]
  · exact track_flush he fun c b hc hb =>
      (coh_arm x hs).agree k c b (step_cache p s x ▸ hc) ((arm_buf p s x).symm ▸ hb)

theorem kept_cons {x : In} {xs : List In} (h : keptThroughout p k s (x :: xs) = true) :
    keptStep p k s x ∧ keptThroughout p k (step p s x).1 xs = true := by
  simp only [keptThroughout, Bool.and_eq_true] at h
  refine ⟨fun hc => ?_, h.2⟩
  have h1 := h.1
  rw [if_pos] at h1
  · exact h1
  · rcases hc with hc | hc
    · simp [hc]
    · simp [hc]

theorem track_run : ∀ (xs : List In) (seen : List Nat) (s : St) (evs : List Event),
    Coh s → Track seen (view k s) (clsOf k evs) → keptThroughout p k s xs = true →
    Track (seen ++ offered k xs) (view k (stateAfter p s xs)) (clsOf k (evs ++ events p s xs)) := by
  intro xs
  induction xs with
  | nil => intro seen s evs _ h _; simpa [offered, stateAfter, events, run] using h
  | cons x xs ih =>
    intro seen s evs hs h hk
    obtain ⟨hk1, hk2⟩ := kept_cons hk
    have := ih _ _ _ (coh_step x hs) (track_step x hs h hk1) hk2
    rw [stateAfter_cons, events_cons]
    simp only [offered, List.flatMap_cons] at this ⊢
    rwa [← List.append_assoc, ← List.append_assoc]

theorem keptStep_tick (p : Params) (k : Nat) (s : St) : keptStep p k s .tick := by
  have : (step p s .tick).1.cache = s.cache := by
    rw [step_cache]; simp only [arm]; split <;> rfl
  intro h
  rcases h with h | h
  · rw [cached, this]; exact h
  · exact absurd rfl h

theorem tick_flushes (hs : Coh s) (k : Nat) :
    lookup k (step p s .tick).1.buf = none := by
  cases hp : (arm p s .tick).process with
  | true => rw [step_of_process hp]; rfl
  | false =>
    have h0 : s.bufCount = 0 := Decidable.byContradiction fun h0 => by simp [arm, h0] at hp
    rw [step_of_not_process hp, arm_buf]
    show lookup k s.buf = none
    rw [hs.count h0]; rfl

end Corro.Updates
