/-
Lemmas about the interval-set model (`Corro.RSet`): canonical form is preserved and every
operation has the expected point-set meaning.
-/
import Corro.Model.Ranges

namespace Corro.RSet

/-- point membership; also read for a plain list of ranges, canonical or not (`mem_insertAll`,
`mem_removeAll`, `mem_ofList`) -/
def Mem (s : RSet) (x : Nat) : Prop := ∃ p ∈ s, p.1 ≤ x ∧ x ≤ p.2

/-- canonical form relative to a lower bound: every interval is forward, starts at `lb` or later,
and is separated from the next by at least one missing point. -/
def WFfrom : Nat → RSet → Prop
  | _, [] => True
  | lb, (a, b) :: t => lb ≤ a ∧ a ≤ b ∧ WFfrom (b + 2) t

/-- canonical form: sorted, forward, non-overlapping, non-adjacent. -/
def WF (s : RSet) : Prop := WFfrom 0 s

theorem wfFrom_mono {lb lb' : Nat} {s : RSet} (h : WFfrom lb s) (hle : lb' ≤ lb) : WFfrom lb' s := by
  cases s with
  | nil => trivial
  | cons p t => exact ⟨Nat.le_trans hle h.1, h.2⟩

theorem mem_nil (x : Nat) : ¬ Mem [] x := nofun

theorem mem_cons {p : Nat × Nat} {t : RSet} {x : Nat} :
    Mem (p :: t) x ↔ (p.1 ≤ x ∧ x ≤ p.2) ∨ Mem t x := by
  simp only [Mem, List.mem_cons, exists_eq_or_imp]

@[simp] theorem mem_singleton {p : Nat × Nat} {x : Nat} : Mem [p] x ↔ (p.1 ≤ x ∧ x ≤ p.2) := by
  simp only [mem_cons, mem_nil, or_false]

theorem mem_append {s t : RSet} {x : Nat} : Mem (s ++ t) x ↔ Mem s x ∨ Mem t x := by
  simp only [Mem, List.mem_append, or_and_right, exists_or]

theorem wfFrom_forall {lb : Nat} {s : RSet} (h : WFfrom lb s) : ∀ p ∈ s, lb ≤ p.1 ∧ p.1 ≤ p.2 := by
  induction s generalizing lb with
  | nil => nofun
  | cons q t ih =>
    obtain ⟨a, b⟩ := q
    obtain ⟨ha, hab, ht⟩ := h
    intro p hp
    rcases List.mem_cons.mp hp with rfl | hp
    · exact ⟨ha, hab⟩
    · exact ⟨by have := (ih ht p hp).1; omega, (ih ht p hp).2⟩

theorem wf_forward {lb : Nat} {s : RSet} (h : WFfrom lb s) : ∀ p ∈ s, p.1 ≤ p.2 :=
  fun p hp => (wfFrom_forall h p hp).2

theorem wf_pairwise {lb : Nat} {s : RSet} (h : WFfrom lb s) {p q : Nat × Nat} (hp : p ∈ s) (hq : q ∈ s)
    (hne : p ≠ q) : p.2 + 1 < q.1 ∨ q.2 + 1 < p.1 := by
  induction s generalizing lb with
  | nil => cases hp
  | cons r t ih =>
    obtain ⟨a, b⟩ := r
    have hall := wfFrom_forall h.2.2
    rcases List.mem_cons.mp hp with rfl | hp <;> rcases List.mem_cons.mp hq with rfl | hq
    · exact absurd rfl hne
    · exact .inl (hall q hq).1
    · exact .inr (hall p hp).1
    · exact ih h.2.2 hp hq

theorem wf_nodup {lb : Nat} {s : RSet} (h : WFfrom lb s) : s.Nodup := by
  induction s generalizing lb with
  | nil => exact List.nodup_nil
  | cons p t ih =>
    obtain ⟨a, b⟩ := p
    refine List.nodup_cons.mpr ⟨fun hm => ?_, ih h.2.2⟩
    have := wfFrom_forall h.2.2 _ hm
    exact Nat.not_succ_le_self b (Nat.le_of_succ_le (Nat.le_trans this.1 this.2))

theorem wf_singleton {lo hi : Nat} (h : lo ≤ hi) : WF [(lo, hi)] := ⟨Nat.zero_le _, h, trivial⟩

theorem wf_nil : WF [] := trivial

theorem wfFrom_mem_ge {lb : Nat} {s : RSet} (h : WFfrom lb s) {x : Nat} (hx : Mem s x) : lb ≤ x :=
  have ⟨p, hp, hx⟩ := hx
  Nat.le_trans (wfFrom_forall h p hp).1 hx.1

theorem contains_iff (s : RSet) (x : Nat) : contains s x = true ↔ Mem s x := by
  simp only [contains, Mem, List.any_eq_true, Bool.and_eq_true, decide_eq_true_eq]

theorem hull_iff {a b lo hi x : Nat} (h1 : ¬ hi + 1 < a) (h2 : ¬ b + 1 < lo) :
    min a lo ≤ x ∧ x ≤ max b hi ↔ (a ≤ x ∧ x ≤ b) ∨ (lo ≤ x ∧ x ≤ hi) := by
  rw [Std.min_le, Std.le_max]; omega

theorem mem_insert (s : RSet) (lo hi x : Nat) (h : lo ≤ hi) :
    Mem (insert s (lo, hi)) x ↔ Mem s x ∨ (lo ≤ x ∧ x ≤ hi) := by
  induction s generalizing lo hi with
  | nil => simp only [insert, mem_singleton, mem_nil, false_or]
  | cons p t ih =>
    obtain ⟨a, b⟩ := p
    unfold insert
    split
    · exact mem_cons.trans or_comm
    · split
      · rw [mem_cons, mem_cons, ih lo hi h, or_assoc]
      · rw [ih _ _ (Nat.le_trans (Nat.min_le_right ..) (Nat.le_trans h (Nat.le_max_right ..))),
          mem_cons, hull_iff ‹_› ‹_›]
        exact or_left_comm.trans or_assoc.symm

theorem insert_wfFrom (s : RSet) (lo hi lb : Nat) (h : lo ≤ hi) (hw : WFfrom lb s) (hlb : lb ≤ lo) :
    WFfrom lb (insert s (lo, hi)) := by
  induction s generalizing lo hi lb with
  | nil => exact ⟨hlb, h, trivial⟩
  | cons p t ih =>
    obtain ⟨a, b⟩ := p
    obtain ⟨ha, hab, ht⟩ := hw
    rw [insert]
    refine iteInduction (fun h1 => ⟨hlb, h, h1, hab, ht⟩) fun _ => ?_
    refine iteInduction (fun h2 => ⟨ha, hab, ih lo hi (b + 2) h ht h2⟩) fun _ => ?_
    exact ih _ _ lb (Nat.le_trans (Nat.min_le_left ..) (Nat.le_trans hab (Nat.le_max_left ..)))
      (wfFrom_mono ht (by omega)) (Nat.le_min.mpr ⟨ha, hlb⟩)

theorem insert_wf (s : RSet) (lo hi : Nat) (h : lo ≤ hi) (hw : WF s) : WF (insert s (lo, hi)) :=
  insert_wfFrom s lo hi 0 h hw (Nat.zero_le _)

theorem mem_ite_nil {c : Prop} [Decidable c] {s : RSet} {x : Nat} :
    Mem (if c then s else []) x ↔ c ∧ Mem s x := by
  split <;> simp only [*, mem_nil, true_and, false_and]

theorem wfFrom_ite_nil {c : Prop} [Decidable c] {s : RSet} {lb : Nat} (h : c → WFfrom lb s) :
    WFfrom lb (if c then s else []) :=
  iteInduction h fun _ => trivial

theorem mem_remove (s : RSet) (lo hi x lb : Nat) (hw : WFfrom lb s) :
    Mem (remove s (lo, hi)) x ↔ Mem s x ∧ ¬ (lo ≤ x ∧ x ≤ hi) := by
  induction s generalizing lb with
  | nil => exact iff_of_false (mem_nil x) (fun h => mem_nil x h.1)
  | cons p t ih =>
    obtain ⟨a, b⟩ := p
    obtain ⟨-, hab, hwt⟩ := hw
    -- `x` lies in the head `(a, b)` or in the tail, where it is past `b + 1`; with that, each
    -- branch of `remove` is arithmetic on `lo hi a b x`
    have ht : Mem t x → b + 2 ≤ x := wfFrom_mem_ge hwt
    specialize ih (b + 2) hwt
    rw [remove, mem_cons]
    by_cases h1 : b < lo
    · rw [if_pos h1, mem_cons, ih]; grind
    · rw [if_neg h1]
      by_cases h2 : hi < a
      · rw [if_pos h2, mem_cons]; grind
      · rw [if_neg h2, mem_append, mem_ite_nil, mem_singleton]
        by_cases h3 : hi < b
        · rw [if_pos h3, mem_cons]; grind
        · rw [if_neg h3, ih]; grind

theorem remove_wfFrom (s : RSet) (lo hi lb : Nat) (hlh : lo ≤ hi) (hw : WFfrom lb s) :
    WFfrom lb (remove s (lo, hi)) := by
  induction s generalizing lb with
  | nil => trivial
  | cons p t ih =>
    obtain ⟨a, b⟩ := p
    obtain ⟨ha, hab, ht⟩ := hw
    rw [remove]
    refine iteInduction (fun _ => ⟨ha, hab, ih (b + 2) ht⟩) fun h1 => ?_
    refine iteInduction (fun _ => ⟨ha, hab, ht⟩) fun h2 => ?_
    -- what is left of `(a, b)` on the right of the hole, then the tail
    have hr : ∀ k, k ≤ hi + 1 → k ≤ b + 2 →
        WFfrom k (if hi < b then (hi + 1, b) :: t else remove t (lo, hi)) := fun k h3 h4 =>
      iteInduction (fun h5 => ⟨h3, h5, ht⟩) fun _ => wfFrom_mono (ih (b + 2) ht) h4
    -- `lo ≤ hi` separates the left piece `(a, lo - 1)` from the right one, which starts at `hi + 1`
    exact iteInduction (motive := fun z => WFfrom lb (z ++ _))
      (fun h3 => ⟨ha, by omega, hr _ (by omega) (by omega)⟩) fun h3 => hr lb (by omega) (by omega)

theorem remove_wf (s : RSet) (lo hi : Nat) (hlh : lo ≤ hi) (hw : WF s) : WF (remove s (lo, hi)) :=
  remove_wfFrom s lo hi 0 hlh hw

theorem mem_gaps (s : RSet) (lo hi x lb : Nat) (hw : WFfrom lb s) :
    Mem (gaps s (lo, hi)) x ↔ (lo ≤ x ∧ x ≤ hi) ∧ ¬ Mem s x := by
  induction s generalizing lb lo with
  | nil =>
    rw [gaps, mem_ite_nil, mem_singleton]
    exact ⟨fun h => ⟨h.2, mem_nil x⟩, fun h => ⟨Nat.le_trans h.1.1 h.1.2, h.1⟩⟩
  | cons p t ih =>
    obtain ⟨a, b⟩ := p
    obtain ⟨-, hab, hwt⟩ := hw
    -- as in `mem_remove`: a point of the tail is past `b + 1`, the rest is arithmetic
    have ht : Mem t x → b + 2 ≤ x := wfFrom_mem_ge hwt
    have hnil := mem_nil x
    rw [gaps, mem_cons]
    by_cases h1 : hi < lo
    · rw [if_pos h1]; exact iff_of_false hnil fun h => by omega
    · rw [if_neg h1]
      by_cases h2 : b < lo
      · rw [if_pos h2, ih lo (b + 2) hwt]; grind
      · rw [if_neg h2]
        by_cases h3 : hi < a
        · rw [if_pos h3, mem_singleton]; grind
        · rw [if_neg h3, mem_append, mem_ite_nil, mem_ite_nil, mem_singleton, ih (b + 1) (b + 2) hwt]
          grind

theorem gaps_wfFrom (s : RSet) (lo hi lb : Nat) (hw : WFfrom lb s) :
    WFfrom lo (gaps s (lo, hi)) := by
  induction s generalizing lb lo with
  | nil => exact wfFrom_ite_nil fun h => ⟨Nat.le_refl _, h, trivial⟩
  | cons p t ih =>
    obtain ⟨a, b⟩ := p
    obtain ⟨-, hab, ht⟩ := hw
    rw [gaps]
    refine iteInduction (fun _ => trivial) fun h1 => ?_
    refine iteInduction (fun _ => ih lo (b + 2) ht) fun h2 => ?_
    refine iteInduction (fun _ => ⟨Nat.le_refl _, Nat.le_of_not_lt h1, trivial⟩) fun h3 => ?_
    have hr : WFfrom (b + 1) (if b < hi then gaps t (b + 1, hi) else []) :=
      wfFrom_ite_nil fun _ => ih (b + 1) (b + 2) ht
    exact iteInduction (motive := fun z => WFfrom lo (z ++ _))
      (fun h4 => ⟨Nat.le_refl _, by omega, wfFrom_mono hr (by omega)⟩) fun h4 => wfFrom_mono hr (by omega)

theorem gaps_inside (s : RSet) (lo hi lb : Nat) (hw : WFfrom lb s) :
    ∀ p ∈ gaps s (lo, hi), lo ≤ p.1 ∧ p.1 ≤ p.2 ∧ p.2 ≤ hi := by
  intro p hp
  have h := wfFrom_forall (gaps_wfFrom s lo hi lb hw) p hp
  exact ⟨h.1, h.2, ((mem_gaps s lo hi p.2 lb hw).mp ⟨p, hp, h.2, Nat.le_refl _⟩).1.2⟩

theorem gaps_isEmpty_iff {lb : Nat} {s : RSet} (hw : WFfrom lb s) (lo hi : Nat) :
    (gaps s (lo, hi)).isEmpty = true ↔ ∀ x, lo ≤ x → x ≤ hi → Mem s x := by
  rw [List.isEmpty_iff]
  refine ⟨fun hnil x h1 h2 => Classical.byContradiction fun hm =>
    mem_nil x (hnil ▸ (mem_gaps s lo hi x lb hw).mpr ⟨⟨h1, h2⟩, hm⟩), fun hall => ?_⟩
  cases hg : gaps s (lo, hi) with
  | nil => rfl
  | cons r t =>
    -- the start of the first gap would be a covered point that is not in the set
    have hin := gaps_inside s lo hi lb hw r (hg ▸ List.mem_cons_self)
    have := (mem_gaps s lo hi r.1 lb hw).mp (hg ▸ ⟨r, List.mem_cons_self, Nat.le_refl _, hin.2.1⟩)
    exact absurd (hall r.1 this.1.1 this.1.2) this.2

theorem mem_head {lb a b : Nat} {s : RSet} (h : WFfrom lb ((a, b) :: s)) : Mem ((a, b) :: s) a :=
  mem_cons.mpr (.inl ⟨Nat.le_refl a, h.2.1⟩)

/-- the first interval of a canonical list is determined by the point set: it starts at the least
point and ends just before the first missing one.  One inclusion gives one half of each. -/
theorem wf_head_le {lb lb' a b c d : Nat} {s t : RSet} (hs : WFfrom lb ((a, b) :: s))
    (ht : WFfrom lb' ((c, d) :: t)) (h : ∀ x, Mem ((a, b) :: s) x → Mem ((c, d) :: t) x) :
    c ≤ a ∧ (a = c → b ≤ d) := by
  have ht' : WFfrom c ((c, d) :: t) := ⟨Nat.le_refl c, ht.2⟩
  refine ⟨wfFrom_mem_ge ht' (h a (mem_head hs)), fun hac => Nat.le_of_not_lt fun hdb => ?_⟩
  rcases mem_cons.mp (h (d + 1) (mem_cons.mpr (.inl ⟨by have := ht.2.1; omega, hdb⟩))) with h1 | h1
  · exact Nat.not_succ_le_self d h1.2
  · exact Nat.not_succ_le_self _ (wfFrom_mem_ge ht.2.2 h1)

theorem wf_tail_sub {lb a b : Nat} {s t : RSet} (hs : WFfrom lb ((a, b) :: s))
    (h : ∀ x, Mem ((a, b) :: s) x → Mem ((a, b) :: t) x) (x : Nat) (hx : Mem s x) : Mem t x :=
  (mem_cons.mp (h x (mem_cons.mpr (.inr hx)))).resolve_left fun h1 =>
    Nat.not_succ_le_self b (Nat.le_trans (Nat.le_of_succ_le (wfFrom_mem_ge hs.2.2 hx)) h1.2)

theorem wf_ext : ∀ (s t : RSet) (lb : Nat), WFfrom lb s → WFfrom lb t →
    (∀ x, Mem s x ↔ Mem t x) → s = t := by
  intro s
  induction s with
  | nil =>
    intro t lb _ ht h
    match t with
    | [] => rfl
    | (c, d) :: t' => exact absurd ((h c).mpr (mem_head ht)) (mem_nil c)
  | cons p s' ih =>
    intro t lb hs ht h
    obtain ⟨a, b⟩ := p
    match t with
    | [] => exact absurd ((h a).mp (mem_head hs)) (mem_nil a)
    | (c, d) :: t' =>
      have h1 := wf_head_le hs ht fun x => (h x).mp
      have h2 := wf_head_le ht hs fun x => (h x).mpr
      obtain rfl : a = c := Nat.le_antisymm h2.1 h1.1
      obtain rfl : b = d := Nat.le_antisymm (h1.2 rfl) (h2.2 rfl)
      rw [ih t' (b + 2) hs.2.2 ht.2.2 fun x =>
        ⟨wf_tail_sub hs (fun x => (h x).mp) x, wf_tail_sub ht (fun x => (h x).mpr) x⟩]

theorem wf_unique (s t : RSet) (hs : WF s) (ht : WF t) (h : ∀ x, Mem s x ↔ Mem t x) : s = t :=
  wf_ext s t 0 hs ht h

theorem mem_overlapping (s : RSet) (r p : Nat × Nat) :
    p ∈ overlapping s r ↔ p ∈ s ∧ p.1 ≤ r.2 ∧ r.1 ≤ p.2 := by
  simp only [overlapping, List.mem_filter, Bool.and_eq_true, decide_eq_true_eq]

theorem insertAll_wf (s : RSet) (rs : List (Nat × Nat)) (hs : WF s) (hr : ∀ r ∈ rs, r.1 ≤ r.2) :
    WF (insertAll s rs) := by
  induction rs generalizing s with
  | nil => exact hs
  | cons r rs ih =>
    have hr' := List.forall_mem_cons.mp hr
    exact ih _ (insert_wf s r.1 r.2 hr'.1 hs) hr'.2

theorem mem_insertAll (s : RSet) (rs : List (Nat × Nat)) (hr : ∀ r ∈ rs, r.1 ≤ r.2) (x : Nat) :
    Mem (insertAll s rs) x ↔ Mem s x ∨ ∃ r ∈ rs, r.1 ≤ x ∧ x ≤ r.2 := by
  induction rs generalizing s with
  | nil => exact (or_iff_left (mem_nil x)).symm
  | cons r rs ih =>
    have hr' := List.forall_mem_cons.mp hr
    -- `∃ r ∈ rs, …` is `Mem` of the list of ranges
    show _ ↔ _ ∨ Mem (r :: rs) x
    rw [mem_cons, ← or_assoc, ← mem_insert s r.1 r.2 x hr'.1]
    exact ih _ hr'.2

theorem removeAll_wf (s : RSet) (rs : List (Nat × Nat)) (hs : WF s) (hr : ∀ r ∈ rs, r.1 ≤ r.2) :
    WF (removeAll s rs) := by
  induction rs generalizing s with
  | nil => exact hs
  | cons r rs ih =>
    have hr' := List.forall_mem_cons.mp hr
    exact ih _ (remove_wf s r.1 r.2 hr'.1 hs) hr'.2

theorem mem_removeAll (s : RSet) (rs : List (Nat × Nat)) (hs : WF s) (hr : ∀ r ∈ rs, r.1 ≤ r.2)
    (x : Nat) :
    Mem (removeAll s rs) x ↔ Mem s x ∧ ¬ ∃ r ∈ rs, r.1 ≤ x ∧ x ≤ r.2 := by
  induction rs generalizing s with
  | nil => exact (and_iff_left (mem_nil x)).symm
  | cons r rs ih =>
    have hr' := List.forall_mem_cons.mp hr
    show _ ↔ _ ∧ ¬ Mem (r :: rs) x
    rw [mem_cons, not_or, ← and_assoc, ← mem_remove s r.1 r.2 x 0 hs]
    exact ih _ (remove_wf s r.1 r.2 hr'.1 hs) hr'.2

theorem ofList_wf {rs : List (Nat × Nat)} (h : ∀ r ∈ rs, r.1 ≤ r.2) : WF (ofList rs) :=
  insertAll_wf [] rs wf_nil h

theorem mem_ofList {rs : List (Nat × Nat)} (h : ∀ r ∈ rs, r.1 ≤ r.2) (x : Nat) :
    Mem (ofList rs) x ↔ Mem rs x :=
  (mem_insertAll [] rs h x).trans (or_iff_right (mem_nil x))

end Corro.RSet
