/-
The resource-ordering argument: every task's remaining program stays `ordered` relative to what the
task holds (`OrdInv`), so in a stuck state the holder of a lock somebody waits for itself waits for a
strictly higher rank, and ranks are bounded (`no_waiter_when_stuck`).  `cross_wait_stuck` is the shape
of the counterexamples: two tasks, each holding what the other wants.
-/
import Corro.Model.LockOrder

namespace Corro.LockOrder

theorem rankOf_le_max (rk : Ranking) (k : Kind) : rankOf rk k ≤ maxRank rk := by
  induction rk with
  | nil => simp [rankOf, maxRank]
  | cons e rest ih =>
    obtain ⟨k', n⟩ := e
    simp only [rankOf, maxRank]
    split
    · exact Nat.le_max_left _ _
    · exact Nat.le_trans ih (Nat.le_max_right _ _)

theorem eraseKind_kinds (k : Kind) (l : List Held) :
    (eraseKind k l).map (·.kind) = (l.map (·.kind)).erase k := by
  induction l with
  | nil => rfl
  | cons h t ih =>
    unfold eraseKind
    by_cases e : h.kind = k
    · simp [e]
    · simp only [e, if_false, List.map_cons]
      rw [List.erase_cons_tail (by simpa using e), ih]

theorem ordered_congr (rk : Ranking) : ∀ (p q : Prog) (held : List Kind), p.map Op.shape = q.map Op.shape →
    ordered rk held p = ordered rk held q := by
  intro p
  induction p with
  | nil =>
    intro q held h
    cases q with
    | nil => rfl
    | cons _ _ => cases h
  | cons a p ih =>
    intro q held h
    cases q with
    | nil => cases h
    | cons b q =>
      obtain ⟨hab, hpq⟩ := List.cons.inj h
      -- equal shapes: both acquire, or both release, the same kind
      cases a <;> cases b <;> cases hab
      all_goals simp only [ordered, ih q _ hpq]

def OrdInv (rk : Ranking) (s : State) : Prop :=
  ∀ i, ordered rk ((s i).held.map (·.kind)) (s i).rest = true

theorem ordInv_init {rk : Ranking} (progs : Nat → Prog) (h : ∀ i, ordered rk [] (progs i) = true) :
    OrdInv rk (initState progs) := by
  intro i; simpa [initState] using h i

theorem ordInv_step {rk : Ranking} {pol : Policy} {s s' : State} (h : OrdInv rk s) (st : Step pol s s') :
    OrdInv rk s' := by
  cases st with
  | acq i k a m rest hrest _ =>
    intro j
    by_cases e : j = i
    · subst e
      have := h j
      rw [hrest] at this
      simp only [ordered, Bool.and_eq_true] at this
      simpa [update] using this.2
    · simpa [update, e] using h j
  | rel i k rest hrest =>
    intro j
    by_cases e : j = i
    · subst e
      have := h j
      rw [hrest] at this
      simp only [ordered, Bool.and_eq_true] at this
      simp only [update, if_true]
      rw [eraseKind_kinds]
      exact this.2
    · simpa [update, e] using h j

theorem ordInv_reachable {rk : Ranking} {pol : Policy} {s0 s : State} (h0 : OrdInv rk s0)
    (hr : Reachable pol s0 s) : OrdInv rk s := by
  induction hr with
  | refl => exact h0
  | step _ st ih => exact ordInv_step ih st

/-- **The resource-ordering argument.**  In a state from which no step is possible, no task can be
waiting for a lock: its holder would have to be waiting for a strictly higher-ranked one, and ranks
are bounded.  `n` counts how far the rank is from the top. -/
theorem no_waiter_when_stuck {rk : Ranking} {pol : Policy} {s : State} (hinv : OrdInv rk s)
    (stuck : ∀ s', ¬ Step pol s s') :
    ∀ (n : Nat) (i : Nat) (k : Kind) (a : Nat) (m : Mode) (rest : Prog),
      (s i).rest = .acq k a m :: rest → maxRank rk < rankOf rk k + n → False := by
  intro n
  induction n with
  | zero =>
    intro i k a m rest _ hk
    have := rankOf_le_max rk k
    omega
  | succ n ih =>
    intro i k a m rest hrest hk
    -- the acquisition is not granted, so somebody else holds the lock
    have hng : ¬ pol.grant (heldByOther s i k a) m := fun g => stuck _ (Step.acq i k a m rest hrest g)
    have hheld : ∃ m', heldByOther s i k a m' := by
      apply Classical.byContradiction
      intro hno
      exact hng (pol.free _ m (fun m' hm' => hno ⟨m', hm'⟩))
    obtain ⟨m', j, _, h, hmem, hlock, _⟩ := hheld
    have hkind : h.kind = k := by
      simp only [Held.isLock, Bool.and_eq_true, beq_iff_eq] at hlock
      exact hlock.1
    have hkmem : k ∈ (s j).held.map (·.kind) := by
      rw [← hkind]; exact List.mem_map_of_mem hmem
    have hj := hinv j
    -- what does the holder do next?
    cases hr : (s j).rest with
    | nil =>
      rw [hr] at hj
      simp only [ordered, List.isEmpty_iff] at hj
      rw [hj] at hkmem
      cases hkmem
    | cons op rest' =>
      cases op with
      | rel k' => exact stuck _ (Step.rel j k' rest' hr)
      | acq k' a' m'' =>
        rw [hr] at hj
        simp only [ordered, Bool.and_eq_true, List.all_eq_true, decide_eq_true_eq] at hj
        have hlt := hj.1 k hkmem
        exact ih j k' a' m'' rest' hr (by omega)

theorem cross_wait_stuck {s : State} {k0 k1 : Kind} {a0 a1 : Nat} {m0 m1 : Mode} {r0 r1 : Prog}
    {h0 h1 : Held} (e0 : (s 0).rest = .acq k0 a0 m0 :: r0) (e1 : (s 1).rest = .acq k1 a1 m1 :: r1)
    (erest : ∀ i, i ≠ 0 → i ≠ 1 → (s i).rest = [])
    (w0 : h1 ∈ (s 1).held ∧ h1.isLock k0 a0 = true ∧ h1.mode = .W)
    (w1 : h0 ∈ (s 0).held ∧ h0.isLock k1 a1 = true ∧ h0.mode = .W) (s' : State) :
    ¬ Step readersWriter s s' := by
  intro st
  have refuse : ∀ {i k a m}, heldByOther s i k a .W → ¬ readersWriter.grant (heldByOther s i k a) m := by
    intro i k a m hw hg
    cases m
    · exact hg hw
    · exact hg .W hw
  cases st with
  | acq i k a m rest hrest hg =>
    by_cases i0 : i = 0
    · subst i0
      cases e0.symm.trans hrest
      exact refuse ⟨1, by decide, h1, w0⟩ hg
    · by_cases i1 : i = 1
      · subst i1
        cases e1.symm.trans hrest
        exact refuse ⟨0, by decide, h0, w1⟩ hg
      · cases (erest i i0 i1).symm.trans hrest
  | rel i k rest hrest =>
    by_cases i0 : i = 0
    · subst i0; cases e0.symm.trans hrest
    · by_cases i1 : i = 1
      · subst i1; cases e1.symm.trans hrest
      · cases (erest i i0 i1).symm.trans hrest

end Corro.LockOrder
