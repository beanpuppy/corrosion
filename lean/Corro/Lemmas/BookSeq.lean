/-
For C02: the rows of `__corro_seq_bookkeeping` against the in-memory partials
(`process_incomplete_version`'s merge DELETE / INSERT vs `insert_partial`).
-/
import Corro.Lemmas.Book

namespace Corro.Book
open Corro Corro.RSet

/-- the DELETE's WHERE clause, on one stored range -/
def touchP (lo hi : Nat) (p : Nat × Nat) : Bool := seqTouches p.1 p.2 lo hi

/-- for forward ranges the six SQL cases say: overlapping or adjacent -/
theorem seqTouches_iff {s e lo hi : Nat} (h1 : s ≤ e) (h2 : lo ≤ hi) :
    seqTouches s e lo hi = true ↔ s ≤ hi + 1 ∧ lo ≤ e + 1 := by
  simp only [seqTouches, Bool.or_eq_true, Bool.and_eq_true, decide_eq_true_eq, ge_iff_le, ne_eq]
  omega

theorem ofList_of_wf {s : RSet} (h : WF s) : RSet.ofList s = s :=
  wf_unique _ _ (ofList_wf (wf_forward h)) h (mem_ofList (wf_forward h))

theorem insert_all_touch : ∀ (d : RSet) (lo hi : Nat), (∀ p ∈ d, p.1 ≤ hi + 1 ∧ lo ≤ p.2 + 1) →
    ∃ mg, RSet.insert d (lo, hi) = [mg] := by
  intro d
  induction d with
  | nil => exact fun lo hi _ => ⟨(lo, hi), rfl⟩
  | cons p t ih =>
    intro lo hi h
    obtain ⟨a, b⟩ := p
    have hp : a ≤ hi + 1 ∧ lo ≤ b + 1 := h (a, b) List.mem_cons_self
    rw [RSet.insert, if_neg (by omega), if_neg (by omega)]
    refine ih _ _ fun q hq => ?_
    have := h q (List.mem_cons_of_mem _ hq)
    exact ⟨Nat.le_trans this.1 (Nat.succ_le_succ (Nat.le_max_right ..)),
      Nat.le_trans (Nat.min_le_right ..) this.2⟩

theorem mem_filter_split (s : RSet) (f : Nat × Nat → Bool) (x : Nat) :
    Mem s x ↔ Mem (s.filter f) x ∨ Mem (s.filter (fun p => !f p)) x := by
  constructor
  · rintro ⟨p, hp, hx⟩
    cases hf : f p
    · exact .inr ⟨p, List.mem_filter.mpr ⟨hp, by rw [hf]; rfl⟩, hx⟩
    · exact .inl ⟨p, List.mem_filter.mpr ⟨hp, hf⟩, hx⟩
  · rintro (⟨p, hp, hx⟩ | ⟨p, hp, hx⟩) <;> exact ⟨p, (List.mem_filter.mp hp).1, hx⟩

theorem insert_congr {s t : RSet} {r r' : Nat × Nat} (hs : WF s) (ht : WF t) (hr : r.1 ≤ r.2)
    (hr' : r'.1 ≤ r'.2)
    (h : ∀ x, Mem s x ∨ (r.1 ≤ x ∧ x ≤ r.2) ↔ Mem t x ∨ (r'.1 ≤ x ∧ x ≤ r'.2)) :
    RSet.insert s r = RSet.insert t r' :=
  wf_unique _ _ (insert_wf s r.1 r.2 hr hs) (insert_wf t r'.1 r'.2 hr' ht) fun x =>
    (mem_insert s r.1 r.2 x hr).trans ((h x).trans (mem_insert t r'.1 r'.2 x hr').symm)

/-- The merge on one block: the touching ranges and the incoming one collapse into a single range
`mg`; putting `mg` in key order among the untouched ranges gives exactly what
`RangeInclusiveSet::insert` makes of the block, whether it is given `mg` or the incoming range. -/
theorem seq_block {s : RSet} {lo hi : Nat} (hs : WF s) (hlh : lo ≤ hi) :
    ∃ mg, RSet.insert (RSet.ofList (s.filter (touchP lo hi))) (lo, hi) = [mg] ∧
      RSet.insert s mg = rowInsert (s.filter (fun p => !touchP lo hi p)) mg ∧
      rowConflict (s.filter (fun p => !touchP lo hi p)) mg = false ∧
      RSet.insert s mg = RSet.insert s (lo, hi) := by
  have hT : WF (s.filter (touchP lo hi)) := wfFrom_filter hs _
  have hU : WF (s.filter (fun p => !touchP lo hi p)) := wfFrom_filter hs _
  have htouch : ∀ p ∈ s, touchP lo hi p = true ↔ p.1 ≤ hi + 1 ∧ lo ≤ p.2 + 1 :=
    fun p hp => seqTouches_iff (wf_forward hs p hp) hlh
  obtain ⟨mg, hmg⟩ := insert_all_touch (s.filter (touchP lo hi)) lo hi fun p hp =>
    (htouch p (List.mem_filter.mp hp).1).mp (List.mem_filter.mp hp).2
  have hmgf : mg.1 ≤ mg.2 :=
    wf_forward (hmg ▸ insert_wf _ lo hi hlh hT) mg List.mem_cons_self
  have hmem : ∀ x, (mg.1 ≤ x ∧ x ≤ mg.2) ↔ Mem (s.filter (touchP lo hi)) x ∨ (lo ≤ x ∧ x ≤ hi) :=
    fun x => by rw [← mem_insert _ lo hi x hlh, hmg, mem_singleton]
  have hsplit := mem_filter_split s (touchP lo hi)
  have hiso : Isolated (s.filter (fun p => !touchP lo hi p)) mg := by
    refine isolated_of_pointwise hU hmgf fun x y hx1 hx2 hy => ?_
    obtain ⟨q, hq, hy⟩ := hy
    obtain ⟨hqs, hqn⟩ := List.mem_filter.mp hq
    rw [Bool.not_eq_true', ← Bool.not_eq_true, htouch q hqs] at hqn
    rcases (hmem x).mp ⟨hx1, hx2⟩ with ⟨p, hp, hxp⟩ | hxr
    · obtain ⟨hps, hpt⟩ := List.mem_filter.mp hp
      have := wf_pairwise hs hps hqs fun e => hqn ((htouch q hqs).mp (e ▸ hpt))
      omega
    · omega
  obtain ⟨e1, e2⟩ := insert_isolated hU hmgf hiso
  refine ⟨mg, by rw [ofList_of_wf hT, hmg], ?_, e2, ?_⟩
  · rw [← e1]
    exact insert_congr hs hU hmgf hmgf fun x =>
      ⟨fun h => h.elim (fun h => ((hsplit x).mp h).elim (fun ht => .inr ((hmem x).mpr (.inl ht))) .inl) .inr,
       fun h => h.imp_left fun hu => (hsplit x).mpr (.inr hu)⟩
  · exact insert_congr hs hs hmgf hlh fun x =>
      ⟨fun h => h.elim .inl fun hm => ((hmem x).mp hm).imp_left fun ht => (hsplit x).mpr (.inl ht),
       fun h => h.imp_right fun hr => (hmem x).mpr (.inr hr)⟩

def tagRows (v last : Nat) (s : RSet) : List SeqRow := s.map (fun r => (v, r.1, r.2, last))

/-- the rows of `__corro_seq_bookkeeping` that describe the in-memory partials -/
def seqRowsOf : PMap → List SeqRow
  | [] => []
  | e :: t => tagRows e.1 e.2.last e.2.seqs ++ seqRowsOf t

/-- keys strictly ascending, all at least `lb` -/
def KeysFrom : Nat → PMap → Prop
  | _, [] => True
  | lb, e :: t => lb ≤ e.1 ∧ KeysFrom (e.1 + 1) t

theorem keysFrom_mono {lb lb' : Nat} {m : PMap} (h : KeysFrom lb m) (hle : lb' ≤ lb) : KeysFrom lb' m := by
  cases m with
  | nil => trivial
  | cons e t => exact ⟨Nat.le_trans hle h.1, h.2⟩

theorem keysFrom_forall {lb : Nat} {m : PMap} (h : KeysFrom lb m) : ∀ e ∈ m, lb ≤ e.1 := by
  induction m generalizing lb with
  | nil => nofun
  | cons a t ih =>
    intro e he
    rcases List.mem_cons.mp he with rfl | he
    · exact h.1
    · exact Nat.le_trans (Nat.le_succ_of_le h.1) (ih h.2 e he)

theorem lookup_cons_ne {v k : Nat} (h : ¬ v = k) (q : Partial) (t : PMap) :
    List.lookup v ((k, q) :: t) = List.lookup v t := by
  rw [List.lookup_cons, beq_false_of_ne h]

theorem lookup_none_of_keysFrom {lb : Nat} {m : PMap} (h : KeysFrom lb m) {v : Nat} (hv : v < lb) :
    m.lookup v = none :=
  List.lookup_eq_none_iff.mpr fun e he => bne_iff_ne.mpr (Nat.ne_of_lt (Nat.lt_of_lt_of_le hv (keysFrom_forall h e he)))

theorem lookup_of_mem {lb : Nat} {m : PMap} (h : KeysFrom lb m) {v : Nat} {q : Partial}
    (hm : (v, q) ∈ m) : m.lookup v = some q := by
  induction m generalizing lb with
  | nil => cases hm
  | cons e t ih =>
    obtain ⟨k, p⟩ := e
    rcases List.mem_cons.mp hm with heq | hm
    · cases heq; exact List.lookup_cons_self
    · have : k + 1 ≤ v := keysFrom_forall h.2 _ hm
      rw [lookup_cons_ne (by omega)]
      exact ih h.2 hm

theorem mem_of_lookup {m : PMap} {v : Nat} {q : Partial} (h : m.lookup v = some q) : (v, q) ∈ m :=
  have ⟨_, _, e, _⟩ := List.lookup_eq_some_iff.mp h
  e ▸ List.mem_append_right _ List.mem_cons_self

/-- seq ranges stored for `v` (none if `v` is not a partial) -/
def seqsOf (m : PMap) (v : Nat) : RSet :=
  match m.lookup v with
  | some p => p.seqs
  | none => []

theorem tagRows_key {k l : Nat} {s : RSet} : ∀ r ∈ tagRows k l s, r.1 = k := by
  intro r hr
  obtain ⟨_, _, rfl⟩ := List.mem_map.mp hr
  rfl

theorem seqRowsOf_key {m : PMap} {r : SeqRow} (h : r ∈ seqRowsOf m) : ∃ e ∈ m, r.1 = e.1 := by
  induction m with
  | nil => cases h
  | cons a t ih =>
    rcases List.mem_append.mp h with h | h
    · exact ⟨a, List.mem_cons_self, tagRows_key r h⟩
    · obtain ⟨e, he, h1⟩ := ih h
      exact ⟨e, List.mem_cons_of_mem _ he, h1⟩

/-- The rows of smaller versions, the block of `v`, the rows of larger versions: `pmPut` at `v`
replaces the block and nothing else. -/
theorem seqRowsOf_split {lb : Nat} {m : PMap} (h : KeysFrom lb m) (v last : Nat)
    (hlast : ∀ e ∈ m, e.1 = v → e.2.last = last) :
    ∃ A C, (∀ r ∈ A, r.1 < v) ∧ (∀ r ∈ C, v < r.1) ∧
      seqRowsOf m = A ++ tagRows v last (seqsOf m v) ++ C ∧
      ∀ s', seqRowsOf (pmPut m v ⟨s', last⟩) = A ++ tagRows v last s' ++ C := by
  induction m generalizing lb with
  | nil => exact ⟨[], [], nofun, nofun, rfl, fun _ => rfl⟩
  | cons e t ih =>
    obtain ⟨k, q⟩ := e
    have hkeys : ∀ r ∈ seqRowsOf t, k < r.1 := fun r hr => by
      obtain ⟨e, he, h1⟩ := seqRowsOf_key hr
      have := keysFrom_forall h.2 e he
      omega
    by_cases hlt : v < k
    · refine ⟨[], seqRowsOf ((k, q) :: t), nofun, fun r hr => ?_, ?_, fun s' => ?_⟩
      · rcases List.mem_append.mp hr with hr | hr
        · exact (tagRows_key r hr).symm ▸ hlt
        · exact Nat.lt_trans hlt (hkeys r hr)
      · rw [seqsOf, lookup_cons_ne (Nat.ne_of_lt hlt), lookup_none_of_keysFrom h.2 (Nat.lt_succ_of_lt hlt)]; rfl
      · rw [pmPut, if_pos hlt]; rfl
    · by_cases heq : v = k
      · subst heq
        refine ⟨[], seqRowsOf t, nofun, hkeys, ?_, fun s' => ?_⟩
        · rw [seqsOf, List.lookup_cons_self, ← hlast (v, q) List.mem_cons_self rfl]; rfl
        · rw [pmPut, if_neg hlt, if_pos rfl]; rfl
      · obtain ⟨A, C, hA, hC, h1, h2⟩ := ih h.2 fun e he => hlast e (List.mem_cons_of_mem _ he)
        refine ⟨tagRows k q.last q.seqs ++ A, C, fun r hr => ?_, hC, ?_, fun s' => ?_⟩
        · rcases List.mem_append.mp hr with hr | hr
          · rw [tagRows_key r hr]; omega
          · exact hA r hr
        · rw [seqRowsOf, h1]; simp only [seqsOf, lookup_cons_ne heq, List.append_assoc]
        · rw [pmPut, if_neg hlt, if_neg heq, seqRowsOf, h2]; simp only [List.append_assoc]

theorem filter_hit_same (v lo hi l : Nat) (s : RSet) :
    ((tagRows v l s).filter (seqHit v lo hi)).map (fun r => (r.2.1, r.2.2.1)) = s.filter (touchP lo hi) ∧
    (tagRows v l s).filter (fun r => !seqHit v lo hi r) = tagRows v l (s.filter (fun p => !touchP lo hi p)) := by
  have hhit : ∀ p : Nat × Nat, seqHit v lo hi (v, p.1, p.2, l) = touchP lo hi p := fun p => by
    rw [seqHit, decide_eq_true rfl, Bool.true_and]; rfl
  induction s with
  | nil => exact ⟨rfl, rfl⟩
  | cons p t ih =>
    simp only [tagRows, List.map_cons, List.filter_cons, hhit] at ih ⊢
    cases touchP lo hi p <;> simp [ih.1, ih.2]

theorem filter_hit_other {X : List SeqRow} {v : Nat} (h : ∀ r ∈ X, r.1 ≠ v) (lo hi : Nat) :
    X.filter (seqHit v lo hi) = [] ∧ X.filter (fun r => !seqHit v lo hi r) = X := by
  have hno : ∀ r ∈ X, seqHit v lo hi r = false := fun r hr => by
    rw [seqHit, decide_eq_false (h r hr), Bool.false_and]
  exact ⟨List.filter_eq_nil_iff.mpr fun r hr => by rw [hno r hr]; exact Bool.false_ne_true,
    List.filter_eq_self.mpr fun r hr => by rw [hno r hr]; rfl⟩

theorem seqRowInsert_skip (blk X : List SeqRow) (r : SeqRow) (h : ∀ p ∈ blk, p.1 < r.1) :
    seqRowInsert (blk ++ X) r = blk ++ seqRowInsert X r := by
  induction blk with
  | nil => rfl
  | cons p t ih =>
    have hp := h p List.mem_cons_self
    rw [List.cons_append, seqRowInsert, decide_eq_false (by omega), decide_eq_false (by omega : ¬ r.1 = p.1),
      ih fun q hq => h q (List.mem_cons_of_mem _ hq)]
    rfl

theorem seqRowInsert_front (rows : List SeqRow) (r : SeqRow) (h : ∀ p ∈ rows, r.1 < p.1) :
    seqRowInsert rows r = r :: rows := by
  cases rows with
  | nil => rfl
  | cons p t => rw [seqRowInsert, decide_eq_true (h p List.mem_cons_self)]; rfl

theorem seqRowInsert_block (v l : Nat) (s : RSet) (Y : List SeqRow) (a b : Nat)
    (hY : ∀ p ∈ Y, v < p.1) :
    seqRowInsert (tagRows v l s ++ Y) (v, a, b, l) = tagRows v l (rowInsert s (a, b)) ++ Y := by
  induction s with
  | nil => exact seqRowInsert_front Y _ hY
  | cons p t ih =>
    simp only [tagRows, List.map_cons, List.cons_append] at ih ⊢
    rw [seqRowInsert, rowInsert, decide_eq_false (Nat.lt_irrefl v), decide_eq_true rfl]
    by_cases hap : a < p.1
    · simp [hap]
    · simp [hap, ih]

/-- `process_incomplete_version` on rows that mirror the partials: it succeeds, hands
`insert_partial` a one-range partial `[mg]`, and the new rows mirror the partials after
`insert_partial` has merged `[mg]` in. -/
theorem processIncomplete_spec {lb : Nat} {m : PMap} (h : KeysFrom lb m) (v lo hi last : Nat)
    (hlh : lo ≤ hi) (hwf : WF (seqsOf m v)) (hlast : ∀ e ∈ m, e.1 = v → e.2.last = last) :
    ∃ mg, processIncomplete (seqRowsOf m) v (lo, hi) last =
        .ok (seqRowsOf (pmPut m v ⟨RSet.insert (seqsOf m v) mg, last⟩), ⟨[mg], last⟩) ∧
      RSet.insert (seqsOf m v) mg = RSet.insert (seqsOf m v) (lo, hi) := by
  obtain ⟨mg, b1, b2, b3, b4⟩ := seq_block (lo := lo) (hi := hi) hwf hlh
  obtain ⟨A, C, hA, hC, hrows, hput⟩ := seqRowsOf_split h v last hlast
  refine ⟨mg, ?_, b4⟩
  have hA' := filter_hit_other (fun r hr => Nat.ne_of_lt (hA r hr)) lo hi
  have hC' := filter_hit_other (fun r hr => Nat.ne_of_gt (hC r hr)) lo hi
  have hB := filter_hit_same v lo hi last (seqsOf m v)
  -- no remaining row of `v` starts where the merged row starts
  have hfree : (A ++ tagRows v last ((seqsOf m v).filter fun p => !touchP lo hi p) ++ C).any
      (fun r => decide (r.1 = v) && decide (r.2.1 = mg.1)) = false := by
    rw [List.any_append, List.any_append, Bool.or_eq_false_iff, Bool.or_eq_false_iff]
    refine ⟨⟨List.any_eq_false.mpr fun r hr => ?_, ?_⟩, List.any_eq_false.mpr fun r hr => ?_⟩
    · rw [decide_eq_false (Nat.ne_of_lt (hA r hr))]; exact Bool.false_ne_true
    · rw [← b3, rowConflict, tagRows, List.any_map]
      exact congrArg _ (funext fun p => by simp [Bool.beq_eq_decide_eq])
    · rw [decide_eq_false (Nat.ne_of_gt (hC r hr))]; exact Bool.false_ne_true
  rw [processIncomplete, hrows]
  simp only [List.filter_append, hA'.1, hA'.2, hC'.1, hC'.2, hB.1, hB.2, List.nil_append,
    List.append_nil, b1, hfree]
  rw [if_neg Bool.false_ne_true, hput, List.append_assoc, seqRowInsert_skip _ _ _ hA,
    seqRowInsert_block v last _ C mg.1 mg.2 hC, ← b2, List.append_assoc]

end Corro.Book
