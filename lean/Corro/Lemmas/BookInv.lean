/-
For C02: `insert_db` as a whole on a well-formed bookkeeping state (`GapsOk`, `VersOk`), and how the
head and the set of known versions (at most the head, not needed) move when versions arrive
(`Arrive`).
-/
import Corro.Lemmas.BookGaps

namespace Corro.Book
open Corro Corro.RSet

/-- The gap bookkeeping of one actor is well formed: `needed` is canonical (pairwise disjoint,
non-adjacent, forward), the rows of `__corro_bookkeeping_gaps` are exactly its intervals, and every
needed version lies in `1 .. head` (the head itself is never needed). -/
structure GapsOk (b : Book) (rows : Rows) : Prop where
  wf : WF b.needed
  rows : rows = b.needed
  inside : ∀ x, Mem b.needed x → 1 ≤ x ∧ x < b.max.getD 0

/-- What callers hand to `insert_db`: a non-empty canonical set of versions, none of them 0. -/
structure VersOk (S : RSet) : Prop where
  wf : WF S
  ne : S ≠ []
  pos : ∀ x, Mem S x → 1 ≤ x

theorem insertDb_inside {b : Book} {S : RSet} (h : ∀ x, Mem b.needed x → 1 ≤ x ∧ x < b.max.getD 0)
    (hS : VersOk S) {x : Nat}
    (hx : (Mem b.needed x ∨ (b.max.getD 0 + 1 ≤ x ∧ x ≤ supHi S)) ∧ ¬ Mem S x) :
    1 ≤ x ∧ x < max (b.max.getD 0) (supHi S) := by
  rcases hx with ⟨hx | ⟨hlo, hhi⟩, hns⟩
  · exact ⟨(h x hx).1, Nat.lt_of_lt_of_le (h x hx).2 (Nat.le_max_left ..)⟩
  · obtain ⟨v, hv, hve⟩ := supHi_attained hS.ne
    have : ¬ (v.1 ≤ x ∧ x ≤ v.2) := fun hh => hns ⟨v, hv, hh⟩
    have := wf_forward hS.wf v hv
    exact ⟨by omega, Nat.lt_of_lt_of_le (show x < supHi S by omega) (Nat.le_max_right ..)⟩

/-- `insert_db` on a well-formed state: no statement fails, the rows still mirror `needed`, the head
moves to `max(head, sup S)`, as point sets `needed' = (needed ∪ [head+1, sup S]) \ S`, and the partials
stay if none of them is of a needed version. -/
theorem insertDb_ok {b : Book} {rows : Rows} {S : RSet} (h : GapsOk b rows) (hS : VersOk S) :
    ∃ P' N', insertDb b rows S = .ok (⟨P', N', some (max (b.max.getD 0) (supHi S))⟩, N') ∧
      GapsOk ⟨P', N', some (max (b.max.getD 0) (supHi S))⟩ N' ∧
      (∀ x, Mem N' x ↔
        (Mem b.needed x ∨ (b.max.getD 0 + 1 ≤ x ∧ x ≤ supHi S)) ∧ ¬ Mem S x) ∧
      ((∀ e ∈ b.partials, ¬ Mem b.needed e.1) → P' = b.partials) := by
  -- of the change `ch`: `c1` its head; `c2`, `c3` the removed ranges are distinct rows of `needed`; `c4` every
  -- row that a version range overlaps is removed; `c5`, `c6` the inserted set is canonical, with its points
  obtain ⟨c1, c2, c3, c4, c5, c6⟩ := computeGapsChange_spec (s := b) h.wf hS.wf hS.ne
  generalize hch : computeGapsChange b S = ch at c1 c2 c3 c4 c5 c6
  have hf1 : ∀ r ∈ ch.removeRanges, r.1 ≤ r.2 := fun r hr => wf_forward h.wf r (c3 r hr)
  have hwf1 := removeAll_wf b.needed _ h.wf hf1
  have hm1 : ∀ x, Mem (removeAll b.needed ch.removeRanges) x ↔ Mem b.needed x ∧ ¬ Mem ch.removeRanges x :=
    mem_removeAll b.needed _ h.wf hf1
  have hiso : ∀ r ∈ ch.insertSet, Isolated (removeAll b.needed ch.removeRanges) r := by
    intro r hr
    refine isolated_of_pointwise hwf1 (wf_forward c5 r hr) fun x y hx1 hx2 hy => ?_
    obtain ⟨⟨q, hq, hyq⟩, hnr⟩ := (hm1 y).mp hy
    rcases ((c6 x).mp ⟨r, hr, hx1, hx2⟩).1 with ⟨r', hr', hxr⟩ | ⟨hlo, _⟩
    · have := wf_pairwise h.wf (c3 r' hr') hq fun e => hnr ⟨r', hr', e ▸ hyq⟩
      omega
    · have := (h.inside y ⟨q, hq, hyq⟩).2
      omega
  have hmem : ∀ x, Mem (insertAll (removeAll b.needed ch.removeRanges) ch.insertSet) x ↔
      (Mem b.needed x ∨ (b.max.getD 0 + 1 ≤ x ∧ x ≤ supHi S)) ∧ ¬ Mem S x := by
    intro x
    -- a removed range is a needed one; a needed point outside them is not in `S`, since a
    -- needed range that overlaps `S` is removed
    have hRN : Mem ch.removeRanges x → Mem b.needed x := fun ⟨r, hr, hx⟩ => ⟨r, c3 r hr, hx⟩
    have hNS : Mem b.needed x → Mem S x → Mem ch.removeRanges x := fun ⟨q, hq, hxq⟩ ⟨v, hv, hxv⟩ =>
      ⟨q, c4 v hv q hq (Nat.le_trans hxq.1 hxv.2) (Nat.le_trans hxv.1 hxq.2), hxq⟩
    rw [mem_insertAll _ _ (wf_forward c5), hm1]
    refine (or_congr_right (c6 x)).trans ⟨?_, ?_⟩
    · rintro (⟨hn, hr⟩ | ⟨hr | hg, hs⟩)
      · exact ⟨.inl hn, fun hs => hr (hNS hn hs)⟩
      · exact ⟨.inl (hRN hr), hs⟩
      · exact ⟨.inr hg, hs⟩
    · rintro ⟨hn | hg, hs⟩
      · by_cases hr : Mem ch.removeRanges x
        · exact .inr ⟨.inl hr, hs⟩
        · exact .inl ⟨hn, hr⟩
      · exact .inr ⟨.inr hg, hs⟩
  refine ⟨ch.removeRanges.foldl pmRemoveRange b.partials, _, ?_,
    ⟨insertAll_wf _ _ hwf1 (wf_forward c5), rfl, fun x hx => ?_⟩, hmem, fun hp => ?_⟩
  · rw [insertDb, hch, h.rows, deleteLoop_ok _ _ _ _ h.wf c2 c3]
    simp only
    rw [insertLoop_ok _ 0 _ _ _ hwf1 c5 hiso, c1]
    rfl
  · exact insertDb_inside h.inside hS ((hmem x).mp hx)
  · rw [foldl_pmRemoveRange]
    refine List.filter_eq_self.mpr fun e he => ?_
    rw [Bool.not_eq_true', ← Bool.not_eq_true, coveredBy_iff]
    exact fun ⟨r, hr, hx⟩ => hp e he ⟨r, c3 r hr, hx⟩

theorem supHi_le_of_mem {S T : List (Nat × Nat)} (hS : ∀ r ∈ S, r.1 ≤ r.2)
    (h : ∀ x, Mem S x → Mem T x) : supHi S ≤ supHi T :=
  supHi_le fun v hv =>
    have ⟨_, hw, hx⟩ := h v.2 ⟨v, hv, hS v hv, Nat.le_refl _⟩
    Nat.le_trans hx.2 (le_supHi hw)

theorem supHi_ofList {rs : List (Nat × Nat)} (h : ∀ r ∈ rs, r.1 ≤ r.2) :
    supHi (RSet.ofList rs) = supHi rs :=
  Nat.le_antisymm (supHi_le_of_mem (wf_forward (ofList_wf h)) fun x => (mem_ofList h x).mp)
    (supHi_le_of_mem h fun x => (mem_ofList h x).mpr)

theorem versOk_ofList {rs : List (Nat × Nat)} (hne : rs ≠ []) (h : ∀ r ∈ rs, 1 ≤ r.1 ∧ r.1 ≤ r.2) :
    VersOk (RSet.ofList rs) := by
  have hf : ∀ r ∈ rs, r.1 ≤ r.2 := fun r hr => (h r hr).2
  refine ⟨ofList_wf hf, fun he => ?_, fun x hx => ?_⟩
  · obtain ⟨r, t, rfl⟩ := List.exists_cons_of_ne_nil hne
    have hr := hf r List.mem_cons_self
    exact mem_nil r.1 (he ▸ (mem_ofList hf r.1).mpr ⟨r, List.mem_cons_self, Nat.le_refl _, hr⟩)
  · obtain ⟨r, hr, hx1, _⟩ := (mem_ofList hf x).mp hx
    exact Nat.le_trans (h r hr).1 hx1

/-- The versions `T` arrive at head `M` and needed set `N`.  What is known (at most the head and
not needed) grows by exactly what arrived, and a head that moved is a version that arrived.  Read for
the needed set, up to `M'`: `N' = (N ∪ (M, M']) \ T`. -/
structure Arrive (M : Nat) (N : Nat → Prop) (M' : Nat) (N' : Nat → Prop) (T : Nat → Prop) : Prop where
  pos : ∀ x, T x → 1 ≤ x
  known : ∀ x, (x ≤ M' ∧ ¬ N' x) ↔ (x ≤ M ∧ ¬ N x) ∨ T x
  head : M' = M ∨ T M'

theorem Arrive.refl {M : Nat} {N : Nat → Prop} : Arrive M N M N (fun _ => False) :=
  ⟨nofun, fun _ => (or_iff_left id).symm, .inl rfl⟩

theorem Arrive.congr {M M' : Nat} {N N' T T' : Nat → Prop} (h : Arrive M N M' N' T)
    (hT : ∀ x, T x ↔ T' x) : Arrive M N M' N' T' :=
  ⟨fun x hx => h.pos x ((hT x).mpr hx), fun x => (h.known x).trans (or_congr_right (hT x)),
    h.head.imp_right (hT _).mp⟩

theorem Arrive.trans {M0 M1 M2 : Nat} {N0 N1 N2 T1 T2 : Nat → Prop} (h1 : Arrive M0 N0 M1 N1 T1)
    (h2 : Arrive M1 N1 M2 N2 T2) : Arrive M0 N0 M2 N2 (fun x => T1 x ∨ T2 x) := by
  refine ⟨fun x hx => hx.elim (h1.pos x) (h2.pos x),
    fun x => by rw [h2.known, h1.known, or_assoc], ?_⟩
  rcases h2.head with e | e
  · exact h1.head.elim (fun e1 => .inl (e.trans e1)) fun e1 => .inr (.inl (e ▸ e1))
  · exact .inr (.inr e)

/-- one `insert_db`: `hN` is what `insertDb_ok` gives -/
theorem Arrive.of_batch {M H : Nat} {N N' T : Nat → Prop} (hT : ∀ x, T x → 1 ≤ x ∧ x ≤ H)
    (hN : ∀ x, N' x ↔ (N x ∨ (M + 1 ≤ x ∧ x ≤ H)) ∧ ¬ T x) (hH : T H) :
    Arrive M N (max M H) N' T := by
  refine ⟨fun x hx => (hT x hx).1, fun x => ?_, ?_⟩
  · rw [hN, Std.le_max]
    constructor
    · rintro ⟨hle, hn⟩
      refine Classical.byCases .inr fun ht => .inl ?_
      have hn' : ¬ (N x ∨ (M + 1 ≤ x ∧ x ≤ H)) := fun h => hn ⟨h, ht⟩
      exact ⟨hle.elim id fun hxH => Nat.le_of_not_lt fun hlt => hn' (.inr ⟨hlt, hxH⟩), fun h => hn' (.inl h)⟩
    · rintro (⟨hle, hn⟩ | ht)
      · exact ⟨.inl hle, fun h => h.1.elim hn fun h1 => Nat.not_succ_le_self M (Nat.le_trans h1.1 hle)⟩
      · exact ⟨.inr (hT x ht).2, fun h => h.2 ht⟩
  · rcases Nat.le_total H M with hle | hle
    · exact .inl (Nat.max_eq_left hle)
    · exact .inr ((Nat.max_eq_right hle).symm ▸ hH)

theorem Arrive.held {M M' : Nat} {N N' T : Nat → Prop} (h : Arrive M N M' N' T) {x : Nat}
    (hn : ¬ N x) (hx : x ≤ M) : ¬ N' x ∧ x ≤ M' :=
  ((h.known x).mpr (.inl ⟨hx, hn⟩)).symm

theorem Arrive.arrived {M M' : Nat} {N N' T : Nat → Prop} (h : Arrive M N M' N' T) {x : Nat}
    (ht : T x) : ¬ N' x ∧ x ≤ M' :=
  ((h.known x).mpr (.inr ht)).symm

theorem Arrive.widen {M M' : Nat} {N N' T T' : Nat → Prop} (h : Arrive M N M' N' T)
    (hsub : ∀ x, T x → T' x) (hpos : ∀ x, T' x → 1 ≤ x)
    (hknown : ∀ x, T' x → ¬ T x → ¬ N x ∧ x ≤ M) : Arrive M N M' N' T' :=
  ⟨hpos, fun x => (h.known x).trans ⟨Or.imp_right (hsub x), fun hx => hx.elim .inl fun ht' =>
    Classical.byCases .inr fun ht => .inl (hknown x ht' ht).symm⟩, h.head.imp_right (hsub _)⟩

end Corro.Book
