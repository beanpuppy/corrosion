/-
Facts about the example nodes of `Lemmas/NodeEx.lean` that need the invariant machinery (for
the `example`s of `Props/C03.lean` and `Props/C06.lean`).
-/
import Corro.Lemmas.NodeUnchunked
import Corro.Lemmas.NodeEx
namespace Corro.Node

namespace Ex

/-- true `last_seq` of the versions of the example history -/
def L (_ v : Nat) : Nat := if v = 3 then 3 else if v = 1 then 1 else 0

theorem srv_consistent : Consistent L srv := by
  unfold srv
  refine deliver_consistent' (deliver_consistent' (deliver_consistent' (fresh_consistent L 9) _ ?_) _ ?_) _ ?_
  · intro it hit
    simp only [List.mem_singleton] at hit
    subst hit
    exact ⟨rfl, by decide +kernel, by decide +kernel⟩
  · intro it hit
    simp only [List.mem_cons, List.not_mem_nil, or_false] at hit
    rcases hit with rfl | rfl
    · exact Nat.le_refl 2
    · exact ⟨rfl, by decide +kernel, by decide +kernel⟩
  · intro it hit
    simp only [List.mem_singleton] at hit
    subst hit
    exact ⟨rfl, by decide +kernel, by decide +kernel⟩

theorem srv_noPending : NoPending srv := by
  intro a v p hp hcomp
  by_cases ha : a = 1
  · subst ha
    have hbk : srv.booked 1 = { max := 5, needed := [(4, 4)], partials := [(3, ⟨[(0, 1)], 3⟩)] } := by decide +kernel
    rw [hbk, partial?_eq, alook_cons] at hp
    by_cases hv : v = 3
    · subst hv
      simp only [if_true, Option.some.injEq] at hp
      subst hp
      exact absurd hcomp (by decide +kernel)
    · have hv' : ¬ 3 = v := fun h => hv h.symm
      simp only [hv', if_false, alook_nil] at hp; cases hp
  · have hbk : srv.booked a = {} := by
      have hb : srv.book = [(1, { max := 5, needed := [(4, 4)], partials := [(3, ⟨[(0, 1)], 3⟩)] })] := by
        decide +kernel
      rw [booked_eq, hb, alook_cons]
      have : ¬ 1 = a := fun h => ha h.symm
      simp [this, alook_nil]
    rw [hbk] at hp; cases hp

theorem v3_ok : CsOK 1 3 3 v3 := ⟨by decide +kernel, by decide +kernel⟩

end Ex
end Corro.Node
