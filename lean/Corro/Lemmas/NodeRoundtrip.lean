/-
For a consistent node, `from_conn` rebuilds exactly the in-memory
bookkeeping (minus applied partials), the re-scheduled applies do not change it, and the restarted
node is consistent again with nothing pending.
-/
import Corro.Lemmas.NodeDeliverCons
namespace Corro.Node

variable {L : Nat → Nat → Nat} {n : Node}

theorem applyBuffered_booked (hc : ∀ a, ConsA L n a) (a v a' : Nat) :
    (n.applyBuffered a v).booked a' = n.booked a' := by
  rcases applyBuffered_cases n a v with ⟨h1, _⟩ | ⟨p, hp, _, h1⟩ <;> rw [h1]
  rw [booked_clearMeta]
  by_cases ha : a' = a
  · subst ha
    have hk := (hc a').part_known v p hp
    rw [applyCore_booked_same]
    exact insertDb_known_eq (hc a').needed_wf hk.1 hk.2
  · exact applyCore_booked_other n a v a' ha

theorem applyAll_booked (hc : Consistent L n) (ap : List (Nat × Nat))
    (a' : Nat) : (applyAll n ap).booked a' = n.booked a' := by
  induction ap generalizing n with
  | nil => rfl
  | cons t ap ih =>
    show (applyAll (n.applyBuffered t.1 t.2) ap).booked a' = _
    rw [ih (applyBuffered_consistent hc t.1 t.2), applyBuffered_booked hc.actor]

theorem Partial.ext' {p q : Partial} (h1 : p.seqs = q.seqs) (h2 : p.last = q.last) : p = q := by
  cases p; cases q; simp only at h1 h2; rw [h1, h2]

theorem fromConn_spec {a : Nat} (hc : ConsA L n a) :
    (n.fromConn a).max = (n.booked a).max ∧ (n.fromConn a).needed = (n.booked a).needed ∧
    (∀ v, HasRows n a v → (n.fromConn a).partial? v = (n.booked a).partial? v) ∧
    (∀ v, ¬ HasRows n a v → (n.fromConn a).partial? v = none) ∧
    (n.fromConn a).PWF ∧ (n.fromConn a).KeysSorted := by
  have hf : n.ActorRowsForward a := fun r hr hs => (hc.rows_fwd r hr hs).1
  have hi := fromConn_inv n a hf
  refine ⟨?_, rfl, ?_, ?_, hi.pwf, fromConn_keysSorted n a⟩
  · rw [fromConn_max]
    apply Nat.le_antisymm
    · rcases hi.max_att with h1 | ⟨r, hr, h1⟩
      · rw [h1]; exact hc.dbv_le
      · rw [h1]; have := mem_actorRows.mp hr; exact hc.rows_le r this.1 this.2
    · rcases hc.max_att with h1 | ⟨r, hr, hs, h1, _⟩
      · exact Nat.le_trans h1 hi.max_ge.1
      · exact Nat.le_trans h1 (hi.max_ge.2 r (mem_actorRows.mpr ⟨hr, hs⟩))
  · intro v hv
    have hs := (fromConn_partial_isSome n a v hf).mpr hv
    cases hp' : (n.fromConn a).partial? v with
    | none => rw [hp'] at hs; cases hs
    | some p' =>
      obtain ⟨hw', hm', r, hr, h1, h2, h3⟩ := fromConn_partial_spec n a v hf hp'
      obtain ⟨p, hp, hm⟩ := hc.partial_of_rows hv
      rw [hp]
      congr 1
      apply Partial.ext'
      · exact RSet.wf_unique _ _ hw' (hc.pwf.of_partial? hp) (fun x => (hm' x).trans (hm x).symm)
      · rw [h3, (hc.rows_fwd r hr h1).2, h2, hc.part_last v p hp]
  · intro v hv
    cases hp' : (n.fromConn a).partial? v with
    | none => rfl
    | some p' =>
      exfalso; apply hv
      exact (fromConn_partial_isSome n a v hf).mp (by rw [hp']; rfl)

theorem booked_of_not_known {a : Nat} (hc : ConsA L n a)
    (ha : a ∉ n.knownActors) :
    (n.booked a).max = 0 ∧ (n.booked a).needed = [] ∧ ∀ v, ¬ HasRows n a v := by
  have hk := fun h => ha (mem_knownActors.mpr h)
  have hnr : ∀ v, ¬ HasRows n a v := by
    rintro v ⟨r, hr, hs, _⟩; exact hk (Or.inr (Or.inl ⟨r, hr, hs⟩))
  have hd : dbvOf n a = 0 := by
    rw [dbvOf_eq]
    cases hl : alook n.dbv a with
    | none => rfl
    | some x => exact absurd (Or.inl ⟨(a, x), alook_some_mem hl, rfl⟩) hk
  refine ⟨?_, ?_, hnr⟩
  · rcases hc.max_att with h1 | ⟨r, hr, hs, _⟩
    · omega
    · exact absurd ⟨r, hr, hs, rfl⟩ (hnr r.ver)
  · rw [booked_eq]
    cases hl : alook n.book a with
    | none => rfl
    | some b =>
      simp only [Option.getD_some]
      cases hne : b.needed with
      | nil => rfl
      | cons x xs =>
        exfalso
        exact hk (Or.inr (Or.inr ⟨(a, b), alook_some_mem hl, rfl, by rw [hne]; rfl⟩))

theorem reloaded_spec (hc : Consistent L n) (a : Nat) :
    ((reloaded n).booked a).max = (n.booked a).max ∧
    ((reloaded n).booked a).needed = (n.booked a).needed ∧
    (∀ v, HasRows n a v → ((reloaded n).booked a).partial? v = (n.booked a).partial? v) ∧
    (∀ v, ¬ HasRows n a v → ((reloaded n).booked a).partial? v = none) ∧
    ((reloaded n).booked a).PWF ∧ ((reloaded n).booked a).KeysSorted := by
  rw [reloaded_booked]
  split
  · exact fromConn_spec (hc.actor a)
  · rename_i ha
    obtain ⟨h1, h2, h3⟩ := booked_of_not_known (hc.actor a) ha
    refine ⟨h1.symm, h2.symm, fun v hv => absurd hv (h3 v), fun v _ => rfl,
      (fun e he => by cases he), List.Pairwise.nil⟩

theorem reloaded_consistent (hc : Consistent L n) :
    Consistent L (reloaded n) := by
  refine ⟨?_, ?_⟩
  · intro a
    have ha := hc.actor a
    obtain ⟨h1, h2, h3, h4, h5, h6⟩ := reloaded_spec hc a
    have hpart : ∀ v p, ((reloaded n).booked a).partial? v = some p →
        HasRows n a v ∧ (n.booked a).partial? v = some p := by
      intro v p hp
      have hr : HasRows n a v := by
        apply Classical.byContradiction
        intro hnr; rw [h4 v hnr] at hp; cases hp
      exact ⟨hr, by rw [← h3 v hr]; exact hp⟩
    refine ⟨h5, h6, ha.rows_fwd, fun v p hp => ha.part_last v p (hpart v p hp).2, ?_, ?_,
      fun v hv => absurd hv (not_covered_nil v), ha.buf_cov, by rw [h1]; exact ha.dbv_le,
      by rw [h1]; exact ha.rows_le, by rw [h1]; exact ha.max_att, by rw [h2]; exact ha.needed_wf, ?_⟩
    · intro v (hv : HasRows n a v)
      obtain ⟨p, hp, hm⟩ := ha.partial_of_rows hv
      exact Or.inr ⟨p, by rw [h3 v hv]; exact hp, hm⟩
    · intro v p hp hnr
      exact absurd (hpart v p hp).1 hnr
    · intro v p hp
      rw [h1, h2]; exact ha.part_known v p (hpart v p hp).2
  · show (restartBook n).Pairwise (fun x y => x.1 < y.1)
    unfold restartBook
    rw [List.pairwise_map]
    exact knownActors_sorted n

theorem restart_consistent' (hc : Consistent L n) :
    Consistent L n.restart := by
  rw [restart_eq']; exact applyAll_consistent (reloaded_consistent hc) _

theorem restart_booked (hc : Consistent L n) (a : Nat) :
    (n.restart).booked a = (reloaded n).booked a := by
  rw [restart_eq']; exact applyAll_booked (reloaded_consistent hc) _ a

theorem mem_restartTasks_cons (hc : Consistent L n) (a v : Nat) :
    (a, v) ∈ restartTasks n ↔
      HasRows n a v ∧ ∃ p, (n.booked a).partial? v = some p ∧ p.complete = true := by
  rw [mem_restartTasks]
  simp only
  obtain ⟨_, _, h3, h4, _, _⟩ := fromConn_spec (hc.actor a)
  constructor
  · rintro ⟨_, p, hp, hcomp⟩
    have hr : HasRows n a v := by
      apply Classical.byContradiction
      intro hnr; rw [h4 v hnr] at hp; cases hp
    exact ⟨hr, p, by rw [← h3 v hr]; exact hp, hcomp⟩
  · rintro ⟨hr, p, hp, hcomp⟩
    obtain ⟨r, hr1, hr2, _⟩ := hr
    exact ⟨mem_knownActors.mpr (Or.inr (Or.inl ⟨r, hr1, hr2⟩)), p,
      by rw [h3 v ⟨r, hr1, hr2, by assumption⟩]; exact hp, hcomp⟩

theorem restart_noPending (hc : Consistent L n) :
    NoPending n.restart := by
  intro a v p hp hcomp
  rw [restart_booked hc] at hp
  rw [restart_eq']
  have hrc := reloaded_consistent hc
  by_cases hr : HasRows (reloaded n) a v
  · have hr' : HasRows n a v := hr
    obtain ⟨_, _, h3, _, _, _⟩ := reloaded_spec hc a
    have hp' : (n.booked a).partial? v = some p := by rw [← h3 v hr']; exact hp
    exact not_hasRows_applyAll hp hcomp ((mem_restartTasks_cons hc a v).mpr ⟨hr', p, hp', hcomp⟩)
  · exact fun h => hr (hasRows_applyAll_sub h)

end Corro.Node
