/-
Actor discovery (`knownActors`), the clear job on rows and buffer (`mem_clearMeta_rows`,
`mem_clearMeta_buf`), the structure of `Node.restart` (`restart_eq'`: the bookkeeping reloaded, `reloaded`,
then one `applyBuffered` per fully buffered version, `restartTasks`; `restart_effect` says what these
applies do to store, buffer and sequence rows, `applyTask`), and what `from_conn` rebuilds from the
sequence rows (`LoadInv`).
-/
import Corro.Lemmas.NodeDeliver
namespace Corro.Node
open Corro.Crdt

def restartBook (n : Node) : List (Nat × Booked) := n.knownActors.map (fun a => (a, n.fromConn a))

def restartTasks (n : Node) : List (Nat × Nat) :=
  (restartBook n).flatMap (fun e => (e.2.partials.filter (fun vp => vp.2.complete)).map (fun vp => (e.1, vp.1)))

theorem mem_knownActors {n : Node} {a : Nat} :
    a ∈ n.knownActors ↔
      (∃ e ∈ n.dbv, e.1 = a) ∨ (∃ r ∈ n.seqRows, r.site = a) ∨
        (∃ e ∈ n.book, e.1 = a ∧ e.2.needed.isEmpty = false) := by
  -- `knownActors` is `dedupSorted` of the three source lists appended
  change a ∈ dedupSorted _ ↔ _
  rw [mem_dedupSorted]
  simp only [List.mem_append, List.mem_map, List.mem_filter, or_assoc, and_assoc,
    Bool.not_eq_true']
  exact or_congr_right (or_congr_right (exists_congr fun e => and_congr_right fun _ => and_comm))

theorem knownActors_sorted (n : Node) : n.knownActors.Pairwise (fun x y => x < y) :=
  dedupSorted_sorted _

theorem clearKey_iff (k s lo hi w : Nat) :
    (!(k == s && decide (lo ≤ w) && decide (w ≤ hi))) = true ↔ ¬ (k = s ∧ lo ≤ w ∧ w ≤ hi) := by
  rw [Bool.not_eq_true', ← Bool.not_eq_true, Bool.and_eq_true, Bool.and_eq_true, beq_iff_eq,
    decide_eq_true_eq, decide_eq_true_eq, and_assoc]

theorem mem_clearMeta_rows {n : Node} {s lo hi : Nat} {r : SeqRow} :
    r ∈ (n.clearMeta s lo hi).seqRows ↔ r ∈ n.seqRows ∧ ¬ (r.site = s ∧ lo ≤ r.ver ∧ r.ver ≤ hi) := by
  unfold Node.clearMeta
  rw [List.mem_filter, clearKey_iff]

theorem mem_clearMeta_buf {n : Node} {s lo hi : Nat} {x : Chg} :
    x ∈ (n.clearMeta s lo hi).buf ↔ x ∈ n.buf ∧ ¬ (x.site = s ∧ lo ≤ x.dbv ∧ x.dbv ≤ hi) := by
  unfold Node.clearMeta
  rw [List.mem_filter, clearKey_iff]

/-- the clear predicate for the one-version range `v..=v` -/
theorem clear_single (s x a v : Nat) :
    (!(s == a && decide (v ≤ x) && decide (x ≤ v))) = !decide (s = a ∧ x = v) := by
  refine congrArg not (Bool.eq_iff_iff.mpr ?_)
  simp only [Bool.and_eq_true, beq_iff_eq, decide_eq_true_eq, and_assoc]
  exact and_congr_right fun _ => ⟨fun h => Nat.le_antisymm h.2 h.1, fun h => ⟨Nat.le_of_eq h.symm, Nat.le_of_eq h⟩⟩

theorem clearMeta_buf_single (n : Node) (a v : Nat) :
    (n.clearMeta a v v).buf = n.buf.filter (fun c => !decide (c.site = a ∧ c.dbv = v)) :=
  List.filter_congr (fun c _ => clear_single c.site c.dbv a v)

theorem clearMeta_seqRows_single (n : Node) (a v : Nat) :
    (n.clearMeta a v v).seqRows = n.seqRows.filter (fun r => !decide (r.site = a ∧ r.ver = v)) :=
  List.filter_congr (fun r _ => clear_single r.site r.ver a v)

/-- one re-scheduled apply, on the store and the buffer -/
def applyTask (s : Db × List Chg) (t : Nat × Nat) : Db × List Chg :=
  (mergeAll s.1 (sortBySeq (bufOf s.2 t.1 t.2)), s.2.filter (fun c => !decide (c.site = t.1 ∧ c.dbv = t.2)))

/-- in order: store and buffer (each task by `applyTask`), the sequence rows (those of the tasks go),
the liveness flag (kept) -/
theorem applyAll_tasks (m : Node) (T : List (Nat × Nat))
    (h : ∀ t ∈ T, ∃ p, (m.booked t.1).partial? t.2 = some p ∧ p.complete = true) :
    ((applyAll m T).db, (applyAll m T).buf) = T.foldl applyTask (m.db, m.buf) ∧
    (applyAll m T).seqRows =
      T.foldl (fun rows t => rows.filter (fun r => !decide (r.site = t.1 ∧ r.ver = t.2))) m.seqRows ∧
    (applyAll m T).alive = m.alive := by
  induction T generalizing m with
  | nil => exact ⟨rfl, rfl, rfl⟩
  | cons t T ih =>
    obtain ⟨p, hp, hc⟩ := h t (by simp)
    have hstep := applyBuffered_complete m t.1 t.2 p hp hc
    have h' : ∀ t' ∈ T, ∃ p, ((m.applyBuffered t.1 t.2).booked t'.1).partial? t'.2 = some p ∧
        p.complete = true := by
      intro t' ht'
      rw [partial?_applyBuffered]
      exact h t' (by simp [ht'])
    obtain ⟨i1, i2, i3⟩ := ih (m.applyBuffered t.1 t.2) h'
    show ((applyAll (m.applyBuffered t.1 t.2) T).db, (applyAll (m.applyBuffered t.1 t.2) T).buf) = _ ∧
      (applyAll (m.applyBuffered t.1 t.2) T).seqRows = _ ∧ (applyAll (m.applyBuffered t.1 t.2) T).alive = _
    rw [i1, i2, i3, hstep]
    simp only [List.foldl_cons, clearMeta_db, clearMeta_alive, applyCore_db, applyCore_alive,
      clearMeta_buf_single, clearMeta_seqRows_single, applyCore_buf, applyCore_seqRows, applyTask,
      and_self]

theorem mem_foldl_filter_rows {r : SeqRow} (T : List (Nat × Nat)) (rows : List SeqRow) :
    r ∈ T.foldl (fun rows t => rows.filter (fun r => !decide (r.site = t.1 ∧ r.ver = t.2))) rows ↔
      r ∈ rows ∧ ∀ t ∈ T, ¬ (r.site = t.1 ∧ r.ver = t.2) := by
  induction T generalizing rows with
  | nil => simp
  | cons t T ih =>
    simp only [List.foldl_cons, ih, List.mem_filter, List.mem_cons, forall_eq_or_imp,
      Bool.not_eq_true', decide_eq_false_iff_not, and_assoc]

theorem applyTask_foldl_buf {c : Chg} (T : List (Nat × Nat)) (s : Db × List Chg) :
    c ∈ (T.foldl applyTask s).2 ↔ c ∈ s.2 ∧ ∀ t ∈ T, ¬ (c.site = t.1 ∧ c.dbv = t.2) := by
  induction T generalizing s with
  | nil => simp
  | cons t T ih =>
    simp only [List.foldl_cons, ih, applyTask, List.mem_filter, List.mem_cons, forall_eq_or_imp,
      Bool.not_eq_true', decide_eq_false_iff_not, and_assoc]

def rowPartial (r : SeqRow) : Partial := ⟨[(r.lo, r.hi)], r.last⟩

def loadRows (b : Booked) (rs : List SeqRow) : Booked :=
  rs.foldl (fun b r => (b.insertPartial r.ver (rowPartial r)).1) b

/-- the sequence rows of actor `a` in primary-key order -/
def actorRows (n : Node) (a : Nat) : List SeqRow :=
  (n.seqRows.filter (·.site = a)).foldl
    (fun acc r => insertSortedBy (fun (x : SeqRow) => x.ver * 1000000 + x.lo) r acc) []

theorem fromConn_eq (n : Node) (a : Nat) :
    n.fromConn a = { loadRows { max := dbvOf n a } (actorRows n a) with needed := (n.booked a).needed } := rfl

/-- the sort key `ver * 1000000 + lo` is the one of `Node.fromConn` (primary-key order); only
membership is used -/
theorem mem_actorRows {n : Node} {a : Nat} {r : SeqRow} : r ∈ actorRows n a ↔ r ∈ n.seqRows ∧ r.site = a := by
  unfold actorRows
  rw [mem_foldl_insertSortedBy, List.mem_filter]
  simp

/-- invariant of loading rows `done` into an initially partial-free bookkeeping with head `m0` -/
structure LoadInv (m0 : Nat) (done : List SeqRow) (b : Booked) : Prop where
  pwf : b.PWF
  keys : b.KeysSorted
  some_iff : ∀ v, (b.partial? v).isSome = true ↔ ∃ r ∈ done, r.ver = v
  mem : ∀ v p, b.partial? v = some p →
    ∀ x, RSet.Mem p.seqs x ↔ ∃ r ∈ done, r.ver = v ∧ r.lo ≤ x ∧ x ≤ r.hi
  last : ∀ v p, b.partial? v = some p → ∃ r ∈ done, r.ver = v ∧ p.last = r.last
  max_ge : m0 ≤ b.max ∧ ∀ r ∈ done, r.ver ≤ b.max
  max_att : b.max = m0 ∨ ∃ r ∈ done, b.max = r.ver
  needed : b.needed = []

theorem rowPartial_wf {r : SeqRow} (h : r.lo ≤ r.hi) : RSet.WF (rowPartial r).seqs := by
  exact ⟨Nat.zero_le _, h, trivial⟩

theorem loadInv_step {m0 : Nat} {done : List SeqRow} {b : Booked} (hi : LoadInv m0 done b) (r : SeqRow)
    (hr : r.lo ≤ r.hi) : LoadInv m0 (done ++ [r]) (b.insertPartial r.ver (rowPartial r)).1 := by
  have hwf := rowPartial_wf hr
  have hP := partial?_insertPartial b r.ver (rowPartial r)
  refine ⟨insertPartial_pwf hi.pwf r.ver hwf, insertPartial_keysSorted hi.keys r.ver _, ?_, ?_, ?_, ?_, ?_,
    by rw [insertPartial_needed]; exact hi.needed⟩
  · intro v
    rw [hP, exists_mem_snoc, ← hi.some_iff v]
    split
    · next hv => exact ⟨fun _ => Or.inr hv.symm, fun _ => rfl⟩
    · next hv => exact ⟨Or.inl, fun h => h.resolve_right (fun h => hv h.symm)⟩
  · intro v p hp x
    rw [hP] at hp
    rw [exists_mem_snoc]
    split at hp
    · next hv =>
      cases hp; subst hv
      rw [mem_mergedPartial r.ver hwf]
      refine or_congr ⟨fun ⟨old, ho, hm⟩ => (hi.mem r.ver old ho x).mp hm, fun hx => ?_⟩
        ⟨fun hm => ⟨rfl, RSet.mem_singleton.mp hm⟩, fun hm => RSet.mem_singleton.mpr hm.2⟩
      obtain ⟨old, ho⟩ := Option.isSome_iff_exists.mp
        ((hi.some_iff r.ver).mpr (let ⟨r', h1, h2, _⟩ := hx; ⟨r', h1, h2⟩))
      exact ⟨old, ho, (hi.mem r.ver old ho x).mpr hx⟩
    · next hv =>
      rw [hi.mem v p hp x]
      exact ⟨Or.inl, fun h => h.resolve_right (fun h => hv h.1.symm)⟩
  · intro v p hp
    rw [hP] at hp
    rw [exists_mem_snoc]
    split at hp
    · next hv =>
      cases hp; subst hv
      rw [mergedPartial_last]
      cases ho : b.partial? r.ver with
      | none => exact Or.inr ⟨rfl, rfl⟩
      | some old => exact Or.inl (hi.last r.ver old ho)
    · exact Or.inl (hi.last v p hp)
  · rw [insertPartial_max, forall_mem_snoc]
    split
    · next hs =>
      obtain ⟨r', h2, h3⟩ := (hi.some_iff r.ver).mp hs
      exact ⟨hi.max_ge.1, hi.max_ge.2, h3 ▸ hi.max_ge.2 r' h2⟩
    · exact ⟨Nat.le_trans hi.max_ge.1 (Nat.le_max_left _ _),
        fun r' h => Nat.le_trans (hi.max_ge.2 r' h) (Nat.le_max_left _ _), Nat.le_max_right _ _⟩
  · rw [insertPartial_max, exists_mem_snoc]
    split
    · exact hi.max_att.imp_right Or.inl
    · rcases Nat.le_total r.ver b.max with hle | hle
      · rw [show Nat.max b.max r.ver = b.max from Nat.max_eq_left hle]; exact hi.max_att.imp_right Or.inl
      · exact Or.inr (Or.inr (Nat.max_eq_right hle))

theorem loadInv_init (m0 : Nat) : LoadInv m0 [] { max := m0 } :=
  ⟨nofun, List.Pairwise.nil, fun _ => ⟨nofun, nofun⟩, nofun, nofun, ⟨Nat.le_refl _, nofun⟩, Or.inl rfl, rfl⟩

theorem loadRows_inv (m0 : Nat) (rs : List SeqRow) (hf : ∀ r ∈ rs, r.lo ≤ r.hi) :
    LoadInv m0 rs (loadRows { max := m0 } rs) :=
  foldl_inv_prefix rs _ _ (LoadInv m0) (loadInv_init m0)
    (fun _ r _ _ hl h => loadInv_step h r (hf r (by rw [hl]; simp)))

theorem loadRows_keysSorted (b : Booked) (hb : b.KeysSorted) (rs : List SeqRow) :
    (loadRows b rs).KeysSorted :=
  foldl_inv Booked.KeysSorted _ rs b hb (fun _ r _ h => insertPartial_keysSorted h r.ver _)

theorem partial?_fromConn (n : Node) (a v : Nat) :
    (n.fromConn a).partial? v = (loadRows { max := dbvOf n a } (actorRows n a)).partial? v := rfl

theorem fromConn_keysSorted (n : Node) (a : Nat) : (n.fromConn a).KeysSorted :=
  loadRows_keysSorted { max := dbvOf n a } (by unfold Booked.KeysSorted; exact List.Pairwise.nil) (actorRows n a)

theorem fromConn_max (n : Node) (a : Nat) :
    (n.fromConn a).max = (loadRows { max := dbvOf n a } (actorRows n a)).max := rfl

theorem fromConn_needed (n : Node) (a : Nat) : (n.fromConn a).needed = (n.booked a).needed := rfl

def Node.ActorRowsForward (n : Node) (a : Nat) : Prop := ∀ r ∈ n.seqRows, r.site = a → r.lo ≤ r.hi

theorem fromConn_inv (n : Node) (a : Nat) (hf : n.ActorRowsForward a) :
    LoadInv (dbvOf n a) (actorRows n a) (loadRows { max := dbvOf n a } (actorRows n a)) :=
  loadRows_inv _ _ (fun r hr => by have := mem_actorRows.mp hr; exact hf r this.1 this.2)

theorem exists_mem_actorRows {n : Node} {a : Nat} {P : SeqRow → Prop} :
    (∃ r ∈ actorRows n a, P r) ↔ ∃ r ∈ n.seqRows, r.site = a ∧ P r := by
  simp only [mem_actorRows, and_assoc]

theorem fromConn_partial_isSome (n : Node) (a v : Nat) (hf : n.ActorRowsForward a) :
    ((n.fromConn a).partial? v).isSome = true ↔ ∃ r ∈ n.seqRows, r.site = a ∧ r.ver = v := by
  rw [partial?_fromConn, (fromConn_inv n a hf).some_iff v, exists_mem_actorRows]

theorem fromConn_partial_spec (n : Node) (a v : Nat) (hf : n.ActorRowsForward a) {p : Partial}
    (hp : (n.fromConn a).partial? v = some p) :
    RSet.WF p.seqs ∧ (∀ x, RSet.Mem p.seqs x ↔ SeqMem n.seqRows a v x) ∧
      ∃ r ∈ n.seqRows, r.site = a ∧ r.ver = v ∧ p.last = r.last := by
  have hi := fromConn_inv n a hf
  rw [partial?_fromConn] at hp
  exact ⟨hi.pwf.of_partial? hp, fun x => (hi.mem v p hp x).trans exists_mem_actorRows,
    exists_mem_actorRows.mp (hi.last v p hp)⟩

/-- the node right after the reload, before the re-scheduled applies -/
def reloaded (n : Node) : Node := { n with book := restartBook n, alive := true }

theorem reloaded_booked (n : Node) (a : Nat) :
    (reloaded n).booked a = if a ∈ n.knownActors then n.fromConn a else {} := by
  rw [booked_eq]
  show (alook (restartBook n) a).getD {} = _
  unfold restartBook
  rw [alook_map_key]
  split <;> rfl

theorem mem_restartTasks {n : Node} {t : Nat × Nat} :
    t ∈ restartTasks n ↔
      t.1 ∈ n.knownActors ∧ ∃ p, (n.fromConn t.1).partial? t.2 = some p ∧ p.complete = true := by
  unfold restartTasks restartBook
  simp only [List.mem_flatMap, List.mem_map, List.mem_filter]
  constructor
  · rintro ⟨e, ⟨a, ha, rfl⟩, vp, ⟨hvp, hc⟩, rfl⟩
    exact ⟨ha, vp.2, partial?_of_mem (fromConn_keysSorted n a) hvp, hc⟩
  · rintro ⟨ha, p, hp, hc⟩
    exact ⟨(t.1, n.fromConn t.1), ⟨t.1, ha, rfl⟩, (t.2, p), ⟨alook_some_mem hp, hc⟩, rfl⟩

/-- **which versions a restart re-schedules**: those with sequence rows whose ranges cover
`0..=L`, `L` the `last_seq` their (forward) rows carry -/
theorem mem_restartTasks_rows (n : Node) (a v L : Nat) (hf : n.ActorRowsForward a)
    (hlast : ∀ r ∈ n.seqRows, r.site = a → r.ver = v → r.last = L) :
    (a, v) ∈ restartTasks n ↔
      (∃ r ∈ n.seqRows, r.site = a ∧ r.ver = v) ∧ ∀ x, x ≤ L → SeqMem n.seqRows a v x := by
  rw [mem_restartTasks]
  constructor
  · rintro ⟨_, p, hp, hc⟩
    obtain ⟨hw, hm, r, hr, h1, h2, h3⟩ := fromConn_partial_spec n a v hf hp
    exact ⟨⟨r, hr, h1, h2⟩, fun x hx =>
      (hm x).mp ((complete_iff hw).mp hc x (by rw [h3, hlast r hr h1 h2]; exact hx))⟩
  · rintro ⟨hex, hcov⟩
    obtain ⟨p, hp⟩ := Option.isSome_iff_exists.mp ((fromConn_partial_isSome n a v hf).mpr hex)
    obtain ⟨hw, hm, r, hr, h1, h2, h3⟩ := fromConn_partial_spec n a v hf hp
    obtain ⟨r0, hr0, hs0, _⟩ := hex
    exact ⟨mem_knownActors.mpr (Or.inr (Or.inl ⟨r0, hr0, hs0⟩)), p, hp,
      (complete_iff hw).mpr fun x hx => (hm x).mpr (hcov x (by rwa [h3, hlast r hr h1 h2] at hx))⟩

theorem restart_eq' (n : Node) : n.restart = applyAll (reloaded n) (restartTasks n) := by
  unfold Node.restart restartTasks applyAll
  simp only
  rw [List.foldl_flatMap]
  congr 1
  funext m e
  rw [List.foldl_map, List.foldl_filter]

theorem restart_id (n : Node) : (n.restart).id = n.id := by
  rw [restart_eq', applyAll_id]; rfl

theorem restartTasks_complete (n : Node) :
    ∀ t ∈ restartTasks n, ∃ p, ((reloaded n).booked t.1).partial? t.2 = some p ∧ p.complete = true := by
  intro t ht
  obtain ⟨ha, p, hp, hc⟩ := mem_restartTasks.mp ht
  rw [reloaded_booked, if_pos ha]
  exact ⟨p, hp, hc⟩

/-- `applyAll_tasks` for the restart: store and buffer, sequence rows, and the node is alive -/
theorem restart_effect (n : Node) :
    ((n.restart).db, (n.restart).buf) = (restartTasks n).foldl applyTask (n.db, n.buf) ∧
    (n.restart).seqRows =
      (restartTasks n).foldl (fun rows t => rows.filter (fun r => !decide (r.site = t.1 ∧ r.ver = t.2)))
        n.seqRows ∧
    (n.restart).alive = true := by
  rw [restart_eq']
  exact applyAll_tasks (reloaded n) (restartTasks n) (restartTasks_complete n)

end Corro.Node
