/-
C01, protocol level, BATCHES — what `Node.deliver batch` merges into the store (`mergedByBatch`, the
ghost list of the batched cluster model) is exact, for ANY node state and ANY batch, and consists of
changes that were buffered before or came with the batch; so do the buffered rows afterwards.
Hence the store-level invariant `NInv` is preserved by a batch (`ninv_deliverB`).  Also: invariants
along a sequence of batches (`deliverB_foldl_inv`).
-/
import Corro.Lemmas.ClusterBatchGI

namespace Corro.ClusterSys
open Corro.Crdt Corro.Node

/-- `e` came with one of the changesets `items` -/
def FromItems (items : List Item) (e : Chg) : Prop := ∃ it ∈ items, e ∈ itemChanges it

theorem FromItems.mono {items items' : List Item} {e : Chg} (h : FromItems items e)
    (hs : ∀ it ∈ items, it ∈ items') : FromItems items' e := by
  obtain ⟨it, h1, h2⟩ := h
  exact ⟨it, hs it h1, h2⟩

theorem stepMerged_eq (b0 : Booked) (st : TxSt) (it : Item) :
    stepMerged b0 st it =
      if b0.containsAll it.versions.1 it.versions.2 it.seqs then []
      else if alreadySeen st.seen it then []
      else if it.isComplete then itemChanges it else [] := by
  cases it <;> rfl

theorem stepMerged_of_case {b0 : Booked} {st : TxSt} {it : Item} {M : List Chg} (h : ProcCase b0 st it M) :
    stepMerged b0 st it = M := by
  rw [stepMerged_eq]
  cases h with
  | skip _ why =>
    rcases why with hc | hs | ⟨s, v, lo, hi, last, cs, rfl, hlt⟩
    · exact if_pos hc
    · rw [if_pos hs, ite_self]
    · -- a backward seq range is not the whole `0..=last`
      have hinc : ¬ (Item.full s v lo hi last cs).isComplete = true := by
        simp only [Item.isComplete, Bool.and_eq_true, beq_iff_eq]
        omega
      rw [if_neg hinc, ite_self, ite_self]
  | cleared _ hshape =>
    have hnil : itemChanges it = [] := by
      rcases hshape with rfl | ⟨_, rfl, _⟩ <;> rfl
    rw [hnil, ite_self, ite_self, ite_self]
  | complete _ hit _ hnc hns =>
    subst hit
    exact (if_neg (ne_true_of_eq_false hnc)).trans ((if_neg (ne_true_of_eq_false hns)).trans
      (if_pos (by simp only [Item.isComplete, beq_self_eq_true, Bool.and_self])))
  | buffer _ hit _ hinc hnc hns =>
    subst hit
    exact (if_neg (ne_true_of_eq_false hnc)).trans ((if_neg (ne_true_of_eq_false hns)).trans
      (if_neg (by simpa only [Item.isComplete, Bool.and_eq_true, beq_iff_eq] using hinc)))

theorem stCleared_node (b0 : Booked) (st : TxSt) (s vlo vhi : Nat) :
    (stCleared b0 st s vlo vhi).node = if b0.max ≤ vhi then st.node.bumpDbv s vhi else st.node := rfl

/-- a relation between a node and a later state of it that every elementary step of a batch respects
holds between a node and the node after the batch (and the node before the batch's applies) -/
theorem deliver_rel (Rel : Node → Node → Prop) (hrefl : ∀ n, Rel n n) (htrans : ∀ {a b c}, Rel a b → Rel b c → Rel a c)
    (hbump : ∀ n s v, Rel n (n.bumpDbv s v)) (hmerge : ∀ n cs, Rel n (n.mergeChanges cs))
    (hchunk : ∀ n s v lo hi last cs, Rel n (n.bufferChunk s v lo hi last cs).1)
    (hbook : ∀ (n : Node) bk, Rel n { n with book := bk })
    (hclear : ∀ n s lo hi, Rel n (n.clearMeta s lo hi)) (happly : ∀ n a v, Rel n (n.applyBuffered a v))
    (n : Node) (batch : List Item) :
    Rel n (clearAll (deliverFold n batch).1 (deliverFold n batch).2.2) ∧ Rel n (n.deliver batch) := by
  have hproc : ∀ b0 st it, Rel st.node (processOne b0 st it).node := by
    intro b0 st it
    obtain ⟨_, hc⟩ := procCase b0 st it
    cases hc with
    | skip h => rw [h]; exact hrefl _
    | cleared h =>
      rw [h, stCleared_node]
      split
      · exact hbump _ _ _
      · exact hrefl _
    | complete h => rw [h]; exact hmerge _ _
    | buffer h => rw [h]; exact hchunk _ _ _ _ _ _ _
  have hactor : ∀ (m : Node) site items, Rel m (processActor m site items).1 := by
    intro m site items
    obtain ⟨⟨bk, h⟩, _⟩ := processActor_obs m site items
    rw [h]
    refine htrans ?_ (hbook _ bk)
    unfold txFold
    exact foldl_inv (fun (st : TxSt) => Rel m st.node) _ _ _ (hrefl m) (fun st it _ h => htrans h (hproc _ st it))
  have hfold : Rel n (deliverFold n batch).1 := by
    unfold deliverFold
    exact foldl_inv (fun (acc : Node × List (Nat × Nat) × List (Nat × Nat × Nat)) => Rel n acc.1) _ _ _ (hrefl n)
      (fun acc s _ h => htrans h (hactor acc.1 s _))
  have hcl : ∀ (cl : List (Nat × Nat × Nat)) (m : Node), Rel m (clearAll m cl) := by
    intro cl
    induction cl with
    | nil => exact hrefl
    | cons c cl ih => exact fun m => htrans (hclear m c.1 c.2.1 c.2.2) (ih _)
  have hap : ∀ (ap : List (Nat × Nat)) (m : Node), Rel m (applyAll m ap) := by
    intro ap
    induction ap with
    | nil => exact hrefl
    | cons t ap ih => exact fun m => htrans (happly m t.1 t.2) (ih _)
  refine ⟨htrans hfold (hcl _ _), ?_⟩
  rw [deliver_eq']
  unfold finish
  split
  · exact htrans hfold (htrans (hcl _ _) (hap _ _))
  · exact htrans hfold (hcl _ _)

/-- store, ghost list and buffered rows relative to the start node `n` and the changesets `items` -/
structure DbInv (n : Node) (items : List Item) (N : Node) (M : List Chg) : Prop where
  db : N.db = mergeAll n.db M
  sub : ∀ e ∈ M, e ∈ n.buf ∨ FromItems items e
  buf : ∀ c ∈ N.buf, c ∈ n.buf ∨ FromItems items c

theorem DbInv.refl (n : Node) (items : List Item) : DbInv n items n [] :=
  ⟨rfl, (fun e he => by cases he), fun c hc => Or.inl hc⟩

theorem processOne_dbInv (b0 : Booked) (st : TxSt) (it : Item) :
    DbInv st.node [it] (processOne b0 st it).node (stepMerged b0 st it) := by
  obtain ⟨_, hc⟩ := procCase b0 st it
  rw [stepMerged_of_case hc]
  cases hc with
  | skip h => rw [h]; exact DbInv.refl _ _
  | cleared h =>
    rw [h, stCleared_node]
    split
    · exact ⟨bumpDbv_db _ _ _, nofun, fun c hc => Or.inl (by rwa [bumpDbv_buf] at hc)⟩
    · exact DbInv.refl _ _
  | complete h hit =>
    rw [h]
    exact ⟨mergeChanges_db _ _, fun e he => Or.inr ⟨it, List.mem_singleton_self _, hit ▸ he⟩,
      fun c hc => Or.inl (mergeChanges_buf st.node _ ▸ hc)⟩
  | buffer h hit =>
    rw [h]
    exact ⟨bufferChunk_db _ _ _ _ _ _ _, nofun,
      fun c hc => (mem_bufferChunk_buf hc).imp_right (fun h' => ⟨it, List.mem_singleton_self _, hit ▸ h'⟩)⟩

theorem DbInv.mono {n : Node} {items items' : List Item} {N : Node} {M : List Chg} (h : DbInv n items N M)
    (hs : ∀ it ∈ items, it ∈ items') : DbInv n items' N M := by
  refine ⟨h.db, ?_, ?_⟩
  · intro e he
    rcases h.sub e he with h1 | h1
    · exact Or.inl h1
    · exact Or.inr (h1.mono hs)
  · intro c hc
    rcases h.buf c hc with h1 | h1
    · exact Or.inl h1
    · exact Or.inr (h1.mono hs)

theorem DbInv.trans {n : Node} {items : List Item} {N N' : Node} {M M' : List Chg} (h : DbInv n items N M)
    (h' : DbInv N items N' M') : DbInv n items N' (M ++ M') := by
  refine ⟨?_, ?_, ?_⟩
  · rw [h'.db, h.db, mergeAll_append]
  · intro e he
    rcases List.mem_append.mp he with he | he
    · exact h.sub e he
    · rcases h'.sub e he with h1 | h1
      · exact h.buf e h1
      · exact Or.inr h1
  · intro c hc
    rcases h'.buf c hc with h1 | h1
    · exact h.buf c h1
    · exact Or.inr h1

theorem txFoldG_dbInv (n : Node) (site : Nat) (items : List Item) :
    DbInv n items (txFoldG n site items).1.node (txFoldG n site items).2 := by
  unfold txFoldG
  apply foldl_inv (fun (s : TxSt × List Chg) => DbInv n items s.1.node s.2)
  · exact DbInv.refl n items
  · intro s it hit hs
    unfold txStepG
    simp only
    exact hs.trans ((processOne_dbInv _ _ _).mono (fun _ h => List.mem_singleton.mp h ▸ hit))

theorem txFoldG_fst (n : Node) (site : Nat) (items : List Item) :
    (txFoldG n site items).1 = txFold n site items := by
  unfold txFoldG txFold
  suffices hs : ∀ (acc : TxSt × List Chg),
      (items.foldl (txStepG (n.booked site)) acc).1 = items.foldl (processOne (n.booked site)) acc.1 from hs _
  induction items with
  | nil => intro acc; rfl
  | cons it items ih => intro acc; simp only [List.foldl_cons]; rw [ih]; rfl

theorem processActor_dbInv (n : Node) (site : Nat) (items : List Item) :
    DbInv n items (processActor n site items).1 (txMerged n site items) := by
  have h := txFoldG_dbInv n site items
  rw [txFoldG_fst] at h
  unfold txMerged
  rw [processActor_node]
  split
  · exact h
  · exact ⟨by simpa using h.db, h.sub, by simpa using h.buf⟩

/-- the fold of `processActor` over the actors of the batch, with the ghost list -/
def deliverFoldG (n : Node) (batch : List Item) :
    (Node × List (Nat × Nat) × List (Nat × Nat × Nat)) × List Chg :=
  (sitesOf (unknownB n batch)).foldl (actorStepG (unknownB n batch)) ((n, [], []), [])

theorem deliverFoldG_fst (n : Node) (batch : List Item) : (deliverFoldG n batch).1 = deliverFold n batch := by
  unfold deliverFoldG deliverFold
  show ((sitesOf (unknownOf n batch)).foldl (actorStepG (unknownOf n batch)) ((n, [], []), [])).1 = _
  suffices hs : ∀ (l : List Nat) (acc : (Node × List (Nat × Nat) × List (Nat × Nat × Nat)) × List Chg),
      (l.foldl (actorStepG (unknownOf n batch)) acc).1 = l.foldl (actorStep (unknownOf n batch)) acc.1 from hs _ _
  intro l
  induction l with
  | nil => intro acc; rfl
  | cons s l ih => intro acc; simp only [List.foldl_cons]; rw [ih]; rfl

theorem deliverFoldG_dbInv (n : Node) (batch : List Item) :
    DbInv n batch (deliverFoldG n batch).1.1 (deliverFoldG n batch).2 := by
  unfold deliverFoldG
  apply foldl_inv (fun (acc : (Node × List (Nat × Nat) × List (Nat × Nat × Nat)) × List Chg) =>
    DbInv n batch acc.1.1 acc.2)
  · exact DbInv.refl n batch
  · intro acc s _ hacc
    unfold actorStepG
    simp only
    apply hacc.trans
    apply (processActor_dbInv acc.1.1 s _).mono
    intro it hit
    exact mem_unknownOf (n := n) (List.mem_filter.mp hit).1

theorem clearAll_dbInv (N : Node) (items : List Item) (cl : List (Nat × Nat × Nat)) :
    DbInv N items (clearAll N cl) [] :=
  ⟨clearAll_db N cl, (fun e he => by cases he), fun c hc => Or.inl (mem_clearAll_buf.mp hc).1⟩

theorem applyBuffered_db (N : Node) (a v : Nat) : (N.applyBuffered a v).db = mergeAll N.db (appliedBy N a v) := by
  rcases applyBuffered_cases N a v with ⟨hX, hskip⟩ | ⟨p, hp, hpc, hX⟩
  · rw [hX, appliedBy_skip hskip]; rfl
  · rw [hX, clearMeta_db, applyCore_db, appliedBy_complete hp hpc]

theorem mem_appliedBy {N : Node} {a v : Nat} {e : Chg} (h : e ∈ appliedBy N a v) : e ∈ N.buf := by
  unfold appliedBy at h
  split at h
  · cases h
  · split at h
    · rw [mem_sortBySeq] at h
      exact (List.mem_filter.mp h).1
    · cases h

def applyMerged (N : Node) (ap : List (Nat × Nat)) : List Chg := (ap.foldl applyStepG (N, [])).2

theorem applyFoldG_eq (ap : List (Nat × Nat)) (N : Node) (M : List Chg) :
    ap.foldl applyStepG (N, M) = (applyAll N ap, M ++ applyMerged N ap) := by
  induction ap generalizing N M with
  | nil => simp [applyMerged]
  | cons t ap ih =>
    have hstep : ∀ M', applyStepG (N, M') t = (N.applyBuffered t.1 t.2, M' ++ appliedBy N t.1 t.2) := fun _ => rfl
    unfold applyMerged
    simp only [List.foldl_cons]
    rw [hstep, hstep, ih, ih]
    simp only [List.nil_append, List.append_assoc]
    rfl

theorem applyMerged_cons (N : Node) (t : Nat × Nat) (ap : List (Nat × Nat)) :
    applyMerged N (t :: ap) = appliedBy N t.1 t.2 ++ applyMerged (N.applyBuffered t.1 t.2) ap := by
  have hstep : applyStepG (N, []) t = (N.applyBuffered t.1 t.2, [] ++ appliedBy N t.1 t.2) := rfl
  unfold applyMerged
  simp only [List.foldl_cons]
  rw [hstep, applyFoldG_eq]
  simp only [List.nil_append]
  rfl

theorem applyAll_dbInv (items : List Item) (ap : List (Nat × Nat)) (N : Node) :
    DbInv N items (applyAll N ap) (applyMerged N ap) := by
  induction ap generalizing N with
  | nil => exact DbInv.refl N items
  | cons t ap ih =>
    rw [applyMerged_cons]
    have hone : DbInv N items (N.applyBuffered t.1 t.2) (appliedBy N t.1 t.2) :=
      ⟨applyBuffered_db N t.1 t.2, fun e he => Or.inl (mem_appliedBy he),
        fun c hc => Or.inl (mem_applyBuffered_buf hc)⟩
    exact hone.trans (ih (N.applyBuffered t.1 t.2))

theorem mergedByBatch_eq (n : Node) (batch : List Item) :
    mergedByBatch n batch =
      if (clearAll (deliverFold n batch).1 (deliverFold n batch).2.2).alive then
        (deliverFoldG n batch).2 ++
          applyMerged (clearAll (deliverFold n batch).1 (deliverFold n batch).2.2) (deliverFold n batch).2.1
      else (deliverFoldG n batch).2 := by
  rw [← deliverFoldG_fst]
  show (if (clearAll (deliverFoldG n batch).1.1 (deliverFoldG n batch).1.2.2).alive then
      ((deliverFoldG n batch).1.2.1.foldl applyStepG
        (clearAll (deliverFoldG n batch).1.1 (deliverFoldG n batch).1.2.2, (deliverFoldG n batch).2)).2
      else (deliverFoldG n batch).2) = _
  split
  · rw [applyFoldG_eq]
  · rfl

theorem deliver_dbInv (n : Node) (batch : List Item) :
    DbInv n batch (n.deliver batch) (mergedByBatch n batch) := by
  have h1 := deliverFoldG_dbInv n batch
  rw [deliverFoldG_fst] at h1
  have h2 := h1.trans (clearAll_dbInv (deliverFold n batch).1 batch (deliverFold n batch).2.2)
  rw [List.append_nil] at h2
  rw [deliver_eq', mergedByBatch_eq]
  unfold finish
  split
  · exact h2.trans (applyAll_dbInv batch _ _)
  · exact h2

theorem mergedByBatch_spec (n : Node) (batch : List Item) :
    (n.deliver batch).db = mergeAll n.db (mergedByBatch n batch) := (deliver_dbInv n batch).db

theorem DbInv.ninv {L : Log} {n N : Node} {items : List Item} {M R : List Chg} (h : DbInv n items N M)
    (hN : NInv L n R) (hL : LogOK L) (hit : ∀ it ∈ items, ∀ e ∈ itemChanges it, e ∈ L.all) :
    NInv L N (M ++ R) := by
  have hsrc : ∀ e, e ∈ n.buf ∨ FromItems items e → e ∈ L.all := by
    rintro e (he | ⟨it, h1, h2⟩)
    · exact hN.bufsub e he
    · exact hit it h1 e h2
  have hm : ∀ e ∈ M, e ∈ L.all := fun e he => hsrc e (h.sub e he)
  refine ⟨?_, ?_, ?_⟩
  · rw [h.db]
    exact hN.store.mergeAll (fun c hc => hL.chgOK (hm c hc))
  · intro e he
    rcases List.mem_append.mp he with h1 | h1
    · exact hm e h1
    · exact hN.rsub e h1
  · intro e he
    exact hsrc e (h.buf e he)

theorem ninv_deliverB {L : Log} {n : Node} {R : List Chg} {batch : List Item} (hN : NInv L n R)
    (hL : LogOK L) (hit : ∀ it ∈ batch, ∀ e ∈ itemChanges it, e ∈ L.all) :
    NInv L (n.deliver batch) (mergedByBatch n batch ++ R) :=
  (deliver_dbInv n batch).ninv hN hL hit

theorem deliverB_eq (s : Node × List Chg) (b : List Item) :
    deliverB s b = (s.1.deliver b, mergedByBatch s.1 b ++ s.2) := rfl

theorem deliverB_foldl_inv (P : Node → List Chg → Prop) (batches : List (List Item)) (n : Node) (R : List Chg)
    (h0 : P n R) (hstep : ∀ b ∈ batches, ∀ n R, P n R → P (n.deliver b) (mergedByBatch n b ++ R)) :
    P (batches.foldl deliverB (n, R)).1 (batches.foldl deliverB (n, R)).2 := by
  induction batches generalizing n R with
  | nil => exact h0
  | cons b batches ih =>
    -- `deliverB` is unfolded by rewriting, so that no pair projection meets `Node.deliver` in a unification
    rw [List.foldl_cons, deliverB_eq]
    exact ih _ _ (hstep b List.mem_cons_self n R h0) (fun b' hb' => hstep b' (List.mem_cons_of_mem _ hb'))

end Corro.ClusterSys
