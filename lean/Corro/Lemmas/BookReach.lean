/-
For C02: the state invariant `Inv`, its preservation by every operation
(`opInsert`, `opPartial`, `opReload`), the `from_conn` round trip and the lookup lemma behind the
partition statement about `generate_sync`.
-/
import Corro.Lemmas.BookInv
import Corro.Lemmas.BookSeq

namespace Corro.Book
open Corro Corro.RSet

/-- largest key (0 if empty) -/
def supKeys : PMap → Nat
  | [] => 0
  | e :: t => max e.1 (supKeys t)

theorem mem_pmPut {m : PMap} {v : Nat} {p : Partial} {e : Nat × Partial} (h : e ∈ pmPut m v p) :
    e = (v, p) ∨ e ∈ m := by
  induction m with
  | nil => exact .inl (List.mem_singleton.mp h)
  | cons a t ih =>
    obtain ⟨k, q⟩ := a
    rw [pmPut] at h
    split at h
    · exact List.mem_cons.mp h
    · split at h
      · rename_i hk
        subst hk
        exact (List.mem_cons.mp h).imp_right (List.mem_cons_of_mem _)
      · rcases List.mem_cons.mp h with h | h
        · exact .inr (h ▸ List.mem_cons_self)
        · exact (ih h).imp_right (List.mem_cons_of_mem _)

theorem pmPut_ne_nil (m : PMap) (v : Nat) (p : Partial) : pmPut m v p ≠ [] := by
  cases m with
  | nil => exact List.cons_ne_nil _ _
  | cons a t =>
    obtain ⟨k, q⟩ := a
    rw [pmPut]
    split
    · exact List.cons_ne_nil _ _
    · split <;> exact List.cons_ne_nil _ _

theorem supKeys_pmPut (m : PMap) (v : Nat) (p : Partial) : supKeys (pmPut m v p) = max v (supKeys m) := by
  induction m with
  | nil => rfl
  | cons a t ih =>
    obtain ⟨k, q⟩ := a
    rw [pmPut]
    split
    · rfl
    · split
      · rename_i hk
        simp only [supKeys, hk, ← Nat.max_assoc, Nat.max_self]
      · simp only [supKeys, ih, Nat.max_left_comm k]

theorem keysFrom_pmPut {lb : Nat} {m : PMap} (h : KeysFrom lb m) {v : Nat} (hv : lb ≤ v) (p : Partial) :
    KeysFrom lb (pmPut m v p) := by
  induction m generalizing lb with
  | nil => exact ⟨hv, trivial⟩
  | cons a t ih =>
    obtain ⟨k, q⟩ := a
    rw [pmPut]
    split
    · exact ⟨hv, by omega, h.2⟩
    · split
      · exact h
      · exact ⟨h.1, ih h.2 (by omega)⟩

theorem supKeys_le {m : PMap} {e : Nat × Partial} (h : e ∈ m) : e.1 ≤ supKeys m := by
  induction m with
  | nil => cases h
  | cons a t ih =>
    rcases List.mem_cons.mp h with rfl | h
    · exact Nat.le_max_left ..
    · exact Nat.le_trans (ih h) (Nat.le_max_right ..)

theorem supKeys_attained {P : PMap} (h : P ≠ []) : ∃ e ∈ P, e.1 = supKeys P := by
  induction P with
  | nil => exact absurd rfl h
  | cons a t ih =>
    by_cases ht : t = []
    · exact ⟨a, List.mem_cons_self, by rw [ht, supKeys, supKeys, Nat.max_zero]⟩
    · obtain ⟨e, he, hee⟩ := ih ht
      rcases Nat.le_total (supKeys t) a.1 with hle | hle
      · exact ⟨a, List.mem_cons_self, (Nat.max_eq_left hle).symm⟩
      · exact ⟨e, List.mem_cons_of_mem _ he, hee.trans (Nat.max_eq_right hle).symm⟩

theorem supKeys_filter_le (P : PMap) (f : Nat × Partial → Bool) : supKeys (P.filter f) ≤ supKeys P := by
  by_cases h : P.filter f = []
  · rw [h]; exact Nat.zero_le _
  · obtain ⟨e, he, hee⟩ := supKeys_attained h
    exact hee ▸ supKeys_le (List.mem_filter.mp he).1

theorem keysFrom_filter {lb : Nat} {m : PMap} (h : KeysFrom lb m) (f : Nat × Partial → Bool) :
    KeysFrom lb (m.filter f) := by
  induction m generalizing lb with
  | nil => trivial
  | cons e t ih =>
    rw [List.filter_cons]
    split
    · exact ⟨h.1, ih h.2⟩
    · exact keysFrom_mono (ih h.2) (Nat.le_succ_of_le h.1)

/-- `L v` is the `last_seq` the origin gave version `v` (every chunk of `v` carries it). -/
structure Inv (L : Nat → Nat) (st : Node) : Prop where
  /-- `needed` canonical, inside `1..head`, mirrored row by row in `__corro_bookkeeping_gaps` -/
  gaps : GapsOk st.book st.db.gaps
  /-- partial versions: distinct, ≥ 1 -/
  keys : KeysFrom 1 st.book.partials
  /-- a partial version is at most the head and is not needed -/
  pin : ∀ e ∈ st.book.partials, e.1 ≤ st.book.max.getD 0 ∧ ¬ Mem st.book.needed e.1
  /-- received seq ranges canonical, non-empty; `last_seq` is the origin's -/
  pwf : ∀ e ∈ st.book.partials, WF e.2.seqs ∧ e.2.seqs ≠ [] ∧ e.2.last = L e.1
  /-- `__corro_seq_bookkeeping` mirrors the partials row by row -/
  seqrows : st.db.seqs = seqRowsOf st.book.partials
  /-- the head is the larger of the `crsql_db_versions` row and the partial versions -/
  head1 : st.book.max.getD 0 = max (st.db.dbv.getD 0) (supKeys st.book.partials)
  /-- and there is no head exactly when there is neither -/
  head2 : st.book.max = none ↔ (st.db.dbv = none ∧ st.book.partials = [])

/-- operations inside the property's quantifier -/
def OpOk (L : Nat → Nat) : Op → Prop
  | .ins rs => rs ≠ [] ∧ ∀ r ∈ rs, 1 ≤ r.1 ∧ r.1 ≤ r.2
  | .part v _ last => 1 ≤ v ∧ last = L v
  | .reload => True

theorem inv_empty (L : Nat → Nat) : Inv L Node.empty :=
  ⟨⟨trivial, rfl, fun x hx => absurd hx (mem_nil x)⟩, trivial, nofun, nofun, rfl, rfl,
    ⟨fun _ => ⟨rfl, rfl⟩, fun _ => rfl⟩⟩

/-- `insert_db` of the ranges `rs` in a reachable state, in order: the result (partials untouched, because
none of them is needed); `GapsOk` of it, for ANY partials `P`, since `GapsOk` does not look at them and the
callers change them next; the arrival of `rs`; `Inv.pin` for the old partials. -/
theorem insertDb_inv {L : Nat → Nat} {st : Node} (h : Inv L st) {rs : List (Nat × Nat)}
    (hne : rs ≠ []) (hrs : ∀ r ∈ rs, 1 ≤ r.1 ∧ r.1 ≤ r.2) :
    ∃ N', insertDb st.book st.db.gaps (RSet.ofList rs) =
        .ok (⟨st.book.partials, N', some (max (st.book.max.getD 0) (supHi rs))⟩, N') ∧
      (∀ P, GapsOk ⟨P, N', some (max (st.book.max.getD 0) (supHi rs))⟩ N') ∧
      Arrive (st.book.max.getD 0) (Mem st.book.needed) (max (st.book.max.getD 0) (supHi rs)) (Mem N')
        (Mem rs) ∧
      (∀ e ∈ st.book.partials, e.1 ≤ max (st.book.max.getD 0) (supHi rs) ∧ ¬ Mem N' e.1) := by
  have hf : ∀ r ∈ rs, r.1 ≤ r.2 := fun r hr => (hrs r hr).2
  obtain ⟨P', N', e1, e2, e3, e4⟩ := insertDb_ok h.gaps (versOk_ofList hne hrs)
  rw [e4 fun e he => (h.pin e he).2, supHi_ofList hf] at e1
  rw [supHi_ofList hf] at e2 e3
  obtain ⟨r, hr, he⟩ := supHi_attained hne
  have arr : Arrive _ (Mem st.book.needed) _ (Mem N') (Mem rs) := Arrive.of_batch
    (fun x ⟨r, hr, h1, h2⟩ => ⟨Nat.le_trans (hrs r hr).1 h1, Nat.le_trans h2 (le_supHi hr)⟩)
    (fun x => by rw [e3, mem_ofList hf]) ⟨r, hr, he ▸ hf r hr, he ▸ Nat.le_refl _⟩
  exact ⟨N', e1, fun P => ⟨e2.wf, rfl, e2.inside⟩, arr,
    fun e he => (arr.held (h.pin e he).2 (h.pin e he).1).symm⟩

theorem filter_tagRows (f : Nat → Bool) (v l : Nat) (s : RSet) :
    (tagRows v l s).filter (fun row => f row.1) = if f v then tagRows v l s else [] := by
  split
  · exact List.filter_eq_self.mpr fun row hrow => tagRows_key row hrow ▸ ‹f v = true›
  · exact List.filter_eq_nil_iff.mpr fun row hrow => tagRows_key row hrow ▸ ‹¬ f v = true›

theorem seqRowsOf_filter (f : Nat → Bool) (P : PMap) :
    seqRowsOf (P.filter (fun e => f e.1)) = (seqRowsOf P).filter (fun row => f row.1) := by
  induction P with
  | nil => rfl
  | cons e t ih =>
    rw [seqRowsOf, List.filter_append, filter_tagRows, List.filter_cons, ← ih]
    split <;> rfl

theorem optLe_eq (m : Option Nat) (v : Nat) : optLe m v = decide (m.getD 0 ≤ v) := by
  cases m
  · exact (decide_eq_true (Nat.zero_le v)).symm
  · rfl

theorem dbvAfter_eq (max0 dbv : Option Nat) (rs : List (Nat × Nat)) :
    dbvAfter max0 dbv rs =
      (rs.filter fun r => decide (max0.getD 0 ≤ r.2)).foldl (fun d r => optMax d r.2) dbv := by
  rw [List.foldl_filter]
  simp only [dbvAfter, optLe_eq, setDbVersion]

/-- `Inv.head1` and `Inv.head2` after a batch of whole versions -/
theorem head_after_whole {L : Nat → Nat} {st : Node} (h : Inv L st) {rs : List (Nat × Nat)}
    (hne : rs ≠ []) :
    max (st.book.max.getD 0) (supHi rs) =
      max ((dbvAfter st.book.max st.db.dbv rs).getD 0)
        (supKeys (st.book.partials.filter (fun e => !coveredBy rs e.1))) ∧
    ¬ (dbvAfter st.book.max st.db.dbv rs = none ∧
        st.book.partials.filter (fun e => !coveredBy rs e.1) = []) := by
  have hfl := supKeys_filter_le st.book.partials (fun e => !coveredBy rs e.1)
  have h1 := h.head1
  have hd : st.db.dbv.getD 0 ≤ st.book.max.getD 0 := h1 ▸ Nat.le_max_left ..
  have hk : supKeys st.book.partials ≤ st.book.max.getD 0 := h1 ▸ Nat.le_max_right ..
  rw [dbvAfter_eq]
  by_cases hle : st.book.max.getD 0 ≤ supHi rs
  · -- the last range is written, and nothing is above it
    obtain ⟨r, hr, he⟩ := supHi_attained hne
    have hrW : r ∈ rs.filter fun r => decide (st.book.max.getD 0 ≤ r.2) :=
      List.mem_filter.mpr ⟨hr, decide_eq_true (he ▸ hle)⟩
    have hW := Nat.le_antisymm (supHi_le fun _ hr => le_supHi (List.mem_filter.mp hr).1) (he ▸ le_supHi hrW)
    rw [optMax_fold _ _ (List.ne_nil_of_mem hrW), hW, Option.getD_some, Nat.max_eq_right hle,
      Nat.max_eq_right (Nat.le_trans hd hle), Nat.max_eq_left (Nat.le_trans hfl (Nat.le_trans hk hle))]
    exact ⟨rfl, fun hh => nomatch hh.1⟩
  · -- nothing is written; if the head is a partial version, no range reaches it
    rw [List.filter_eq_nil_iff.mpr fun r hr => by have := le_supHi hr; rw [decide_eq_true_eq]; omega,
      List.foldl_nil, Nat.max_eq_left (Nat.le_of_not_le hle)]
    have hkeep : supKeys st.book.partials ≤ st.db.dbv.getD 0 ∨
        supKeys (st.book.partials.filter (fun e => !coveredBy rs e.1)) = supKeys st.book.partials := by
      by_cases hd : supKeys st.book.partials ≤ st.db.dbv.getD 0
      · exact .inl hd
      · obtain ⟨e, he, hee⟩ := supKeys_attained (P := st.book.partials)
          fun hp => hd (by rw [hp]; exact Nat.zero_le _)
        refine .inr (Nat.le_antisymm hfl (hee ▸ supKeys_le (List.mem_filter.mpr ⟨he, ?_⟩)))
        rw [Bool.not_eq_true', ← Bool.not_eq_true, coveredBy_iff]
        rintro ⟨r, hr, _, hr2⟩
        have := le_supHi hr
        omega
    constructor
    · rcases hkeep with hk' | hk'
      · rw [h1, Nat.max_eq_left hk', Nat.max_eq_left (Nat.le_trans hfl hk')]
      · rw [hk', h1]
    · rintro ⟨hn, hnil⟩
      rw [hn, hnil] at hkeep
      rw [hn] at h1
      simp only [supKeys, Option.getD_none] at hkeep h1
      omega

theorem wholeVersions_inv {L : Nat → Nat} {st : Node} (h : Inv L st) {rs : List (Nat × Nat)}
    (hne : rs ≠ []) (hrs : ∀ r ∈ rs, 1 ≤ r.1 ∧ r.1 ≤ r.2) :
    ∃ st', wholeVersions st rs = .ok st' ∧ Inv L st' ∧
      st'.book.partials = st.book.partials.filter (fun e => !coveredBy rs e.1) ∧
      Arrive (st.book.max.getD 0) (Mem st.book.needed) (st'.book.max.getD 0) (Mem st'.book.needed)
        (Mem rs) := by
  obtain ⟨N', e1, e2, e3, e4⟩ := insertDb_inv h hne hrs
  obtain ⟨hh1, hh2⟩ := head_after_whole h (rs := rs) hne
  have hsub : ∀ e ∈ st.book.partials.filter (fun e => !coveredBy rs e.1), e ∈ st.book.partials :=
    fun e he => (List.mem_filter.mp he).1
  refine ⟨⟨⟨st.book.partials.filter (fun e => !coveredBy rs e.1), N', _⟩,
      ⟨N', st.db.seqs.filter (fun row => !coveredBy rs row.1), dbvAfter st.book.max st.db.dbv rs⟩⟩,
    ?_, ⟨e2 _, keysFrom_filter h.keys _, fun e he => e4 e (hsub e he), fun e he => h.pwf e (hsub e he),
      ?_, hh1, ⟨nofun, fun hh => absurd hh hh2⟩⟩, rfl, e3⟩
  · rw [wholeVersions, e1]
    simp only [foldl_pmRemoveRange]
  · exact h.seqrows ▸ (seqRowsOf_filter (fun v => !coveredBy rs v) st.book.partials).symm

theorem containsVersion_iff (b : Book) (x : Nat) :
    containsVersion b x = true ↔ ¬ Mem b.needed x ∧ x ≤ b.max.getD 0 := by
  rw [containsVersion, Bool.and_eq_true, Bool.not_eq_true', ← Bool.not_eq_true, decide_eq_true_eq]
  exact and_congr_left' (not_congr (contains_iff b.needed x))

theorem containsAll_true {b : Book} {r : Nat × Nat} {s : Option (Nat × Nat)}
    (h : containsAll b r s = true) : ∀ x, r.1 ≤ x → x ≤ r.2 → contains b x s = true :=
  fun x h1 h2 => List.all_eq_true.mp h x (List.mem_range'_1.mpr (by omega))

theorem opInsert_inv {L : Nat → Nat} {st : Node} (h : Inv L st) {rs : List (Nat × Nat)}
    (hrs : ∀ r ∈ rs, 1 ≤ r.1 ∧ r.1 ≤ r.2) :
    Inv L (step st (.ins rs)) ∧
    (step st (.ins rs)).book.partials = st.book.partials.filter
      (fun e => !coveredBy (rs.filter (fun r => !containsAll st.book r none)) e.1) ∧
    Arrive (st.book.max.getD 0) (Mem st.book.needed) ((step st (.ins rs)).book.max.getD 0)
      (Mem (step st (.ins rs)).book.needed) (Mem rs) := by
  -- a range the guard drops is known point by point: at most the head, and not needed
  have hknown : ∀ x, Mem rs x → ¬ Mem (rs.filter (fun r => !containsAll st.book r none)) x →
      ¬ Mem st.book.needed x ∧ x ≤ st.book.max.getD 0 := by
    rintro x ⟨r, hr, hx⟩ hn
    have hc : containsAll st.book r none = true := Classical.byContradiction fun hc =>
      hn ⟨r, List.mem_filter.mpr ⟨hr, by rw [Bool.not_eq_true] at hc; rw [hc]; rfl⟩, hx⟩
    exact (containsVersion_iff _ _).mp (Bool.and_eq_true _ _ ▸ containsAll_true hc x hx.1 hx.2).1
  generalize hW : rs.filter (fun r => !containsAll st.book r none) = W at hknown
  have hWs : ∀ r ∈ W, r ∈ rs := fun r hr => (List.mem_filter.mp (hW ▸ hr)).1
  -- so the batch arrives, not only what is left of it
  have hwide : ∀ {M' N'}, Arrive (st.book.max.getD 0) (Mem st.book.needed) M' N' (Mem W) →
      Arrive (st.book.max.getD 0) (Mem st.book.needed) M' N' (Mem rs) := fun a =>
    a.widen (fun x ⟨r, hr, hx⟩ => ⟨r, hWs r hr, hx⟩)
      (fun x ⟨r, hr, hx⟩ => Nat.le_trans (hrs r hr).1 hx.1) hknown
  by_cases hp : W = []
  · -- everything already known: nothing happens
    have hstep : step st (.ins rs) = st := by rw [step, opInsert, hW, hp]; rfl
    rw [hstep, hp]
    exact ⟨h, (List.filter_eq_self.mpr fun _ _ => rfl).symm,
      hwide (hp ▸ Arrive.refl.congr fun x => ⟨False.elim, mem_nil x⟩)⟩
  · obtain ⟨st', e1, e2, e4, e5⟩ := wholeVersions_inv h hp fun r hr => hrs r (hWs r hr)
    have hstep : step st (.ins rs) = st' := by
      rw [step, opInsert, hW, List.isEmpty_eq_false_iff.mpr hp]
      simp only [Bool.false_eq_true, if_false, e1]
    exact hstep ▸ ⟨e2, e4, hwide e5⟩

theorem seqsOf_wf {L : Nat → Nat} {st : Node} (h : Inv L st) (v : Nat) : WF (seqsOf st.book.partials v) := by
  unfold seqsOf
  cases hl : st.book.partials.lookup v with
  | none => trivial
  | some p => exact (h.pwf _ (mem_of_lookup hl)).1

theorem insertPartial_eq {P : PMap} {N : RSet} {M v last : Nat} {mg : Nat × Nat} (hM : v ≤ M)
    (hlast : ∀ e ∈ P, e.1 = v → e.2.last = last) :
    (insertPartial ⟨P, N, some M⟩ v ⟨[mg], last⟩).1 =
      ⟨pmPut P v ⟨RSet.insert (seqsOf P v) mg, last⟩, N, some M⟩ := by
  unfold insertPartial seqsOf
  cases hl : P.lookup v with
  | none => exact congrArg (Book.mk _ N) (congrArg some (Nat.max_eq_left hM))
  | some got => rw [← hlast _ (mem_of_lookup hl) rfl]; rfl

/-- what one chunk does: nothing (already known / inverted range), or it is accepted — as a cleared
version when it spans `0..=last_seq` (it carries no changes), as a buffered part otherwise.  The second
case lists, in order: `opPartial`'s result, that `step` returns it, that the chunk was not known, `Inv`,
the arrival of `v`, and the new partials (cleared | buffered). -/
theorem opPartial_cases {L : Nat → Nat} {st : Node} (h : Inv L st) {v : Nat} (seqs : Nat × Nat) (hv : 1 ≤ v) :
    (step st (.part v seqs (L v)) = st ∧ ¬ ∃ st', opPartial st v seqs (L v) = .done st') ∨
    (∃ st', opPartial st v seqs (L v) = .done st' ∧ step st (.part v seqs (L v)) = st' ∧
      containsAll st.book (v, v) (some seqs) = false ∧ Inv L st' ∧
      Arrive (st.book.max.getD 0) (Mem st.book.needed) (st'.book.max.getD 0) (Mem st'.book.needed)
        (· = v) ∧
      (st'.book.partials = st.book.partials.filter (fun e => !coveredBy [(v, v)] e.1) ∨
       (seqs.1 ≤ seqs.2 ∧ st'.book.partials =
          pmPut st.book.partials v ⟨RSet.insert (seqsOf st.book.partials v) seqs, L v⟩))) := by
  have hrs : ∀ r ∈ [(v, v)], 1 ≤ r.1 ∧ r.1 ≤ r.2 := fun r hr => by
    rw [List.mem_singleton.mp hr]; exact ⟨hv, Nat.le_refl v⟩
  have hvv : ∀ x, Mem [(v, v)] x ↔ x = v := fun x => by
    rw [mem_singleton]
    show v ≤ x ∧ x ≤ v ↔ x = v
    omega
  by_cases hc : containsAll st.book (v, v) (some seqs) = true
  · have ho : opPartial st v seqs (L v) = .skipped := by rw [opPartial, if_pos hc]
    exact .inl ⟨by rw [step, ho], fun ⟨st', hd⟩ => nomatch ho.symm.trans hd⟩
  · by_cases hw : seqs.1 = 0 ∧ seqs.2 = L v
    · obtain ⟨st', e1, e2, e4, e5⟩ := wholeVersions_inv h (List.cons_ne_nil _ _) hrs
      have ho : opPartial st v seqs (L v) = .done st' := by rw [opPartial, if_neg hc, if_pos hw, e1]
      exact .inr ⟨st', ho, by rw [step, ho], Bool.not_eq_true _ ▸ hc, e2, e5.congr hvv, .inl e4⟩
    · by_cases hi : seqs.2 < seqs.1
      · have ho : opPartial st v seqs (L v) = .invalid := by rw [opPartial, if_neg hc, if_neg hw, if_pos hi]
        exact .inl ⟨by rw [step, ho], fun ⟨st', hd⟩ => nomatch ho.symm.trans hd⟩
      · obtain ⟨N', e1, e2, e3, e4⟩ := insertDb_inv h (List.cons_ne_nil _ _) hrs
        rw [show supHi [(v, v)] = v from Nat.max_zero v] at e1 e2 e3 e4
        have hlast : ∀ e ∈ st.book.partials, e.1 = v → e.2.last = L v :=
          fun e he hev => hev ▸ (h.pwf e he).2.2
        have hle := Nat.le_of_not_lt hi
        obtain ⟨mg, p1, p2⟩ := processIncomplete_spec h.keys v seqs.1 seqs.2 (L v) hle (seqsOf_wf h v) hlast
        have ho : opPartial st v seqs (L v) = .done
            ⟨⟨pmPut st.book.partials v ⟨RSet.insert (seqsOf st.book.partials v) mg, L v⟩, N',
                some (max (st.book.max.getD 0) v)⟩,
              ⟨N', seqRowsOf (pmPut st.book.partials v ⟨RSet.insert (seqsOf st.book.partials v) mg, L v⟩),
                st.db.dbv⟩⟩ := by
          rw [opPartial, if_neg hc, if_neg hw, if_neg hi, h.seqrows, p1]
          simp only [e1, insertPartial_eq (Nat.le_max_right ..) hlast]
        refine .inr ⟨_, ho, by rw [step, ho], Bool.not_eq_true _ ▸ hc, ?_, e3.congr hvv,
          .inr ⟨hle, p2 ▸ rfl⟩⟩
        refine ⟨e2 _, keysFrom_pmPut h.keys hv _, fun e he => ?_, fun e he => ?_, rfl, ?_,
          ⟨nofun, fun hh => absurd hh.2 (pmPut_ne_nil _ _ _)⟩⟩
        · rcases mem_pmPut he with rfl | he
          · exact ⟨Nat.le_max_right .., (e3.arrived ((hvv v).mpr rfl)).1⟩
          · exact e4 e he
        · rcases mem_pmPut he with rfl | he
          · exact ⟨p2 ▸ insert_wf _ _ _ hle (seqsOf_wf h v), fun he => mem_nil seqs.1
              (he ▸ p2 ▸ (mem_insert _ _ _ _ hle).mpr (.inr ⟨Nat.le_refl _, hle⟩)), rfl⟩
          · exact h.pwf e he
        · show max _ v = max _ (supKeys (pmPut _ _ _))
          rw [supKeys_pmPut, h.head1, Nat.max_assoc, Nat.max_comm v]

theorem pmPut_append {P0 : PMap} {k : Nat} (h : ∀ e ∈ P0, e.1 < k) (t : PMap) (p : Partial) :
    pmPut (P0 ++ t) k p = P0 ++ pmPut t k p := by
  induction P0 with
  | nil => rfl
  | cons a P0 ih =>
    obtain ⟨c, q⟩ := a
    have hc : c < k := h (c, q) List.mem_cons_self
    rw [List.cons_append, pmPut, if_neg (by omega), if_neg (by omega),
      ih fun e he => h e (List.mem_cons_of_mem _ he)]
    rfl

theorem lookup_append {P0 : PMap} {k : Nat} (h : ∀ e ∈ P0, e.1 < k) (t : PMap) :
    (P0 ++ t).lookup k = t.lookup k := by
  rw [List.lookup_append, List.lookup_eq_none_iff.mpr fun e he => bne_iff_ne.mpr (Nat.ne_of_gt (h e he))]
  rfl

/-- one row of `__corro_seq_bookkeeping` through `insert_partial`, as `from_conn` does it -/
def rowStep (b : Book) (row : SeqRow) : Book :=
  (insertPartial b row.1 ⟨RSet.ofList [(row.2.1, row.2.2.1)], row.2.2.2⟩).1

theorem ofList_single (r : Nat × Nat) : RSet.ofList [r] = [r] := rfl

/-- `from_conn` reads the seq rows in key order.  `P0`: the partials rebuilt so far, all of versions
below `k`; `pre`: what the rows of version `k` read so far gave.  The remaining rows of `k` are
inserted into it one by one. -/
theorem rows_tail {P0 : PMap} {k l : Nat} (hP0 : ∀ e ∈ P0, e.1 < k) (N : RSet) (mx : Option Nat) :
    ∀ (s' pre : RSet), (tagRows k l s').foldl rowStep ⟨P0 ++ [(k, ⟨pre, l⟩)], N, mx⟩ =
      ⟨P0 ++ [(k, ⟨RSet.insertAll pre s', l⟩)], N, mx⟩ := by
  intro s'
  induction s' with
  | nil => exact fun _ => rfl
  | cons r t ih =>
    intro pre
    have hstep : rowStep ⟨P0 ++ [(k, ⟨pre, l⟩)], N, mx⟩ (k, r.1, r.2, l) =
        ⟨P0 ++ [(k, ⟨RSet.insert pre r, l⟩)], N, mx⟩ := by
      unfold rowStep insertPartial
      simp only [lookup_append hP0, List.lookup_cons_self, ofList_single, RSet.insertAll, List.foldl_cons,
        List.foldl_nil]
      rw [pmPut_append hP0, pmPut, if_neg (Nat.lt_irrefl k), if_pos rfl]
    rw [tagRows, List.map_cons, List.foldl_cons, hstep]
    exact ih (RSet.insert pre r)

/-- a whole block gives back its ranges: inserted one by one they make `ofList` of a canonical list -/
theorem rows_block {P0 : PMap} {k l : Nat} (hP0 : ∀ e ∈ P0, e.1 < k) (N : RSet) (mx : Option Nat)
    {s : RSet} (hs : WF s) (hne : s ≠ []) :
    (tagRows k l s).foldl rowStep ⟨P0, N, mx⟩ = ⟨P0 ++ [(k, ⟨s, l⟩)], N, optMax mx k⟩ := by
  cases s with
  | nil => exact absurd rfl hne
  | cons r t =>
    have hstep : rowStep ⟨P0, N, mx⟩ (k, r.1, r.2, l) = ⟨P0 ++ [(k, ⟨[r], l⟩)], N, optMax mx k⟩ := by
      have hl := lookup_append hP0 []
      have hp := pmPut_append hP0 [] ⟨[r], l⟩
      rw [List.append_nil] at hl hp
      unfold rowStep insertPartial
      simp only [hl, List.lookup_nil, ofList_single, hp, pmPut]
    rw [tagRows, List.map_cons, List.foldl_cons, hstep]
    exact (rows_tail hP0 N (optMax mx k) t [r]).trans
      (congrArg (fun z => Book.mk (P0 ++ [(k, ⟨z, l⟩)]) N (optMax mx k)) (ofList_of_wf hs))

theorem rows_all (N : RSet) : ∀ (P1 P0 : PMap) (lb : Nat) (mx : Option Nat), KeysFrom lb P1 →
    (∀ e ∈ P0, e.1 < lb) → (∀ e ∈ P1, WF e.2.seqs ∧ e.2.seqs ≠ []) →
    (seqRowsOf P1).foldl rowStep ⟨P0, N, mx⟩ = ⟨P0 ++ P1, N, (P1.map (·.1)).foldl optMax mx⟩ := by
  intro P1
  induction P1 with
  | nil => intro P0 lb mx _ _ _; rw [List.append_nil]; rfl
  | cons e t ih =>
    intro P0 lb mx hk hP0 hw
    obtain ⟨k, q⟩ := e
    have hq := hw (k, q) List.mem_cons_self
    have hk1 : lb ≤ k := hk.1
    rw [seqRowsOf, List.foldl_append, rows_block (fun e he => Nat.lt_of_lt_of_le (hP0 e he) hk1) N mx hq.1 hq.2,
      ih (P0 ++ [(k, q)]) (k + 1) (optMax mx k) hk.2 (fun e he => ?_) fun e he => hw e (List.mem_cons_of_mem _ he),
      List.append_assoc]
    · rfl
    · rcases List.mem_append.mp he with he | he
      · exact Nat.lt_succ_of_lt (Nat.lt_of_lt_of_le (hP0 e he) hk1)
      · rw [List.mem_singleton.mp he]; exact Nat.lt_succ_self k

theorem opt_ext {a b : Option Nat} (h1 : a = none ↔ b = none) (h2 : a.getD 0 = b.getD 0) : a = b := by
  cases a <;> cases b <;> simp_all

theorem foldOptMax_none : ∀ (ks : List Nat) (d : Option Nat),
    (ks.foldl optMax d = none ↔ d = none ∧ ks = []) := by
  intro ks
  induction ks with
  | nil => exact fun d => ⟨fun h => ⟨h, rfl⟩, fun h => h.1⟩
  | cons k t ih =>
    intro d
    rw [List.foldl_cons, ih, optMax_getD]
    exact ⟨(fun h => nomatch h.1), fun h => nomatch h.2⟩

theorem foldOptMax_getD : ∀ (m : PMap) (d : Option Nat),
    ((m.map (·.1)).foldl optMax d).getD 0 = max (d.getD 0) (supKeys m) := by
  intro m
  induction m with
  | nil => exact fun d => (Nat.max_zero _).symm
  | cons e t ih =>
    intro d
    rw [List.map_cons, List.foldl_cons, ih, optMax_getD, Option.getD_some, supKeys, Nat.max_assoc]

theorem fromConn_eq {L : Nat → Nat} {st : Node} (h : Inv L st) : fromConn st.db = st.book := by
  have hfold := rows_all [] st.book.partials [] 1 st.db.dbv h.keys nofun
    fun e he => ⟨(h.pwf e he).1, (h.pwf e he).2.1⟩
  rw [← h.seqrows, List.nil_append] at hfold
  -- `head1` gives the value of the head, `head2` says when there is none
  have hmax : (st.book.partials.map (·.1)).foldl optMax st.db.dbv = st.book.max :=
    opt_ext (by rw [foldOptMax_none, h.head2, List.map_eq_nil_iff]) (by rw [foldOptMax_getD, h.head1])
  refine (congrArg (fun b : Book => Book.mk b.partials (RSet.insertAll b.needed st.db.gaps) b.max)
    hfold).trans ?_
  rw [hmax, h.gaps.rows]
  exact congrArg (Book.mk _ · _) (ofList_of_wf h.gaps.wf)

theorem step_reload {L : Nat → Nat} {st : Node} (h : Inv L st) : step st .reload = st :=
  congrArg (Node.mk · st.db) (fromConn_eq h)

theorem step_inv {L : Nat → Nat} {st : Node} (h : Inv L st) {op : Op} (hop : OpOk L op) :
    Inv L (step st op) := by
  cases op with
  | ins rs => exact (opInsert_inv h hop.2).1
  | part v seqs last =>
    obtain ⟨hv, rfl⟩ := hop
    rcases opPartial_cases h seqs hv with ⟨hs, _⟩ | ⟨st', _, hs, _, hi, _⟩
    · exact hs.symm ▸ h
    · exact hs.symm ▸ hi
  | reload => exact (step_reload h).symm ▸ h

theorem sync_lookup {lb : Nat} {P : PMap} (h : KeysFrom lb P) (v : Nat) :
    ((P.filter (fun e => !e.2.isComplete)).map (fun e => (e.1, e.2.seqs.gaps (0, e.2.last)))).lookup v =
      match P.lookup v with
      | some p => if p.isComplete then none else some (p.seqs.gaps (0, p.last))
      | none => none := by
  induction P generalizing lb with
  | nil => rfl
  | cons e t ih =>
    obtain ⟨k, q⟩ := e
    have ih' := ih h.2
    rw [List.filter_cons]
    by_cases hk : v = k
    · subst hk
      rw [List.lookup_cons_self]
      rw [lookup_none_of_keysFrom h.2 (Nat.lt_succ_self v)] at ih'
      cases hc : q.isComplete
      · simp only [hc, Bool.not_false, if_true, List.map_cons, List.lookup_cons, beq_self_eq_true,
          Bool.false_eq_true, if_false]
      · simp only [hc, Bool.not_true, Bool.false_eq_true, if_false, if_true]
        exact ih'
    · rw [lookup_cons_ne hk]
      split
      · rw [List.map_cons, List.lookup_cons, beq_false_of_ne hk]
        exact ih'
      · exact ih'

theorem generateSync_spec {L : Nat → Nat} {st : Node} (h : Inv L st) :
    (generateSync st.book).head = st.book.max ∧ (generateSync st.book).need = st.book.needed ∧
    ∀ v, (generateSync st.book).partialNeed.lookup v =
      match st.book.partials.lookup v with
      | some p => if p.isComplete then none else some (p.seqs.gaps (0, p.last))
      | none => none := by
  unfold generateSync
  cases hm : st.book.max with
  | none =>
    -- no head: nothing is needed and there are no partials
    have hN : st.book.needed = [] := by
      cases hn : st.book.needed with
      | nil => rfl
      | cons p t =>
        obtain ⟨a, b⟩ := p
        have := (h.gaps.inside a (hn ▸ mem_head (hn ▸ h.gaps.wf))).2
        rw [hm] at this
        cases this
    exact ⟨rfl, hN.symm, fun v => by rw [(h.head2.mp hm).2]; rfl⟩
  | some hd => exact ⟨rfl, rfl, sync_lookup h.keys⟩

end Corro.Book
