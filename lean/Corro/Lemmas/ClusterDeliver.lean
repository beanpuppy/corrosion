/-
C01, protocol level — `Node.deliver` of a batch with ONE changeset, for ANY node state, together with
the ghost list: the three outcomes of `Node.deliver_one` (nothing, a range of versions settled, a chunk
buffered) with what each merges (`deliver_cases`); where the buffered rows after a delivery come from.
-/
import Corro.Model.ClusterSys
import Corro.Lemmas.NodeOne

namespace Corro.ClusterSys
open Corro.Crdt Corro.Node

/-- the changes a changeset carries -/
def itemChanges : Item → List Chg
  | .full _ _ _ _ _ cs => cs
  | .empty .. => []

/-- the changeset settles the versions `vlo..=vhi` of actor `a` at once: an `Empty`, or a complete
changeset of one version -/
def Clears (it : Item) (a vlo vhi : Nat) : Prop :=
  it = .empty a vlo vhi ∨ ∃ last cs, it = .full a vlo 0 last last cs ∧ vhi = vlo

theorem mergeAll_nil (db : Db) : mergeAll db [] = db := rfl

/-- `Node.Settles` is `Clears` together with the changes the changeset carries -/
theorem Clears.of_settles {it : Item} {a vlo vhi : Nat} {cs : List Chg} (h : Settles it a vlo vhi cs) :
    Clears it a vlo vhi ∧ cs = itemChanges it := by
  rcases h with ⟨rfl, rfl⟩ | ⟨l, rfl, rfl⟩
  · exact ⟨Or.inl rfl, rfl⟩
  · exact ⟨Or.inr ⟨l, cs, rfl, rfl⟩, rfl⟩

theorem whole_eq_false {lo hi last : Nat} (h : ¬ (lo = 0 ∧ hi = last)) : (lo == 0 && hi == last) = false :=
  Bool.eq_false_iff.mpr fun hb => h (by simpa only [Bool.and_eq_true, beq_iff_eq] using hb)

theorem mergedBy_full_buffer (n : Node) (a v lo hi last : Nat) (cs : List Chg)
    (hnc : (n.booked a).containsAll v v (some (lo, hi)) = false) (hlh : lo ≤ hi)
    (hinc : ¬ (lo = 0 ∧ hi = last)) :
    mergedBy n (.full a v lo hi last cs) =
      if (bufPartial n a v lo hi last cs).complete && n.alive then
        sortBySeq (bufOf (bufNode n a v lo hi last cs).buf a v) else [] := by
  unfold mergedBy
  simp only [hnc, whole_eq_false hinc, Bool.false_eq_true, if_false]
  rw [if_neg (by omega), insertPartial_snd, bufNode_buf]
  rfl

/-- the three outcomes of `Node.deliver_one`, each with what it merges (`mergedBy`): nothing; the changes
the changeset carries (`Clears`); the buffered rows of the version, if the chunk completes it on an alive
node -/
theorem deliver_cases (n : Node) (it : Item) :
    (n.deliver [it] = n ∧ mergedBy n it = [] ∧
      ((n.booked it.site).containsAll it.versions.1 it.versions.2 it.seqs = true ∨
        ∃ a v lo hi last cs, it = .full a v lo hi last cs ∧ hi < lo)) ∨
    (∃ a vlo vhi, Clears it a vlo vhi ∧ vlo ≤ vhi ∧ (n.booked a).containsAll vlo vhi it.seqs = false ∧
      n.deliver [it] = clearedNode (dataNode n a vhi (itemChanges it)) a vlo vhi
        (((n.booked a).insertDb [(vlo, vhi)]).dropPartials vlo vhi) ∧
      mergedBy n it = itemChanges it) ∨
    (∃ a v lo hi last cs, it = .full a v lo hi last cs ∧
      (n.booked a).containsAll v v (some (lo, hi)) = false ∧ lo ≤ hi ∧ ¬ (lo = 0 ∧ hi = last) ∧
      n.deliver [it] = (if (bufPartial n a v lo hi last cs).complete && n.alive then
        (bufNode n a v lo hi last cs).applyBuffered a v else bufNode n a v lo hi last cs) ∧
      mergedBy n it = if (bufPartial n a v lo hi last cs).complete && n.alive then
        sortBySeq (bufOf (bufNode n a v lo hi last cs).buf a v) else []) := by
  rcases deliver_one n it with ⟨h, hk | ⟨a, v, lo, hi, last, cs, rfl, hlt⟩⟩ |
      ⟨a, vlo, vhi, cs, hs, hle, hnc, h⟩ | ⟨a, v, lo, hi, last, cs, rfl, hnc, hlh, hinc, _, h⟩
  · refine Or.inl ⟨h, ?_, Or.inl hk⟩
    cases it with
    | empty => rfl
    | full a v lo hi last cs => unfold mergedBy; simp only [Item.site, Item.versions, Item.seqs] at hk; simp only [hk, if_true]
  · cases hk : (n.booked a).containsAll v v (some (lo, hi)) with
    | true => exact Or.inl ⟨h, by unfold mergedBy; simp only [hk, if_true], Or.inl hk⟩
    | false =>
      have hinc : ¬ (lo = 0 ∧ hi = last) := fun hc => by omega
      refine Or.inl ⟨h, ?_, Or.inr ⟨a, v, lo, hi, last, cs, rfl, hlt⟩⟩
      unfold mergedBy
      simp only [hk, whole_eq_false hinc, Bool.false_eq_true, if_false, hlt, if_true]
  · obtain ⟨hcl, rfl⟩ := Clears.of_settles hs
    refine Or.inr (Or.inl ⟨a, vlo, vhi, hcl, hle, hnc, h, ?_⟩)
    rcases hcl with rfl | ⟨l, cs, rfl, rfl⟩
    · rfl
    · unfold mergedBy
      simp only [Item.seqs] at hnc
      simp only [hnc, Bool.false_eq_true, if_false, beq_self_eq_true, Bool.and_self, if_true]
      rfl
  · exact Or.inr (Or.inr ⟨a, v, lo, hi, last, cs, rfl, hnc, hlh, hinc, h,
      mergedBy_full_buffer n a v lo hi last cs hnc hlh hinc⟩)

theorem mem_applyBuffered_buf {n : Node} {a v : Nat} {e : Chg} (h : e ∈ (n.applyBuffered a v).buf) :
    e ∈ n.buf := by
  rcases applyBuffered_cases n a v with ⟨h1, _⟩ | ⟨_, _, _, h1⟩ <;> rw [h1] at h
  · exact h
  · exact applyCore_buf n a v ▸ (mem_clearMeta_buf.mp h).1

theorem mem_deliver_buf {n : Node} {it : Item} {e : Chg} (h : e ∈ (n.deliver [it]).buf) :
    e ∈ n.buf ∨ e ∈ itemChanges it := by
  rcases deliver_cases n it with ⟨h', _⟩ | ⟨a, vlo, vhi, _, _, _, h', _⟩ | ⟨a, v, lo, hi, last, cs, rfl, _, _, _, h', _⟩
  · rw [h'] at h; exact Or.inl h
  · rw [h', mem_clearedNode_buf, dataNode_buf] at h
    exact Or.inl h.1
  · rw [h'] at h
    have hX : ∀ e, e ∈ (bufNode n a v lo hi last cs).buf → e ∈ n.buf ∨ e ∈ cs := by
      intro e he
      rw [bufNode_buf] at he
      exact mem_bufferChunk_buf he
    split at h
    · exact hX e (mem_applyBuffered_buf h)
    · exact hX e h

end Corro.ClusterSys
