/-
For C02: the stored intervals of a canonical set one by one, and the modelled
`__corro_bookkeeping_gaps` table (`rowCount` / `rowDelete` / `rowInsert`) against such a set: removing
a stored interval deletes its row, inserting an isolated one is a plain ordered insertion.
-/
import Corro.Model.Book
import Corro.Lemmas.Ranges

namespace Corro.RSet

/-- `r` is separated from every stored interval by at least one missing point -/
def Isolated (s : RSet) (r : Nat × Nat) : Prop := ∀ p ∈ s, p.2 + 1 < r.1 ∨ r.2 + 1 < p.1

theorem wf_of_wfFrom {lb : Nat} {s : RSet} (h : WFfrom lb s) : WF s := wfFrom_mono h (Nat.zero_le _)

theorem wf_elem_unique {lb : Nat} {s : RSet} (h : WFfrom lb s) {p q : Nat × Nat} (hp : p ∈ s) (hq : q ∈ s)
    {x : Nat} (hxp : p.1 ≤ x ∧ x ≤ p.2) (hxq : q.1 ≤ x ∧ x ≤ q.2) : p = q :=
  Decidable.byContradiction fun hne => by have := wf_pairwise h hp hq hne; omega

theorem wfFrom_filter {lb : Nat} {s : RSet} (h : WFfrom lb s) (f : Nat × Nat → Bool) :
    WFfrom lb (s.filter f) := by
  induction s generalizing lb with
  | nil => trivial
  | cons r t ih =>
    obtain ⟨a, b⟩ := r
    rw [List.filter_cons]
    split
    · exact ⟨h.1, h.2.1, ih h.2.2⟩
    · exact wfFrom_mono (ih h.2.2) (by have := h.1; have := h.2.1; omega)

theorem isolated_of_pointwise {s : RSet} (hs : WF s) {r : Nat × Nat} (hr : r.1 ≤ r.2)
    (h : ∀ x y, r.1 ≤ x → x ≤ r.2 → Mem s y → x + 1 < y ∨ y + 1 < x) : Isolated s r := by
  intro p hp
  have hpf := wf_forward hs p hp
  have hm : ∀ y, p.1 ≤ y → y ≤ p.2 → Mem s y := fun y h1 h2 => ⟨p, hp, h1, h2⟩
  have h1 := h r.1 p.2 (Nat.le_refl _) hr (hm _ hpf (Nat.le_refl _))
  have h2 := h r.2 p.1 hr (Nat.le_refl _) (hm _ (Nat.le_refl _) hpf)
  -- otherwise the larger of the two starts lies in both
  rcases Nat.le_total r.1 p.1 with hle | hle
  · have := fun h3 h4 => h p.1 p.1 hle h3 (hm _ (Nat.le_refl _) h4); omega
  · have := fun h3 h4 => h r.1 r.1 (Nat.le_refl _) hr (hm _ h3 h4); omega

theorem get?_some {s : RSet} {x : Nat} {r : Nat × Nat} (h : get? s x = some r) :
    r ∈ s ∧ r.1 ≤ x ∧ x ≤ r.2 := by
  have h2 := List.find?_some h
  rw [Bool.and_eq_true, decide_eq_true_eq, decide_eq_true_eq] at h2
  exact ⟨List.mem_of_find?_eq_some h, h2⟩

theorem get?_of_elem {lb : Nat} {s : RSet} (h : WFfrom lb s) {q : Nat × Nat} (hq : q ∈ s) {x : Nat}
    (h1 : q.1 ≤ x) (h2 : x ≤ q.2) : get? s x = some q := by
  cases hg : get? s x with
  | none =>
    have := List.find?_eq_none.mp hg q hq
    rw [Bool.and_eq_true, decide_eq_true_eq, decide_eq_true_eq] at this
    exact absurd ⟨h1, h2⟩ this
  | some r =>
    have hr := get?_some hg
    rw [wf_elem_unique h hr.1 hq hr.2 ⟨h1, h2⟩]

end Corro.RSet

namespace Corro.Book
open Corro Corro.RSet

theorem mem_rowDelete {s : Rows} {r p : Nat × Nat} : p ∈ rowDelete s r ↔ p ∈ s ∧ p ≠ r := by
  simp only [rowDelete, List.mem_filter, Bool.not_eq_true', beq_eq_false_iff_ne]

theorem mem_rowInsert {s : Rows} {r p : Nat × Nat} : p ∈ rowInsert s r ↔ p = r ∨ p ∈ s := by
  induction s with
  | nil => exact List.mem_singleton.trans (or_iff_left List.not_mem_nil).symm
  | cons q t ih =>
    rw [rowInsert]
    split
    · exact List.mem_cons
    · rw [List.mem_cons, ih, List.mem_cons, or_left_comm]

/-- both sides are canonical and cover the same points -/
theorem remove_exact {lb : Nat} {s : RSet} (h : WFfrom lb s) {r : Nat × Nat} (hr : r ∈ s) :
    RSet.remove s r = rowDelete s r := by
  have hw := wf_of_wfFrom h
  refine wf_unique _ _ (remove_wf s r.1 r.2 (wf_forward hw r hr) hw) (wfFrom_filter hw _) fun x =>
    (mem_remove s r.1 r.2 x 0 hw).trans ⟨?_, ?_⟩
  · rintro ⟨⟨p, hp, hx⟩, hnr⟩
    exact ⟨p, mem_rowDelete.mpr ⟨hp, fun e => hnr (e ▸ hx)⟩, hx⟩
  · rintro ⟨p, hp, hx⟩
    obtain ⟨hps, hne⟩ := mem_rowDelete.mp hp
    exact ⟨⟨p, hps, hx⟩, fun hxr => hne (wf_elem_unique hw hps hr hx hxr)⟩

theorem rowCount_one {lb : Nat} {s : RSet} (h : WFfrom lb s) {r : Nat × Nat} (hr : r ∈ s) :
    rowCount s r = 1 := by
  rw [rowCount, ← List.countP_eq_length_filter]
  exact (wf_nodup h).count.trans (if_pos hr)

theorem insert_isolated {lb : Nat} {s : RSet} (h : WFfrom lb s) {r : Nat × Nat} (hr : r.1 ≤ r.2)
    (hiso : Isolated s r) : RSet.insert s r = rowInsert s r ∧ rowConflict s r = false := by
  refine ⟨?_, List.any_eq_false.mpr fun p hp => ?_⟩
  · induction s generalizing lb with
    | nil => rfl
    | cons p t ih =>
      obtain ⟨a, b⟩ := p
      obtain ⟨lo, hi⟩ := r
      have hp : b + 1 < lo ∨ hi + 1 < a := hiso (a, b) List.mem_cons_self
      have hab : a ≤ b := h.2.1
      have hr : lo ≤ hi := hr
      rw [RSet.insert, rowInsert]
      by_cases h1 : hi + 1 < a
      · rw [if_pos h1, if_pos (show lo < a by omega)]
      · rw [if_neg h1, if_pos (show b + 1 < lo by omega), if_neg (show ¬ lo < a by omega),
          ih h.2.2 fun q hq => hiso q (List.mem_cons_of_mem _ hq)]
  · have := hiso p hp
    have := (wfFrom_forall h p hp).2
    rw [beq_iff_eq]
    omega

end Corro.Book
