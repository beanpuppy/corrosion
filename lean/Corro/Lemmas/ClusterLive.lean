/-
C01, protocol level — what a sync session contains: a version the server holds and the client lacks
is requested, as a whole or for the seqs missing from an incomplete partial (`Crash.need_full_exists`,
`Crash.need_part_exists`), the server passes such a request (`serve_of_held`) and answers one for whole
versions with a changeset that settles the version (`Crash.final_item_exists`), and sends
nothing incomplete to a client that has no incomplete partial of it (`Crash.answers_shape`).
-/
import Corro.Lemmas.ClusterServe

namespace Corro.ClusterSys
open Corro.Crdt Corro.Node

/-- the changeset settles `(a, v)` on a node without a partial of it: a complete changeset of the
version, or an `Empty` covering it -/
def Final (a v : Nat) (it : Corro.Node.Item) : Prop :=
  (∃ last cs, it = .full a v 0 last last cs) ∨ (∃ lo hi, it = .empty a lo hi ∧ lo ≤ v ∧ v ≤ hi)

section Session
open Corro.Needs

theorem syncState_actor (n : Node) : n.syncState.actor = n.id := rfl

theorem partialsOf_incomplete {P : Nat → Nat → Prop} {L : Log} {n : Node} {R : List Chg}
    (hI : Crash.CInv P L n R) {a : Nat}
    {x : Nat × List (Nat × Nat)} (hx : x ∈ partialsOf n.syncState a) :
    ∃ q, (n.booked a).partial? x.1 = some q ∧ q.complete = false ∧ x.2 = RSet.gaps q.seqs (0, q.last) := by
  rw [partialsOf_eq hI.sorted a] at hx
  split at hx
  · obtain ⟨e, he, h1, h2⟩ := mem_nf hx
    have hp := partial?_of_mem (hI.keys a) (show (x.1, e.2) ∈ (n.booked a).partials by rw [← h1]; exact he)
    unfold gP at h2
    split at h2
    · cases h2
    · rename_i hc
      simp only [Option.some.injEq] at h2
      exact ⟨e.2, hp, by simpa using hc, h2.symm⟩
  · cases hx

variable {Pi Pj : Nat → Nat → Prop} {L : Log} {ni nj : Node} {Ri Rj : List Chg}

theorem held_no_rows {P : Nat → Nat → Prop} {n : Node} {R : List Chg} (hI : Crash.CInv P L n R) {a v : Nat}
    (hh : Held n a v) : ¬ HasRows n a v := by
  rintro ⟨r, hr, h1, h2⟩
  obtain ⟨p, hp⟩ := hI.rows_part r hr
  rw [h1, h2] at hp
  exact (hh.2 p hp).2 ⟨r, hr, h1, h2⟩

theorem Crash.held_no_buf {P : Nat → Nat → Prop} {n : Node} {R : List Chg} (hI : Crash.CInv P L n R) {a v : Nat}
    (hh : Held n a v) : n.hasBuf a v = false := by
  apply hasBuf_false_iff.mpr
  intro c hc hk
  have := hI.buf_rows c hc
  rw [hk.1, hk.2] at this
  exact held_no_rows hI hh this

theorem serve_of_held {n : Node} {a v : Nat} (hh : Held n a v) (hv : 1 ≤ v) {need : Need}
    (hr : requests need v) : n.serve a need = handleNeed n a need := by
  have hcv := (containsVersion_iff _ _).mp hh.1
  refine if_pos (serves_iff.mpr ⟨?_, v, hr, hcv.1, fun _ => hcv.2⟩)
  -- without bookkeeping for the actor its head would be 0
  cases hf : n.book.find? (·.1 = a) with
  | some _ => rfl
  | none =>
    have : (n.booked a).max = 0 := by unfold Node.booked; rw [hf]; rfl
    omega

theorem Crash.CInv.holds_syncState (hIj : Crash.CInv Pj L nj Rj) {a v : Nat} (hh : Held nj a v) (hv : 1 ≤ v) :
    Holds nj.syncState a v := by
  have hcv := (containsVersion_iff _ _).mp hh.1
  refine ⟨hv, headOf_syncState hIj.sorted a ▸ hcv.2, ?_, aget_eq_none.mpr ?_⟩
  · rintro ⟨r, hr, hx⟩
    exact hcv.1 ⟨r, needOf_syncState hIj.sorted a hr, hx⟩
  · intro x hx hxv
    obtain ⟨q, hq, hqc, _⟩ := partialsOf_incomplete hIj hx
    rw [hxv] at hq
    have := (hh.2 q hq).1
    rw [hqc] at this; cases this

theorem lacks_syncState {n : Node} (hs : n.book.Pairwise (fun x y => x.1 < y.1)) {a v : Nat} (hv : 1 ≤ v)
    (hlack : (n.booked a).containsVersion v = false) : Lacks n.syncState a v := by
  have hl := mt (containsVersion_iff (n.booked a) v).mpr (Bool.eq_false_iff.mp hlack)
  rw [Lacks, headOf_syncState hs]
  by_cases hz : (n.booked a).max ≠ 0
  · rw [needOf_eq hs a, if_pos hz]
    exact Decidable.or_iff_not_imp_left.mpr fun hm => Nat.lt_of_not_le fun hle => hl ⟨hm, hle⟩
  · exact .inr (by omega)

/-- the counterpart of C04's `full_complete` for two nodes satisfying `Crash.CInv` -/
theorem Crash.need_full_exists (hIi : Crash.CInv Pi L ni Ri) (hIj : Crash.CInv Pj L nj Rj) {a v : Nat} (ha : a ≠ ni.id)
    (hv : 1 ≤ v) (hh : Held nj a v) (hlack : (ni.booked a).containsVersion v = false) :
    ∃ ns lo hi, (a, ns) ∈ computeAvailableNeeds ni.syncState nj.syncState ∧ Need.full lo hi ∈ ns ∧
      lo ≤ v ∧ v ≤ hi :=
  let ⟨ns, h, lo, hi, h'⟩ := full_of_holds_lacks (hIj.need_forward a) ha (hIj.holds_syncState hh hv)
    (lacks_syncState hIi.sorted hv hlack)
  ⟨ns, lo, hi, h, h'⟩

/-- the counterpart of C04's `partial_complete` -/
theorem Crash.need_part_exists (hIi : Crash.CInv Pi L ni Ri) (hIj : Crash.CInv Pj L nj Rj) {a v : Nat} (ha : a ≠ ni.id)
    (hv : 1 ≤ v) (hh : Held nj a v) {p : Partial} (hp : (ni.booked a).partial? v = some p)
    (hpc : p.complete = false) :
    ∃ ns, (a, ns) ∈ computeAvailableNeeds ni.syncState nj.syncState ∧
      Need.part v (RSet.gaps p.seqs (0, p.last)) ∈ ns := by
  have hz : (ni.booked a).max ≠ 0 := by
    have := ((containsVersion_iff _ _).mp (hIi.part_known a v p hp)).2
    omega
  refine part_of_holds (hIj.need_forward a) ha (hIj.holds_syncState hh hv) ?_
  rw [partialsOf_eq hIi.sorted a, if_pos hz]
  exact mem_nf_of (e := (v, p)) (alook_some_mem hp) (by unfold gP; rw [hpc]; rfl)

theorem Crash.final_item_exists (hIj : Crash.CInv Pj L nj Rj) {a v lo hi : Nat} (hh : Held nj a v) (h1 : lo ≤ v)
    (h2 : v ≤ hi) : ∃ it ∈ handleNeed nj a (.full lo hi), Final a v it := by
  cases hl : (nj.live a v).isEmpty with
  | false =>
    exact ⟨_, mem_handleNeed.mpr (.fullLive h1 h2 hl), Or.inl ⟨_, _, rfl⟩⟩
  | true =>
    have hg : nj.inGaps a v = false := by
      cases hgg : nj.inGaps a v with
      | false => rfl
      | true => exact absurd (inGaps_iff.mp hgg) ((containsVersion_iff _ _).mp hh.1).1
    have hm : RSet.Mem (emptyRanges nj a lo hi) v :=
      mem_emptyRanges.mpr (mem_emptyVs.mpr ⟨h1, h2, hl, Crash.held_no_buf hIj hh, hg⟩)
    obtain ⟨p, hp, hx⟩ := hm
    exact ⟨_, mem_handleNeed.mpr (.fullEmpty hp), Or.inr ⟨_, _, rfl, hx.1, hx.2⟩⟩

theorem Crash.answers_shape (hIi : Crash.CInv Pi L ni Ri) (hIj : Crash.CInv Pj L nj Rj) {a v : Nat} (hh : Held nj a v)
    (hnp : ∀ p, (ni.booked a).partial? v = some p → p.complete = true) :
    ∀ it ∈ answers ni nj, ∀ lo hi last cs, it = Corro.Node.Item.full a v lo hi last cs → lo = 0 ∧ hi = last := by
  intro it hit lo hi last cs heq
  obtain ⟨a', ns, need, han, hneed, hit⟩ := of_mem_answers hit
  subst heq
  obtain ⟨rfl, hreq, hshape⟩ := full_mem_handleNeed hit
  cases need with
  | full lo' hi' =>
    rcases hshape with ⟨_, _, _, h⟩ | ⟨_, hb, _⟩
    · exact h _ _ rfl
    · rw [Crash.held_no_buf hIj hh] at hb; cases hb
  | part w seqs =>
    exfalso
    cases hreq
    -- a `Partial` request is for a version the client advertises as partial
    obtain ⟨head, _, _, hh0, rfl, _⟩ := mem_computeAvailableNeeds.mp han
    obtain ⟨sq, hq, _⟩ := needsFor_lacked hh0 hneed
    obtain ⟨p, hp, hpc, _⟩ := partialsOf_incomplete hIi hq
    rw [hnp p hp] at hpc; cases hpc

end Session

end Corro.ClusterSys
