/-
Membership in the sync-candidate and broadcast-target filters of the cluster gate, each as one equivalence
that holds for every membership table, and the fact about `List.lookup` that ties a site looked up by name
to the entries of the generated table.
-/
import Corro.Model.ClusterGate

namespace Corro.ClusterGate

theorem mem_syncCandidates {self mine : Nat} {ms : List Member} {m : Member} :
    m ∈ syncCandidates self mine ms ↔ m ∈ ms ∧ m.cluster = mine ∧ m.actor ≠ self := by
  simp [syncCandidates, and_comm]

/-- The cluster comparison is one of four exclusions; the other three (the node itself, a ring-0 member
already served by the local broadcast, an address already sent to) do not look at the cluster. -/
theorem mem_broadcastTargets {self mine : Nat} {isLocal : Bool} {ring0 sentTo : List Nat}
    {ms : List Member} {a : Nat} :
    a ∈ broadcastTargets self mine isLocal ring0 sentTo ms ↔
      ∃ m ∈ ms, m.addr = a ∧ m.cluster = mine ∧ m.actor ≠ self ∧
        ¬ (isLocal = true ∧ m.addr ∈ ring0) ∧ m.addr ∉ sentTo := by
  simp only [broadcastTargets, List.mem_filterMap]
  refine exists_congr fun m => and_congr_right fun _ => ?_
  simp [and_assoc, and_comm, and_left_comm]

theorem mem_of_lookup_eq_some {α β : Type} [BEq α] [LawfulBEq α] {l : List (α × β)} {k : α} {v : β}
    (h : l.lookup k = some v) : (k, v) ∈ l := by
  obtain ⟨l₁, l₂, rfl, _⟩ := List.lookup_eq_some_iff.1 h
  simp

end Corro.ClusterGate
