/-
Two invariants of every reachable state of every schedule of the lock model of C19: `Compat` (no two
processes hold incompatible locks) and `Tracks` (a process's locks are exactly what the part of its
program it has executed leaves it with).
-/
import Corro.Model.Locks

namespace Corro.Locks

/-- the locks of two different processes never clash -/
def compatible (p q : Proc) : Prop :=
  ∀ s k k', (s, k) ∈ p.held → (s, k') ∈ q.held → k = .sh ∧ k' = .sh

theorem compatible_symm {p q : Proc} (h : compatible p q) : compatible q p :=
  fun s k k' h1 h2 => (h s k' k h2 h1).symm

/-- by position, not by value: two processes in the same state are still two -/
def Compat (sys : List Proc) : Prop :=
  ∀ (i j : Nat) (p q : Proc), i ≠ j → sys[i]? = some p → sys[j]? = some q → compatible p q

theorem mem_others {sys : List Proc} {i : Nat} {q : Proc} :
    q ∈ others sys i ↔ ∃ j, j ≠ i ∧ sys[j]? = some q := by
  rw [others, ← List.eraseIdx_eq_take_drop_succ]
  exact List.mem_eraseIdx_iff_getElem?

theorem conflicts_iff {os : List Proc} {s : Slot} {k : Kind} :
    conflicts os s k = true ↔ ∃ q ∈ os, ∃ k', (s, k') ∈ q.held ∧ (k = .ex ∨ k' = .ex) := by
  simp only [conflicts, List.any_eq_true, Bool.and_eq_true, Bool.or_eq_true, beq_iff_eq, Prod.exists]
  constructor
  · rintro ⟨q, hq, s', k', hm, rfl, h⟩
    exact ⟨q, hq, k', hm, h⟩
  · rintro ⟨q, hq, k', hm, h⟩
    exact ⟨q, hq, s, k', hm, rfl, h⟩

theorem mem_lockSlot {h : Held} {s s' : Slot} {k k' : Kind} :
    (s', k') ∈ lockSlot h s k ↔ (s' = s ∧ k' = k) ∨ ((s', k') ∈ h ∧ s' ≠ s) := by
  simp [lockSlot, List.mem_filter]

theorem mem_unlockSlot {h : Held} {s s' : Slot} {k' : Kind} :
    (s', k') ∈ unlockSlot h s ↔ (s', k') ∈ h ∧ s' ≠ s := by
  simp [unlockSlot, List.mem_filter]

theorem mem_stepHeld {h : Held} {st : Step} {e : Slot × Kind} (he : e ∈ stepHeld h st) :
    e ∈ h ∨ st = .acquire e.1 e.2 := by
  cases st with
  | acquire s k => exact (mem_lockSlot.1 he).symm.imp And.left fun ⟨hs, hk⟩ => by rw [hs, hk]
  | release s => exact Or.inl (mem_unlockSlot.1 he).1
  | io _ => exact Or.inl he
  | closeAll => cases he

theorem step_cases {os : List Proc} {p p' : Proc} {c : Choice} (h : p.step os c = some p') :
    ∃ st rest, p.prog = st :: rest ∧
      (p' = ⟨stepHeld p.held st, rest, p.done ++ iosOf [st]⟩ ∧
          (∀ s k, st = .acquire s k → conflicts os s k = false) ∨
        p' = { p with held := [], prog := [] } ∧ ∃ s k, st = .acquire s k) := by
  unfold Proc.step at h
  split at h
  · cases h
  · rename_i s k rest hp
    refine ⟨_, _, hp, ?_⟩
    cases c with
    | giveUp => cases h; exact Or.inr ⟨rfl, s, k, rfl⟩
    | go =>
      simp only at h
      split at h
      · cases h
      · rename_i hc
        cases h
        exact Or.inl ⟨by simp [stepHeld, iosOf], fun s' k' e => by cases e; simpa using hc⟩
  · rename_i s rest hp
    cases h
    exact ⟨_, _, hp, Or.inl ⟨by simp [stepHeld, iosOf], fun _ _ e => nomatch e⟩⟩
  · rename_i op rest hp
    cases h
    exact ⟨_, _, hp, Or.inl ⟨by simp [stepHeld, iosOf], fun _ _ e => nomatch e⟩⟩
  · rename_i rest hp
    cases h
    exact ⟨_, _, hp, Or.inl ⟨by simp [stepHeld, iosOf], fun _ _ e => nomatch e⟩⟩

theorem stepAt_eq {sys sys' : List Proc} {i : Nat} {c : Choice} (h : stepAt sys i c = some sys') :
    ∃ p p', sys[i]? = some p ∧ p.step (others sys i) c = some p' ∧ sys' = sys.set i p' := by
  unfold stepAt at h
  split at h
  · cases h
  · rename_i p hp
    obtain ⟨p', hp', rfl⟩ := Option.map_eq_some_iff.1 h
    exact ⟨p, p', hp, hp', rfl⟩

theorem step_local {os : List Proc} {p p' : Proc} {c : Choice} (h : p.step os c = some p')
    (hc : ∀ q ∈ os, compatible p q) : ∀ q ∈ os, compatible p' q := by
  intro q hq s k k' h1 h2
  obtain ⟨st, rest, _, ⟨rfl, hnc⟩ | ⟨rfl, _⟩⟩ := step_cases h
  · rcases mem_stepHeld h1 with h1 | rfl
    · exact hc q hq s k k' h1 h2
    · -- the lock just granted: it was granted because nothing held elsewhere clashes with it
      have hn : ¬ (k = .ex ∨ k' = .ex) := fun hx =>
        Bool.false_ne_true ((hnc s k rfl).symm.trans (conflicts_iff.2 ⟨q, hq, k', h2, hx⟩))
      cases k <;> cases k'
      case sh.sh => exact ⟨rfl, rfl⟩
      all_goals exact (hn (by simp)).elim
  · cases h1

theorem step_compat {sys sys' : List Proc} {i : Nat} {c : Choice} (hc : Compat sys)
    (h : stepAt sys i c = some sys') : Compat sys' := by
  obtain ⟨p, p', hp, hstep, rfl⟩ := stepAt_eq h
  have hlt := (List.getElem?_eq_some_iff.1 hp).1
  have hloc : ∀ q ∈ others sys i, compatible p' q := step_local hstep fun q hq => by
    obtain ⟨j, hj, hjq⟩ := mem_others.1 hq
    exact hc i j p q (Ne.symm hj) hp hjq
  intro a b pa pb hab ha hb
  by_cases hai : a = i
  · subst hai
    rw [List.getElem?_set_self hlt] at ha
    cases ha
    rw [List.getElem?_set_ne hab] at hb
    exact hloc pb (mem_others.2 ⟨b, Ne.symm hab, hb⟩)
  · rw [List.getElem?_set_ne (Ne.symm hai)] at ha
    by_cases hbi : b = i
    · subst hbi
      rw [List.getElem?_set_self hlt] at hb
      cases hb
      exact compatible_symm (hloc pa (mem_others.2 ⟨a, hai, ha⟩))
    · rw [List.getElem?_set_ne (Ne.symm hbi)] at hb
      exact hc a b pa pb hab ha hb

theorem heldAfter_append (h : Held) (a b : List Step) :
    heldAfter h (a ++ b) = heldAfter (heldAfter h a) b := by
  induction a generalizing h with
  | nil => rfl
  | cons st r ih => exact ih _

theorem iosOf_append (a b : List Step) : iosOf (a ++ b) = iosOf a ++ iosOf b := by
  induction a with
  | nil => rfl
  | cons st r ih => cases st <;> simp [iosOf, ih]

/-- `p` is the process that started lock-free with program `P`: it has executed a prefix `pre`
(every step of which went through), or it gave up at an `acquire` and dropped everything. -/
def Tracks (P : List Step) (p : Proc) : Prop :=
  ∃ pre post, P = pre ++ post ∧ p.done = iosOf pre ∧
    ((p.held = heldAfter [] pre ∧ p.prog = post) ∨
     (p.held = [] ∧ p.prog = [] ∧ ∃ s k rest, post = .acquire s k :: rest))

theorem step_tracks {P : List Step} {os : List Proc} {p p' : Proc} {c : Choice}
    (ht : Tracks P p) (h : p.step os c = some p') : Tracks P p' := by
  obtain ⟨pre, post, hP, hdone, hst⟩ := ht
  obtain ⟨st, rest, hprog, hp'⟩ := step_cases h
  rcases hst with ⟨hheld, rfl⟩ | ⟨_, hnil, _⟩
  · rcases hp' with ⟨rfl, _⟩ | ⟨rfl, s, k, rfl⟩
    · refine ⟨pre ++ [st], rest, by rw [hP, hprog, List.append_assoc]; rfl, ?_, Or.inl ⟨?_, rfl⟩⟩
      · rw [iosOf_append, hdone]
      · rw [heldAfter_append, hheld]; rfl
    · exact ⟨pre, _, hP, hdone, Or.inr ⟨rfl, rfl, s, k, rest, hprog⟩⟩
  · rw [hnil] at hprog; cases hprog

/-- everybody starts without locks and without having done anything -/
def Init (init : List Proc) : Prop := ∀ p ∈ init, p.held = [] ∧ p.done = []

theorem reach_compat {init sys : List Proc} (hi : Init init) (h : Reach init sys) : Compat sys := by
  induction h with
  | refl =>
    intro i j p q _ hp _ s k k' h1 _
    rw [(hi p (List.mem_of_getElem? hp)).1] at h1
    cases h1
  | step i c _ hs ih => exact step_compat ih hs

theorem reach_tracks {init sys : List Proc} (hi : Init init) (h : Reach init sys) :
    sys.length = init.length ∧
    ∀ (i : Nat) (p0 p : Proc), init[i]? = some p0 → sys[i]? = some p → Tracks p0.prog p := by
  induction h with
  | refl =>
    refine ⟨rfl, fun i p0 p h0 h1 => ?_⟩
    cases h0.symm.trans h1
    have := hi p0 (List.mem_of_getElem? h0)
    exact ⟨[], p0.prog, rfl, this.2, Or.inl ⟨this.1, rfl⟩⟩
  | step i c _ hs ih =>
    obtain ⟨p, p', hp, hstep, rfl⟩ := stepAt_eq hs
    have hlt := (List.getElem?_eq_some_iff.1 hp).1
    refine ⟨by rw [List.length_set]; exact ih.1, fun j p0 pj h0 hj => ?_⟩
    by_cases hji : j = i
    · subst hji
      rw [List.getElem?_set_self hlt] at hj
      cases hj
      exact step_tracks (ih.2 j p0 p h0 hp) hstep
    · rw [List.getElem?_set_ne (Ne.symm hji)] at hj
      exact ih.2 j p0 pj h0 hj

theorem split_check {P : List Step} {φ : List Step → List Step → Bool}
    (h : (List.range (P.length + 1)).all (fun n => φ (P.take n) (P.drop n)) = true)
    {pre post : List Step} (hP : P = pre ++ post) : φ pre post = true := by
  subst hP
  have := List.all_eq_true.1 h pre.length (by rw [List.mem_range, List.length_append]; omega)
  simpa using this

end Corro.Locks
