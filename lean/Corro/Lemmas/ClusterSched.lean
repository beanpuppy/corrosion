/-
C01, protocol level — the vocabulary of the liveness theorems.  Node `i` holds every version of actor
`a` (`HoldsAll`); a node is alive (`Crash.AliveAt`, `Crash.AllAlive`); a sync session is LOSSLESS — one by
one: every answer is delivered (`pick … = answers …`); in batches: the batches contain answers of the
server only and every answer is in one of them (`LosslessB`, by index; `CoversB`, the same by membership,
is what the proofs use and what a lossless one-by-one session satisfies when lifted); a schedule is a run
of lossless sessions from clean states (`LosslessRun`, `LosslessRunB`, `CoversRunB`), decidable on a
concrete run (`losslessCheck`, `losslessCheckB`); one round over all ordered pairs (`allPairs`,
`allPairsB`).
-/
import Corro.Lemmas.ClusterRuns

namespace Corro.ClusterSys
open Corro.Crdt Corro.Node

/-- every op of the run is a sync session, executed from a clean state, in which every answer is
delivered -/
def LosslessRun : Cluster → List Op → Prop
  | _, [] => True
  | c, op :: ops =>
    (∃ i j keep, op = .sync i j keep ∧
      ∀ (ni nj : Node), c.nodes[i]? = some ni → c.nodes[j]? = some nj → pick (answers ni nj) keep = answers ni nj) ∧
    c.clean = true ∧ LosslessRun (step c op) ops

def HoldsAll (c : Cluster) (i a : Nat) : Prop :=
  ∀ (n : Node), c.nodes[i]? = some n → ∀ v, 1 ≤ v → v ≤ c.log.head a → Held n a v

def losslessOp (c : Cluster) : Op → Bool
  | .sync i j keep =>
    match c.nodes[i]?, c.nodes[j]? with
    | some ni, some nj => decide (pick (answers ni nj) keep = answers ni nj)
    | _, _ => true
  | _ => false

def losslessCheck : Cluster → List Op → Bool
  | _, [] => true
  | c, op :: ops => losslessOp c op && c.clean && losslessCheck (step c op) ops

theorem losslessRun_of_check {c : Cluster} {ops : List Op} (h : losslessCheck c ops = true) :
    LosslessRun c ops := by
  induction ops generalizing c with
  | nil => trivial
  | cons op ops ih =>
    unfold losslessCheck at h
    simp only [Bool.and_eq_true] at h
    obtain ⟨⟨h1, h2⟩, h3⟩ := h
    refine ⟨?_, h2, ih h3⟩
    cases op with
    | sync i j keep =>
      refine ⟨i, j, keep, rfl, ?_⟩
      intro ni nj hi hj
      have h1' : (match c.nodes[i]?, c.nodes[j]? with
          | some ni, some nj => decide (pick (answers ni nj) keep = answers ni nj)
          | _, _ => true) = true := h1
      rw [hi, hj] at h1'
      exact of_decide_eq_true h1'
    | write => cases h1
    | deliverOrigin => cases h1
    | kill => cases h1
    | restart => cases h1

theorem pick_range (l : List Item) (N : Nat) (h : l.length ≤ N) : pick l (List.range N) = l := by
  unfold pick
  induction l generalizing N with
  | nil =>
    apply List.filterMap_eq_nil_iff.mpr
    intro k _
    rfl
  | cons x xs ih =>
    cases N with
    | zero => simp at h
    | succ M =>
      rw [List.range_succ_eq_map, List.filterMap_cons]
      simp only [List.getElem?_cons_zero, List.filterMap_map]
      congr 1
      have := ih M (by simpa using h)
      have hf : ((fun k => (x :: xs)[k]?) ∘ fun x => x + 1) = fun k => xs[k]? := by
        funext k; simp
      rw [hf]
      exact this

/-- one round of sessions over all ordered pairs of distinct nodes, every session keeping the first
`N` answers in order -/
def allPairs (k N : Nat) : List Op :=
  (List.range k).flatMap (fun i => (List.range k).filterMap (fun a =>
    if i = a then none else some (Op.sync i a (List.range N))))

theorem allPairs_covers {k N i a : Nat} (hi : i < k) (ha : a < k) (hne : i ≠ a) :
    Op.sync i a (List.range N) ∈ allPairs k N := by
  unfold allPairs
  refine List.mem_flatMap.mpr ⟨i, List.mem_range.mpr hi, List.mem_filterMap.mpr ⟨a, List.mem_range.mpr ha, ?_⟩⟩
  rw [if_neg hne]

def Pick.isAns : Pick → Bool
  | .ans _ => true
  | .orig .. => false

/-- **the session is lossless**: the client's batches contain answers of the server only, and every
answer is in at least one of them (any split into batches, any order, repeats allowed) -/
def LosslessB (ans : List Item) (batches : List (List Pick)) : Prop :=
  (∀ b ∈ batches, ∀ p ∈ b, p.isAns = true) ∧ ∀ k, k < ans.length → ∃ b ∈ batches, Pick.ans k ∈ b

instance (ans : List Item) (batches : List (List Pick)) : Decidable (LosslessB ans batches) := by
  unfold LosslessB; exact inferInstance

theorem pickBatch_sub {L : Log} {ans : List Item} {b : List Pick} (hb : ∀ p ∈ b, p.isAns = true) :
    ∀ it ∈ pickBatch L ans b, it ∈ ans := by
  intro it hit
  unfold pickBatch at hit
  obtain ⟨p, hp, he⟩ := List.mem_filterMap.mp hit
  cases p with
  | ans k => exact List.mem_of_getElem? he
  | orig site ver lo hi => have := hb _ hp; cases this

theorem losslessB_sub {L : Log} {ans : List Item} {batches : List (List Pick)} (h : LosslessB ans batches) :
    ∀ b ∈ batches.map (pickBatch L ans), ∀ it ∈ b, it ∈ ans := by
  intro b hb it hit
  obtain ⟨ps, hps, rfl⟩ := List.mem_map.mp hb
  exact pickBatch_sub (h.1 ps hps) it hit

theorem losslessB_cov {L : Log} {ans : List Item} {batches : List (List Pick)} (h : LosslessB ans batches) :
    ∀ it ∈ ans, ∃ b ∈ batches.map (pickBatch L ans), it ∈ b := by
  intro it hit
  obtain ⟨k, hk, he⟩ := List.mem_iff_getElem.mp hit
  obtain ⟨ps, hps, hmem⟩ := h.2 k hk
  refine ⟨pickBatch L ans ps, List.mem_map.mpr ⟨ps, hps, rfl⟩, ?_⟩
  unfold pickBatch
  refine List.mem_filterMap.mpr ⟨Pick.ans k, hmem, ?_⟩
  simp only
  rw [List.getElem?_eq_getElem hk, he]

/-- every op of the run is a sync session, executed from a clean state, that is lossless -/
def LosslessRunB : Cluster → List OpB → Prop
  | _, [] => True
  | c, op :: ops =>
    (∃ i j batches, op = .syncB i j batches ∧
      ∀ (ni nj : Node), c.nodes[i]? = some ni → c.nodes[j]? = some nj → LosslessB (answers ni nj) batches) ∧
    c.clean = true ∧ LosslessRunB (stepB c op) ops

/-- the session is lossless, as the proofs use it: as changesets, the batches consist of answers of the
server and contain every answer.  `LosslessB`, which says the same by index, implies it; a one-by-one
session that delivers every answer satisfies it when lifted (`coversB_singletons`) but need not be
`LosslessB`: when an answer is repeated in `ans`, `pick [x, x] [0, 0] = [x, x]` and index 1 is in no batch -/
def CoversB (L : Log) (ans : List Item) (batches : List (List Pick)) : Prop :=
  (∀ b ∈ batches.map (pickBatch L ans), ∀ it ∈ b, it ∈ ans) ∧
  ∀ it ∈ ans, ∃ b ∈ batches.map (pickBatch L ans), it ∈ b

theorem LosslessB.covers {L : Log} {ans : List Item} {batches : List (List Pick)} (h : LosslessB ans batches) :
    CoversB L ans batches := ⟨losslessB_sub h, losslessB_cov h⟩

theorem coversB_singletons (L : Log) {ans : List Item} {keep : List Nat} (h : pick ans keep = ans) :
    CoversB L ans (keep.map (fun k => [Pick.ans k])) := by
  constructor
  · intro b hb it hit
    obtain ⟨ps, hps, rfl⟩ := List.mem_map.mp hb
    obtain ⟨k, _, rfl⟩ := List.mem_map.mp hps
    exact pickBatch_sub (fun p hp => by cases List.mem_singleton.mp hp; rfl) it hit
  · intro it hit
    rw [← h] at hit
    obtain ⟨k, hk, he⟩ := List.mem_filterMap.mp hit
    refine ⟨pickBatch L ans [Pick.ans k],
      List.mem_map.mpr ⟨_, List.mem_map.mpr ⟨k, hk, rfl⟩, rfl⟩, ?_⟩
    unfold pickBatch
    simp [he]

/-- every op of the run is a sync session, executed from a clean state, whose batches cover the
answers -/
def CoversRunB : Cluster → List OpB → Prop
  | _, [] => True
  | c, op :: ops =>
    (∃ i j batches, op = .syncB i j batches ∧
      ∀ (ni nj : Node), c.nodes[i]? = some ni → c.nodes[j]? = some nj →
        CoversB c.log (answers ni nj) batches) ∧
    c.clean = true ∧ CoversRunB (stepB c op) ops

theorem LosslessRunB.covers {c : Cluster} {ops : List OpB} (h : LosslessRunB c ops) : CoversRunB c ops := by
  induction ops generalizing c with
  | nil => trivial
  | cons op ops ih =>
    obtain ⟨⟨i, j, batches, rfl, hl⟩, hcl, hr⟩ := h
    exact ⟨⟨i, j, batches, rfl, fun ni nj hi hj => (hl ni nj hi hj).covers⟩, hcl, ih hr⟩

theorem LosslessRun.covers {c : Cluster} {ops : List Op} (h : LosslessRun c ops) :
    CoversRunB c (ops.map liftOp) := by
  induction ops generalizing c with
  | nil => trivial
  | cons op ops ih =>
    obtain ⟨⟨i, j, keep, rfl, hl⟩, hcl, hr⟩ := h
    refine ⟨⟨i, j, _, rfl, fun ni nj hi hj => coversB_singletons c.log (hl ni nj hi hj)⟩, hcl, ?_⟩
    rw [← step_eq_stepB]
    exact ih hr

def losslessOpB (c : Cluster) : OpB → Bool
  | .syncB i j batches =>
    match c.nodes[i]?, c.nodes[j]? with
    | some ni, some nj => decide (LosslessB (answers ni nj) batches)
    | _, _ => true
  | _ => false

def losslessCheckB : Cluster → List OpB → Bool
  | _, [] => true
  | c, op :: ops => losslessOpB c op && c.clean && losslessCheckB (stepB c op) ops

theorem losslessRunB_of_check {c : Cluster} {ops : List OpB} (h : losslessCheckB c ops = true) :
    LosslessRunB c ops := by
  induction ops generalizing c with
  | nil => trivial
  | cons op ops ih =>
    unfold losslessCheckB at h
    simp only [Bool.and_eq_true] at h
    obtain ⟨⟨h1, h2⟩, h3⟩ := h
    refine ⟨?_, h2, ih h3⟩
    cases op with
    | syncB i j batches =>
      refine ⟨i, j, batches, rfl, ?_⟩
      intro ni nj hi hj
      have h1' : (match c.nodes[i]?, c.nodes[j]? with
          | some ni, some nj => decide (LosslessB (answers ni nj) batches)
          | _, _ => true) = true := h1
      rw [hi, hj] at h1'
      exact of_decide_eq_true h1'
    | write => cases h1
    | deliverOrigins => cases h1
    | kill => cases h1
    | restart => cases h1

/-- the first `N` answers of a session in TWO batches: the odd-numbered answers in reverse order,
then the even-numbered ones -/
def twoBatches (N : Nat) : List (List Pick) :=
  [((List.range N).filter (fun x => x % 2 = 1)).reverse.map Pick.ans,
   ((List.range N).filter (fun x => x % 2 = 0)).map Pick.ans]

/-- one round of sessions over all ordered pairs of distinct nodes, the client processing the answers
of every session as `twoBatches N` -/
def allPairsB (k N : Nat) : List OpB :=
  (List.range k).flatMap (fun i => (List.range k).filterMap (fun a =>
    if i = a then none else some (OpB.syncB i a (twoBatches N))))

theorem allPairsB_covers {k N i a : Nat} (hi : i < k) (ha : a < k) (hne : i ≠ a) :
    OpB.syncB i a (twoBatches N) ∈ allPairsB k N := by
  unfold allPairsB
  refine List.mem_flatMap.mpr ⟨i, List.mem_range.mpr hi, List.mem_filterMap.mpr ⟨a, List.mem_range.mpr ha, ?_⟩⟩
  rw [if_neg hne]

namespace Crash

/-- every node is alive (every killed node has been restarted) -/
def AllAlive (c : Cluster) : Prop := ∀ (i : Nat) (n : Node), c.nodes[i]? = some n → n.alive = true

instance (c : Cluster) : Decidable (AllAlive c) :=
  decidable_of_iff (c.nodes.all (fun n => n.alive) = true) (by
    unfold AllAlive
    rw [List.all_eq_true]
    constructor
    · intro h i n hi; exact h n (List.mem_of_getElem? hi)
    · intro h n hn
      obtain ⟨i, hi⟩ := List.getElem?_of_mem hn
      exact h i n hi)

def AliveAt (c : Cluster) (i : Nat) : Prop := ∀ (n : Node), c.nodes[i]? = some n → n.alive = true

/-- for concrete runs: the node at a valid position, as an equation -/
theorem nodes_getD (c : Cluster) (i : Nat) (h : i < c.nodes.length) :
    c.nodes[i]? = some ((c.nodes[i]?).getD (Node.fresh i)) := by
  rw [List.getElem?_eq_getElem h]; rfl

theorem reachC_lossless {k : Nat} {c : Cluster} (h : ReachC k c) {ops : List Op} (hrun : LosslessRun c ops) :
    ReachC k (run c ops) := by
  induction ops generalizing c with
  | nil => exact h
  | cons op ops ih =>
    obtain ⟨⟨i, j, keep, rfl, _⟩, hcl, hrest⟩ := hrun
    exact ih (ReachC.step (.sync i j keep) h trivial (serverClean_of_clean hcl _)) hrest

theorem mem_liftOp_sync {ops : List Op} {i a : Nat} (h : ∃ keep, Op.sync i a keep ∈ ops) :
    ∃ batches, OpB.syncB i a batches ∈ ops.map liftOp :=
  let ⟨_, hk⟩ := h
  ⟨_, List.mem_map.mpr ⟨_, hk, rfl⟩⟩

end Crash

end Corro.ClusterSys
