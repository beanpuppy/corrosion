/-
`Node.deliver` of a batch with ONE changeset, in closed form for ANY node state (`deliver_one`):
nothing happens, or a range of versions is settled (`clearedNode` of `dataNode`), or a chunk is buffered
(`bufNode`) and applied if it completes the version on an alive node.  Read off `procCase` on the empty
transaction state (`tx0`); before it, the equations of the nodes and bookkeepings the outcomes are stated in.
-/
import Corro.Lemmas.NodeConsistent
namespace Corro.Node
open Corro.Crdt

abbrev tx0 (n : Node) : TxSt := { node := n, seen := [], processed := [], clears := [] }

theorem alreadySeen_nil (it : Item) (h : it.versions.1 ≤ it.versions.2) : alreadySeen [] it = false := by
  unfold alreadySeen
  obtain ⟨k, hk⟩ : ∃ k, it.versions.2 + 1 - it.versions.1 = k + 1 := ⟨it.versions.2 - it.versions.1, by omega⟩
  simp only [hk, List.range_succ_eq_map, List.all_cons]
  cases it.seqs <;> rfl

theorem finish_noApplies (N : Node) (cl : List (Nat × Nat × Nat)) : finish (N, [], cl) = clearAll N cl := by
  show (if (clearAll N cl).alive then clearAll N cl else clearAll N cl) = clearAll N cl
  split <;> rfl

theorem deliverFold_single (n : Node) (it : Item)
    (h : (n.booked it.site).containsAll it.versions.1 it.versions.2 it.seqs = false) :
    deliverFold n [it] = processActor n it.site [it] := by
  have hunk : unknownOf n [it] = [it] := by
    unfold unknownOf
    rw [dedupeBatch_single]
    simp [h]
  unfold deliverFold
  rw [hunk, show sitesOf [it] = [it.site] from rfl]
  simp only [List.foldl_cons, List.foldl_nil, actorStep, List.nil_append, List.filter_cons,
    decide_true, if_true, List.filter_nil]

theorem deliverFold_single_skip (n : Node) (it : Item)
    (h : (n.booked it.site).containsAll it.versions.1 it.versions.2 it.seqs = true) :
    deliverFold n [it] = (n, [], []) := by
  have hunk : unknownOf n [it] = [] := by
    unfold unknownOf
    rw [dedupeBatch_single]
    simp [h]
  unfold deliverFold
  rw [hunk]
  rfl

theorem deliver_single_skip (n : Node) (it : Item)
    (h : (n.booked it.site).containsAll it.versions.1 it.versions.2 it.seqs = true) :
    n.deliver [it] = n := by
  rw [deliver_eq', deliverFold_single_skip n it h]
  exact finish_noApplies n []

/-- the node after a changeset that completes / clears the versions `vlo..=vhi` of actor `a`:
`N` is the node after the data part of the transaction, `B` the new bookkeeping of `a` -/
def clearedNode (N : Node) (a vlo vhi : Nat) (B : Booked) : Node :=
  clearAll (N.setBooked a B) (if hasBufferedMeta N a vlo vhi then [(a, vlo, vhi)] else [])

/-- the node after the data part of the transaction for a changeset that settles versions of actor
`a` up to `v` and carries `cs` (none for an `Empty`) -/
def dataNode (n : Node) (a v : Nat) (cs : List Chg) : Node :=
  if cs = [] then (if (n.booked a).max ≤ v then n.bumpDbv a v else n) else n.mergeChanges cs

/-- the partial of `(site, ver)` after buffering the chunk -/
def bufPartial (n : Node) (site ver lo hi last : Nat) (cs : List Chg) : Partial :=
  mergedPartial ((n.booked site).insertDb [(ver, ver)]) ver ⟨[(n.bufferChunk site ver lo hi last cs).2], last⟩

/-- the bookkeeping after buffering the chunk `[lo, hi]` of `(site, ver)` -/
def bufBooked (n : Node) (site ver lo hi last : Nat) (cs : List Chg) : Booked :=
  (((n.booked site).insertDb [(ver, ver)]).insertPartial ver
    ⟨[(n.bufferChunk site ver lo hi last cs).2], last⟩).1

/-- the node right after the transaction that buffered the chunk -/
def bufNode (n : Node) (site ver lo hi last : Nat) (cs : List Chg) : Node :=
  (n.bufferChunk site ver lo hi last cs).1.setBooked site (bufBooked n site ver lo hi last cs)

theorem clearedNode_eq (N : Node) (a vlo vhi : Nat) (B : Booked) :
    clearedNode N a vlo vhi B =
      if hasBufferedMeta N a vlo vhi then (N.setBooked a B).clearMeta a vlo vhi else N.setBooked a B := by
  unfold clearedNode
  split <;> rfl

theorem clearedNode_booked_same (N : Node) (a vlo vhi : Nat) (B : Booked) :
    (clearedNode N a vlo vhi B).booked a = B := by
  rw [clearedNode_eq]
  split
  · rw [booked_clearMeta, booked_setBooked_same]
  · rw [booked_setBooked_same]

theorem clearedNode_db (N : Node) (a vlo vhi : Nat) (B : Booked) :
    (clearedNode N a vlo vhi B).db = N.db := by
  rw [clearedNode_eq]; split <;> simp

theorem mem_clearedNode_rows {N : Node} {a vlo vhi : Nat} {B : Booked} {r : SeqRow} :
    r ∈ (clearedNode N a vlo vhi B).seqRows ↔
      r ∈ N.seqRows ∧ ¬ (r.site = a ∧ vlo ≤ r.ver ∧ r.ver ≤ vhi) := by
  rw [clearedNode_eq]
  split
  · rw [mem_clearMeta_rows, setBooked_seqRows]
  · rename_i h
    have := (hasBufferedMeta_false (Bool.eq_false_iff.mpr h)).2
    rw [setBooked_seqRows]
    exact ⟨fun hr => ⟨hr, this r hr⟩, fun hr => hr.1⟩

theorem mem_clearedNode_buf {N : Node} {a vlo vhi : Nat} {B : Booked} {c : Chg} :
    c ∈ (clearedNode N a vlo vhi B).buf ↔
      c ∈ N.buf ∧ ¬ (c.site = a ∧ vlo ≤ c.dbv ∧ c.dbv ≤ vhi) := by
  rw [clearedNode_eq]
  split
  · rw [mem_clearMeta_buf, setBooked_buf]
  · rename_i h
    have := (hasBufferedMeta_false (Bool.eq_false_iff.mpr h)).1
    rw [setBooked_buf]
    exact ⟨fun hr => ⟨hr, this c hr⟩, fun hr => hr.1⟩

section DataNode
variable (n : Node) (a v : Nat) (cs : List Chg)

@[simp] theorem dataNode_buf : (dataNode n a v cs).buf = n.buf := by
  unfold dataNode
  split
  · split <;> simp
  · simp

theorem dataNode_db : (dataNode n a v cs).db = mergeAll n.db cs := by
  unfold dataNode
  split
  · rename_i h; subst h; split <;> simp [mergeAll]
  · exact mergeChanges_db n cs

end DataNode


section Buffer
variable {n : Node} {a v lo hi last : Nat} {cs : List Chg}

theorem bufChunk_range (n : Node) (a v lo hi last : Nat) (cs : List Chg) :
    (n.bufferChunk a v lo hi last cs).2.1 ≤ lo ∧ hi ≤ (n.bufferChunk a v lo hi last cs).2.2 := by
  rw [bufferChunk_eq]
  exact ⟨mergedLo_le _ _ _ _ _, le_mergedHi _ _ _ _ _⟩

theorem bufChunk_fwd (n : Node) (a v : Nat) {lo hi : Nat} (last : Nat) (cs : List Chg) (hlh : lo ≤ hi) :
    (n.bufferChunk a v lo hi last cs).2.1 ≤ (n.bufferChunk a v lo hi last cs).2.2 := by
  have := bufChunk_range n a v lo hi last cs
  omega

theorem bufNode_booked_same (n : Node) (a v lo hi last : Nat) (cs : List Chg) :
    (bufNode n a v lo hi last cs).booked a = bufBooked n a v lo hi last cs := by
  unfold bufNode; rw [booked_setBooked_same]

theorem bufNode_booked_other (n : Node) (a v lo hi last : Nat) (cs : List Chg) (a' : Nat) (h : a' ≠ a) :
    (bufNode n a v lo hi last cs).booked a' = n.booked a' := by
  unfold bufNode
  rw [booked_setBooked_other _ _ _ _ h]
  exact booked_of_book (bufferChunk_book _ _ _ _ _ _ _) a'

theorem bufBooked_needed (n : Node) (a v lo hi last : Nat) (cs : List Chg) :
    (bufBooked n a v lo hi last cs).needed = ((n.booked a).insertDb [(v, v)]).needed := by
  unfold bufBooked; rw [insertPartial_needed]

theorem bufBooked_max (n : Node) (a v lo hi last : Nat) (cs : List Chg) :
    (bufBooked n a v lo hi last cs).max = max (n.booked a).max v := by
  unfold bufBooked
  rw [insertPartial_max, insertDb_single_max]
  split
  · rfl
  · show max (max _ _) _ = _
    omega

theorem bufBooked_partial_same (n : Node) (a v lo hi last : Nat) (cs : List Chg) :
    (bufBooked n a v lo hi last cs).partial? v = some (bufPartial n a v lo hi last cs) := by
  unfold bufBooked bufPartial; rw [partial?_insertPartial_same]

theorem bufBooked_partial_other (n : Node) (a v lo hi last : Nat) (cs : List Chg) (w : Nat) (h : w ≠ v) :
    (bufBooked n a v lo hi last cs).partial? w = (n.booked a).partial? w := by
  unfold bufBooked; rw [partial?_insertPartial_other _ _ _ _ h, partial?_insertDb]

theorem bufBooked_pwf (hp : (n.booked a).PWF) (hlh : lo ≤ hi) :
    (bufBooked n a v lo hi last cs).PWF := by
  unfold bufBooked
  exact insertPartial_pwf (insertDb_pwf hp _) v (RSet.wf_singleton (bufChunk_fwd n a v last cs hlh))

theorem bufBooked_keys (hk : (n.booked a).KeysSorted) : (bufBooked n a v lo hi last cs).KeysSorted := by
  unfold bufBooked
  exact insertPartial_keysSorted (insertDb_keysSorted hk _) v _

theorem bufBooked_cv (hw : RSet.WF (n.booked a).needed) (w : Nat) :
    (bufBooked n a v lo hi last cs).containsVersion w = true ↔
      w = v ∨ (n.booked a).containsVersion w = true := by
  have h1 : (bufBooked n a v lo hi last cs).containsVersion w =
      ((n.booked a).insertDb [(v, v)]).containsVersion w := by
    unfold Booked.containsVersion
    rw [bufBooked_needed, bufBooked_max, insertDb_single_max]
  rw [h1, containsVersion_insertDb hw (Nat.le_refl v)]
  constructor
  · rintro (h | h)
    · left; omega
    · exact Or.inr h
  · rintro (h | h)
    · left; omega
    · exact Or.inr h

theorem mem_bufPartial (hlh : lo ≤ hi) (x : Nat) :
    RSet.Mem (bufPartial n a v lo hi last cs).seqs x ↔
      (∃ old, (n.booked a).partial? v = some old ∧ RSet.Mem old.seqs x) ∨
      ((n.bufferChunk a v lo hi last cs).2.1 ≤ x ∧ x ≤ (n.bufferChunk a v lo hi last cs).2.2) := by
  unfold bufPartial
  rw [mem_mergedPartial v (RSet.wf_singleton (bufChunk_fwd n a v last cs hlh)), partial?_insertDb]
  simp only
  rw [RSet.mem_singleton]

theorem bufPartial_last (n : Node) (a v lo hi last : Nat) (cs : List Chg) :
    (bufPartial n a v lo hi last cs).last =
      match (n.booked a).partial? v with | none => last | some old => old.last := by
  unfold bufPartial; rw [mergedPartial_last, partial?_insertDb]
  cases (n.booked a).partial? v <;> rfl

theorem bufPartial_complete_of_old (hp : (n.booked a).PWF) (hlh : lo ≤ hi) {old : Partial}
    (ho : (n.booked a).partial? v = some old) (hc : old.complete = true) :
    (bufPartial n a v lo hi last cs).complete = true := by
  unfold bufPartial
  exact mergedPartial_complete_mono (insertDb_pwf hp _) v (RSet.wf_singleton (bufChunk_fwd n a v last cs hlh))
    (by rw [partial?_insertDb]; exact ho) hc

theorem bufNode_rows (n : Node) (a v lo hi last : Nat) (cs : List Chg) :
    (bufNode n a v lo hi last cs).seqRows = (n.bufferChunk a v lo hi last cs).1.seqRows := by
  unfold bufNode; rw [setBooked_seqRows]

theorem bufNode_buf (n : Node) (a v lo hi last : Nat) (cs : List Chg) :
    (bufNode n a v lo hi last cs).buf = (n.bufferChunk a v lo hi last cs).1.buf := by
  unfold bufNode; rw [setBooked_buf]

theorem bufNode_db (n : Node) (a v lo hi last : Nat) (cs : List Chg) :
    (bufNode n a v lo hi last cs).db = n.db := by
  unfold bufNode; rw [setBooked_db, bufferChunk_db]

theorem bufNode_alive (n : Node) (a v lo hi last : Nat) (cs : List Chg) :
    (bufNode n a v lo hi last cs).alive = n.alive := by
  unfold bufNode; rw [setBooked_alive, bufferChunk_alive]

theorem bufNode_newRow (n : Node) (a v lo hi last : Nat) (cs : List Chg) :
    (⟨a, v, (n.bufferChunk a v lo hi last cs).2.1, (n.bufferChunk a v lo hi last cs).2.2, last⟩ : SeqRow) ∈
      (bufNode n a v lo hi last cs).seqRows := by
  rw [bufNode_rows, bufferChunk_eq]
  simp

theorem mem_bufNode_rows_other {r : SeqRow} (h : ¬ (r.site = a ∧ r.ver = v)) :
    r ∈ (bufNode n a v lo hi last cs).seqRows ↔ r ∈ n.seqRows := by
  rw [bufNode_rows]; exact mem_bufferChunk_rows_other h

theorem mem_bufNode_rows {r : SeqRow} (h : r ∈ (bufNode n a v lo hi last cs).seqRows) :
    r ∈ n.seqRows ∨
      r = ⟨a, v, (n.bufferChunk a v lo hi last cs).2.1, (n.bufferChunk a v lo hi last cs).2.2, last⟩ := by
  rw [bufNode_rows, bufferChunk_eq] at h
  simp only [List.mem_append, List.mem_filter, List.mem_singleton] at h
  rcases h with h | h
  · exact Or.inl h.1
  · exact Or.inr h

theorem seqMem_bufNode_same (hf : ∀ r ∈ n.seqRows, r.lo ≤ r.hi) (hlh : lo ≤ hi) (x : Nat) :
    SeqMem (bufNode n a v lo hi last cs).seqRows a v x ↔ SeqMem n.seqRows a v x ∨ (lo ≤ x ∧ x ≤ hi) := by
  rw [bufNode_rows]
  exact seqMem_bufferChunk n a v lo hi last cs hlh (fun r hr => hf r (mem_rowsOf.mp hr).1) x

theorem hasRows_bufNode_same (n : Node) (a v lo hi last : Nat) (cs : List Chg) :
    HasRows (bufNode n a v lo hi last cs) a v :=
  ⟨_, bufNode_newRow n a v lo hi last cs, rfl, rfl⟩

theorem bufNode_partial (n : Node) (a v lo hi last : Nat) (cs : List Chg) :
    ((bufNode n a v lo hi last cs).booked a).partial? v = some (bufPartial n a v lo hi last cs) := by
  rw [bufNode_booked_same, bufBooked_partial_same]

end Buffer

theorem processActor_single {n : Node} {site : Nat} {it : Item} {st : TxSt}
    (h : processOne (n.booked site) (tx0 n) it = st) :
    processActor n site [it] =
      if st.processed.isEmpty then (st.node, [], st.clears)
      else (st.node.setBooked site (committed n site st).1, (committed n site st).2, st.clears) := by
  have e : txFold n site [it] = st := h
  rw [← e]; exact processActor_node n site [it]

theorem processActor_settled {n : Node} {a vlo vhi : Nat} {it : Item} {st : TxSt}
    (h : processOne (n.booked a) (tx0 n) it = st) (hp : st.processed = [⟨vlo, vhi, none⟩]) :
    processActor n a [it] =
      (st.node.setBooked a (((n.booked a).insertDb [(vlo, vhi)]).dropPartials vlo vhi), [], st.clears) := by
  rw [processActor_single h]
  unfold committed procRanges
  rw [hp]
  rfl

theorem processActor_buffered {n : Node} {a v : Nat} {q : Partial} {it : Item} {st : TxSt}
    (h : processOne (n.booked a) (tx0 n) it = st) (hp : st.processed = [⟨v, v, some q⟩]) :
    processActor n a [it] =
      (st.node.setBooked a (((n.booked a).insertDb [(v, v)]).insertPartial v q).1,
        (if (mergedPartial ((n.booked a).insertDb [(v, v)]) v q).complete then [(a, v)] else []),
        st.clears) := by
  rw [processActor_single h]
  unfold committed procRanges
  rw [hp, show ∀ acc e, List.foldl (commitStep a) acc [e] = commitStep a acc e from fun _ _ => rfl,
    commitStep_some rfl]
  rfl

theorem finish_oneApply (X : Node) (c : Bool) (t : Nat × Nat) :
    finish (X, (if c then [t] else []), []) = if c && X.alive then X.applyBuffered t.1 t.2 else X := by
  cases c <;> cases h : X.alive <;> simp [finish, applyAll, h]

theorem deliverFold_single_noApplies (n : Node) (it : Item)
    (h : (n.booked it.site).containsAll it.versions.1 it.versions.2 it.seqs = true ∨ ¬ it.incomplete) :
    (deliverFold n [it]).2.1 = [] := by
  cases hk : (n.booked it.site).containsAll it.versions.1 it.versions.2 it.seqs with
  | true => rw [deliverFold_single_skip n it hk]
  | false =>
    have hni : ¬ it.incomplete := h.resolve_left (by rw [hk]; exact Bool.false_ne_true)
    rw [deliverFold_single n it hk, processActor_node,
      show txFold n it.site [it] = processOne (n.booked it.site) (tx0 n) it from rfl]
    obtain ⟨_, hc⟩ := procCase (n.booked it.site) (tx0 n) it
    cases hc with
    | skip h => rw [h]; rfl
    | cleared h => rw [h]; rfl
    | complete h => rw [h]; rfl
    | buffer _ hit hlh hinc => subst hit; exact absurd ⟨hlh, hinc⟩ hni

/-- the changeset settles the versions `vlo..=vhi` of actor `a` at once and carries `cs`: an
`Empty`, or a complete changeset of one version.  `deliver_one` states the node after the data part
in terms of `cs`; where the change list does not matter the cluster lemmas say `ClusterSys.Clears`,
the same without `cs` (`ClusterSys.Clears.of_settles`) -/
def Settles (it : Item) (a vlo vhi : Nat) (cs : List Chg) : Prop :=
  (it = .empty a vlo vhi ∧ cs = []) ∨ ∃ last, it = .full a vlo 0 last last cs ∧ vhi = vlo

/-- **what one delivery does**: nothing (the changeset is already known, or has a backward seq range);
or it settles a range of versions (`Settles`); or it is an incomplete chunk, which is buffered and, if it
completes the version on an alive node, applied.  The third outcome is also given before the background
loops (`deliverFold`): the ghost list of the batched cluster model is read off the scheduled applies
(`ClusterSys.mergedByBatch_single`) -/
theorem deliver_one (n : Node) (it : Item) :
    (n.deliver [it] = n ∧
      ((n.booked it.site).containsAll it.versions.1 it.versions.2 it.seqs = true ∨
        ∃ a v lo hi last cs, it = .full a v lo hi last cs ∧ hi < lo)) ∨
    (∃ a vlo vhi cs, Settles it a vlo vhi cs ∧ vlo ≤ vhi ∧
      (n.booked a).containsAll vlo vhi it.seqs = false ∧
      n.deliver [it] = clearedNode (dataNode n a vhi cs) a vlo vhi
        (((n.booked a).insertDb [(vlo, vhi)]).dropPartials vlo vhi)) ∨
    (∃ a v lo hi last cs, it = .full a v lo hi last cs ∧
      (n.booked a).containsAll v v (some (lo, hi)) = false ∧ lo ≤ hi ∧ ¬ (lo = 0 ∧ hi = last) ∧
      deliverFold n [it] = (bufNode n a v lo hi last cs,
        (if (bufPartial n a v lo hi last cs).complete then [(a, v)] else []), []) ∧
      n.deliver [it] = if (bufPartial n a v lo hi last cs).complete && n.alive then
        (bufNode n a v lo hi last cs).applyBuffered a v else bufNode n a v lo hi last cs) := by
  obtain ⟨M, hc⟩ := procCase (n.booked it.site) (tx0 n) it
  cases hc with
  | skip h why =>
    refine Or.inl ⟨?_, ?_⟩
    · cases hnc : (n.booked it.site).containsAll it.versions.1 it.versions.2 it.seqs with
      | true => exact deliver_single_skip n it hnc
      | false =>
        rw [deliver_eq', deliverFold_single n it hnc, processActor_single h]
        exact finish_noApplies n []
    · rcases why with h1 | h1 | h1
      · exact Or.inl h1
      · -- nothing has been seen yet: the version range is backward, hence known
        refine Or.inl (Classical.byContradiction fun hk => ?_)
        have hle : it.versions.1 ≤ it.versions.2 :=
          Nat.le_of_not_lt fun hlt => hk (containsAll_backward _ _ _ _ hlt)
        rw [alreadySeen_nil it hle] at h1; cases h1
      · exact Or.inr h1
  | @cleared s vlo vhi h hshape hlh hnc =>
    obtain ⟨hset, rfl, hv⟩ : Settles it s vlo vhi [] ∧ it.site = s ∧ it.versions = (vlo, vhi) := by
      rcases hshape with rfl | ⟨l, rfl, rfl⟩
      · exact ⟨Or.inl ⟨rfl, rfl⟩, rfl, rfl⟩
      · exact ⟨Or.inr ⟨l, rfl, rfl⟩, rfl, rfl⟩
    refine Or.inr (Or.inl ⟨_, vlo, vhi, [], hset, hlh, hnc, ?_⟩)
    rw [deliver_eq', deliverFold_single n it (by rw [hv]; exact hnc), processActor_settled h rfl]
    exact finish_noApplies _ _
  | @complete s v last _ h hit hne hnc =>
    subst hit
    refine Or.inr (Or.inl ⟨s, v, v, M, Or.inr ⟨last, rfl, rfl⟩, Nat.le_refl _, hnc, ?_⟩)
    rw [deliver_eq', deliverFold_single n _ hnc, processActor_settled h rfl,
      show dataNode n s v M = n.mergeChanges M from if_neg hne]
    exact finish_noApplies _ _
  | @buffer s v lo hi last cs h hit hlh hinc hnc =>
    subst hit
    have hf : deliverFold n [.full s v lo hi last cs] = (bufNode n s v lo hi last cs,
        (if (bufPartial n s v lo hi last cs).complete then [(s, v)] else []), []) :=
      (deliverFold_single n _ hnc).trans (processActor_buffered h rfl)
    refine Or.inr (Or.inr ⟨s, v, lo, hi, last, cs, rfl, hnc, hlh, hinc, hf, ?_⟩)
    rw [deliver_eq', hf, finish_oneApply, bufNode_alive]

end Corro.Node
