/-
C01, protocol level — the classes of runs the theorems speak of, for both cluster models, with the check
of a concrete run for each but `ReachB` and the inclusions between them; no invariant is needed here.  Runs of
`step` (one changeset per batch): `Reach` (any steps), `ReachLive` (no kill / restart, through clean
states), `Crash.ReachC` (any steps, the server of every sync step clean).  Runs of `stepB` (batches):
`ReachB`, `ReachLiveB`, `Full.ReachF`, likewise.  A run of `step` is the run of `stepB` on the lifted
operations (`step_eq_stepB`), so `Reach ⊆ ReachB`, `ReachLive ⊆ ReachLiveB`, `ReachC ⊆ ReachF` on the SAME
cluster state, and `ReachLive ⊆ ReachC`, `ReachLiveB ⊆ ReachF` since a clean cluster has clean servers.
-/
import Corro.Lemmas.ClusterStepB

namespace Corro.ClusterSys
open Corro.Crdt Corro.Node

/-- clusters reachable from `k` fresh nodes by any steps -/
inductive Reach (k : Nat) : Cluster → Prop
  | init : Reach k (Cluster.init k)
  | step {c : Cluster} (op : Op) : Reach k c → OpOK c op → Reach k (step c op)

/-- the step is neither `kill` nor `restart` -/
def Op.noCrash : Op → Bool
  | .kill _ => false
  | .restart _ => false
  | _ => true

/-- clusters reachable without `kill` / `restart`, through states in which no node has a sequence
row without a buffered row (`Cluster.clean`) -/
inductive ReachLive (k : Nat) : Cluster → Prop
  | init : ReachLive k (Cluster.init k)
  | step {c : Cluster} (op : Op) : ReachLive k c → op.noCrash = true → OpOK c op → c.clean = true →
      ReachLive k (step c op)

theorem ReachLive.reach {k : Nat} {c : Cluster} (h : ReachLive k c) : Reach k c := by
  induction h with
  | init => exact Reach.init
  | step op _ _ hok _ ih => exact Reach.step op ih hok

/-- every step of the run is a no-crash step satisfying its side condition from a clean state -/
def runOK : Cluster → List Op → Prop
  | _, [] => True
  | c, op :: ops => op.noCrash = true ∧ OpOK c op ∧ c.clean = true ∧ runOK (step c op) ops

instance : (c : Cluster) → (ops : List Op) → Decidable (runOK c ops)
  | _, [] => isTrue trivial
  | c, op :: ops =>
    have := instDecidableRunOK (step c op) ops
    by unfold runOK; exact inferInstance

theorem reachLive_run {k : Nat} {c : Cluster} (h : ReachLive k c) (ops : List Op) (hok : runOK c ops) :
    ReachLive k (run c ops) := by
  induction ops generalizing c with
  | nil => exact h
  | cons op ops ih =>
    obtain ⟨h1, h2, h3, h4⟩ := hok
    exact ih (ReachLive.step op h h1 h2 h3) h4

/-- every step of the run satisfies its side condition `OpOK` (which restricts write steps only) -/
def runOKAny : Cluster → List Op → Prop
  | _, [] => True
  | c, op :: ops => OpOK c op ∧ runOKAny (step c op) ops

instance : (c : Cluster) → (ops : List Op) → Decidable (runOKAny c ops)
  | _, [] => isTrue trivial
  | c, op :: ops =>
    have := instDecidableRunOKAny (step c op) ops
    by unfold runOKAny; exact inferInstance

theorem reach_run {k : Nat} {c : Cluster} (h : Reach k c) (ops : List Op) (hok : runOKAny c ops) :
    Reach k (run c ops) := by
  induction ops generalizing c with
  | nil => exact h
  | cons op ops ih => exact ih (Reach.step op h hok.1) hok.2

/-- clusters reachable from `k` fresh nodes by any steps of the batched model -/
inductive ReachB (k : Nat) : Cluster → Prop
  | init : ReachB k (Cluster.init k)
  | step {c : Cluster} (op : OpB) : ReachB k c → OpOKB c op → ReachB k (stepB c op)

/-- the step is neither `kill` nor `restart` -/
def OpB.noCrash : OpB → Bool
  | .kill _ => false
  | .restart _ => false
  | _ => true

/-- clusters reachable without `kill` / `restart`, through clean states -/
inductive ReachLiveB (k : Nat) : Cluster → Prop
  | init : ReachLiveB k (Cluster.init k)
  | step {c : Cluster} (op : OpB) : ReachLiveB k c → op.noCrash = true → OpOKB c op → c.clean = true →
      ReachLiveB k (stepB c op)

theorem ReachLiveB.reach {k : Nat} {c : Cluster} (h : ReachLiveB k c) : ReachB k c := by
  induction h with
  | init => exact ReachB.init
  | step op _ _ hok _ ih => exact ReachB.step op ih hok

theorem opOKB_liftOp {c : Cluster} {op : Op} (hok : OpOK c op) : OpOKB c (liftOp op) := by
  cases op with
  | write i stmts => exact hok
  | deliverOrigin => trivial
  | sync => trivial
  | kill => trivial
  | restart => trivial

theorem noCrash_liftOp (op : Op) : (liftOp op).noCrash = op.noCrash := by
  cases op <;> rfl

theorem reachB_of_reach {k : Nat} {c : Cluster} (h : Reach k c) : ReachB k c := by
  induction h with
  | init => exact ReachB.init
  | step op _ hok ih =>
    rw [step_eq_stepB]
    exact ReachB.step (liftOp op) ih (opOKB_liftOp hok)

theorem reachLiveB_of_reachLive {k : Nat} {c : Cluster} (h : ReachLive k c) : ReachLiveB k c := by
  induction h with
  | init => exact ReachLiveB.init
  | step op _ hnc hok hcl ih =>
    rw [step_eq_stepB]
    exact ReachLiveB.step (liftOp op) ih ((noCrash_liftOp op).trans hnc) (opOKB_liftOp hok) hcl

/-- every step of the run is a no-crash step satisfying its side condition from a clean state -/
def runOKB : Cluster → List OpB → Prop
  | _, [] => True
  | c, op :: ops => op.noCrash = true ∧ OpOKB c op ∧ c.clean = true ∧ runOKB (stepB c op) ops

instance : (c : Cluster) → (ops : List OpB) → Decidable (runOKB c ops)
  | _, [] => isTrue trivial
  | c, op :: ops =>
    have := instDecidableRunOKB (stepB c op) ops
    by unfold runOKB; exact inferInstance

theorem reachLiveB_run {k : Nat} {c : Cluster} (h : ReachLiveB k c) (ops : List OpB) (hok : runOKB c ops) :
    ReachLiveB k (runB c ops) := by
  induction ops generalizing c with
  | nil => exact h
  | cons op ops ih =>
    obtain ⟨h1, h2, h3, h4⟩ := hok
    exact ih (ReachLiveB.step op h h1 h2 h3) h4

namespace Crash

/-- the side condition of a step beyond `OpOK`: the SERVER of a sync session has no sequence row
without a buffered row of its version (`nodeClean`, what `Cluster.clean` says of every node) -/
def serverClean (c : Cluster) : Op → Bool
  | .sync _ j _ =>
    match c.nodes[j]? with
    | some nj => nodeClean nj
    | none => true
  | _ => true

theorem serverClean_of_clean {c : Cluster} (h : c.clean = true) (op : Op) : serverClean c op = true := by
  cases op with
  | sync i j keep =>
    cases hj : c.nodes[j]? with
    | none => simp only [serverClean, hj]
    | some nj => simp only [serverClean, hj]; exact clean_node h hj
  | write => rfl
  | deliverOrigin => rfl
  | kill => rfl
  | restart => rfl

/-- clusters reachable by ANY steps — `kill` and `restart` included — whose write steps satisfy the
side condition `OpOK` (R3 of the header of `Props/C01Cluster.lean`) and in whose sync steps the SERVER
has no sequence row without a buffered row (`serverClean`; implied by `Cluster.clean`, the second half of R4 there) -/
inductive ReachC (k : Nat) : Cluster → Prop
  | init : ReachC k (Cluster.init k)
  | step {c : Cluster} (op : Op) : ReachC k c → OpOK c op → serverClean c op = true →
      ReachC k (step c op)

theorem ReachC.reach {k : Nat} {c : Cluster} (h : ReachC k c) : Reach k c := by
  induction h with
  | init => exact Reach.init
  | step op _ hok _ ih => exact Reach.step op ih hok

theorem reachC_of_reachLive {k : Nat} {c : Cluster} (h : ReachLive k c) : ReachC k c := by
  induction h with
  | init => exact ReachC.init
  | step op _ _ hok hcl ih => exact ReachC.step op ih hok (serverClean_of_clean hcl op)

/-- every step of the run satisfies its side condition, and the server of every sync step is
clean -/
def runOKC : Cluster → List Op → Prop
  | _, [] => True
  | c, op :: ops => OpOK c op ∧ serverClean c op = true ∧ runOKC (step c op) ops

instance : (c : Cluster) → (ops : List Op) → Decidable (runOKC c ops)
  | _, [] => isTrue trivial
  | c, op :: ops =>
    have := instDecidableRunOKC (step c op) ops
    by unfold runOKC; exact inferInstance

theorem reachC_run {k : Nat} {c : Cluster} (h : ReachC k c) (ops : List Op) (hok : runOKC c ops) :
    ReachC k (run c ops) := by
  induction ops generalizing c with
  | nil => exact h
  | cons op ops ih =>
    obtain ⟨h1, h2, h3⟩ := hok
    exact ih (ReachC.step op h h1 h2) h3

end Crash

namespace Full

/-- the side condition of a step beyond `OpOKB`: the SERVER of a sync session has no sequence row
without a buffered row of its version (`nodeClean`) -/
def serverCleanB (c : Cluster) : OpB → Bool
  | .syncB _ j _ =>
    match c.nodes[j]? with
    | some nj => nodeClean nj
    | none => true
  | _ => true

theorem serverCleanB_of_clean {c : Cluster} (h : c.clean = true) (op : OpB) : serverCleanB c op = true := by
  cases op with
  | syncB i j batches =>
    cases hj : c.nodes[j]? with
    | none => simp only [serverCleanB, hj]
    | some nj => simp only [serverCleanB, hj]; exact clean_node h hj
  | write => rfl
  | deliverOrigins => rfl
  | kill => rfl
  | restart => rfl

theorem serverCleanB_sync {c : Cluster} {i j : Nat} {batches : List (List Pick)}
    (h : serverCleanB c (.syncB i j batches) = true) {nj : Node} (hj : c.nodes[j]? = some nj) :
    nodeClean nj = true := by
  simp only [serverCleanB, hj] at h
  exact h

/-- clusters reachable from `k` fresh nodes by ANY steps of the batched model — writes, batches of
original chunks, sync sessions in batches, `kill`, `restart`, in any order — whose steps satisfy
`OpOKB` (`OpOK` at write steps: R3 of the header of `Props/C01Cluster.lean`) and in whose sync steps the
SERVER is clean (R4' of `Props/C01ClusterCrash.lean`) -/
inductive ReachF (k : Nat) : Cluster → Prop
  | init : ReachF k (Cluster.init k)
  | step {c : Cluster} (op : OpB) : ReachF k c → OpOKB c op → serverCleanB c op = true →
      ReachF k (stepB c op)

theorem ReachF.reachB {k : Nat} {c : Cluster} (h : ReachF k c) : ReachB k c := by
  induction h with
  | init => exact ReachB.init
  | step op _ hok _ ih => exact ReachB.step op ih hok

theorem reachF_of_reachLiveB {k : Nat} {c : Cluster} (h : ReachLiveB k c) : ReachF k c := by
  induction h with
  | init => exact ReachF.init
  | step op _ _ hok hcl ih => exact ReachF.step op ih hok (serverCleanB_of_clean hcl op)

/-- every step of the run satisfies its side condition, and the server of every sync step is
clean -/
def runOKF : Cluster → List OpB → Prop
  | _, [] => True
  | c, op :: ops => OpOKB c op ∧ serverCleanB c op = true ∧ runOKF (stepB c op) ops

instance : (c : Cluster) → (ops : List OpB) → Decidable (runOKF c ops)
  | _, [] => isTrue trivial
  | c, op :: ops =>
    have := instDecidableRunOKF (stepB c op) ops
    by unfold runOKF; exact inferInstance

theorem reachF_run {k : Nat} {c : Cluster} (h : ReachF k c) (ops : List OpB) (hok : runOKF c ops) :
    ReachF k (runB c ops) := by
  induction ops generalizing c with
  | nil => exact h
  | cons op ops ih =>
    obtain ⟨h1, h2, h3⟩ := hok
    exact ih (ReachF.step op h h1 h2) h3

theorem serverCleanB_liftOp (c : Cluster) (op : Op) :
    serverCleanB c (liftOp op) = Crash.serverClean c op := by
  cases op <;> rfl

theorem reachF_of_reachC {k : Nat} {c : Cluster} (h : Crash.ReachC k c) : ReachF k c := by
  induction h with
  | init => exact ReachF.init
  | @step c op _ hok hcl ih =>
    rw [step_eq_stepB]
    exact ReachF.step (liftOp op) ih (opOKB_liftOp hok) ((serverCleanB_liftOp c op).trans hcl)

end Full

end Corro.ClusterSys
