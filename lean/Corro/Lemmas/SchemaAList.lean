/-
Association lists (`AList`, the model's `IndexMap`): what `lookup` finds after each operation, which
keys there are, lists with distinct keys, and folds that go through a list of keys.
-/
import Corro.Model.Schema

namespace Corro.Schema
open AList
variable {α : Type}

@[simp] theorem lookup_nil (k : Name) : lookup k ([] : AList α) = none := rfl

theorem lookup_cons (k k' : Name) (v : α) (l : AList α) :
    lookup k ((k', v) :: l) = if k' = k then some v else lookup k l := rfl

theorem insert_cons (k k' : Name) (v v' : α) (l : AList α) :
    AList.insert k v ((k', v') :: l) = if k' = k then (k, v) :: l else (k', v') :: AList.insert k v l := rfl

theorem erase_cons (k k' : Name) (v' : α) (l : AList α) :
    AList.erase k ((k', v') :: l) = if k' = k then AList.erase k l else (k', v') :: AList.erase k l := by
  unfold AList.erase; by_cases h : k' = k <;> simp [h]

theorem modify_cons (k k' : Name) (f : α → α) (v' : α) (l : AList α) :
    AList.modify k f ((k', v') :: l) = if k' = k then (k', f v') :: l else (k', v') :: AList.modify k f l := rfl

theorem lookup_insert (k k' : Name) (v : α) (l : AList α) :
    lookup k (AList.insert k' v l) = if k' = k then some v else lookup k l := by
  induction l with
  | nil => rfl
  | cons e r ih =>
    obtain ⟨a, b⟩ := e
    by_cases h2 : k' = k
    · subst h2; by_cases h1 : a = k' <;> simp [insert_cons, lookup_cons, h1, ih]
    · by_cases h1 : a = k' <;> simp [insert_cons, lookup_cons, h1, h2, ih]

theorem lookup_insert_self (k : Name) (v : α) (l : AList α) : lookup k (AList.insert k v l) = some v := by
  rw [lookup_insert, if_pos rfl]

theorem lookup_insert_ne {k k' : Name} (h : k' ≠ k) (v : α) (l : AList α) :
    lookup k (AList.insert k' v l) = lookup k l := by
  rw [lookup_insert, if_neg h]

theorem lookup_modify (k k' : Name) (f : α → α) (l : AList α) :
    lookup k (AList.modify k' f l) = if k' = k then (lookup k l).map f else lookup k l := by
  induction l with
  | nil => simp [AList.modify]
  | cons e r ih =>
    obtain ⟨a, b⟩ := e
    by_cases h2 : k' = k
    · subst h2; by_cases h1 : a = k' <;> simp [modify_cons, lookup_cons, h1, ih]
    · by_cases h1 : a = k' <;> simp [modify_cons, lookup_cons, h1, h2, ih]

theorem lookup_append (k : Name) (l m : AList α) : lookup k (l ++ m) = (lookup k l).or (lookup k m) := by
  induction l with
  | nil => rfl
  | cons e r ih =>
    obtain ⟨a, b⟩ := e
    by_cases h : a = k <;> simp [lookup_cons, h, ih]

theorem lookup_filter_key (p : Name → Bool) (k : Name) (l : AList α) :
    lookup k (l.filter (fun e => p e.1)) = if p k then lookup k l else none := by
  induction l with
  | nil => simp
  | cons e r ih =>
    obtain ⟨a, b⟩ := e
    by_cases h : a = k
    · subst h; by_cases hp : p a <;> simp [hp, lookup_cons, ih]
    · by_cases hp : p a <;> simp [hp, lookup_cons, h, ih]

theorem lookup_erase (k k' : Name) (l : AList α) :
    lookup k (AList.erase k' l) = if k' = k then none else lookup k l := by
  rw [AList.erase, lookup_filter_key (fun x => decide (x ≠ k'))]
  by_cases h : k = k' <;> simp [h, eq_comm]

theorem lookup_map_snd {β : Type} (f : α → β) (k : Name) (l : AList α) :
    lookup k (l.map (fun e => (e.1, f e.2))) = (lookup k l).map f := by
  induction l with
  | nil => rfl
  | cons e r ih =>
    obtain ⟨a, b⟩ := e
    by_cases h : a = k <;> simp [lookup_cons, h, ih]

theorem lookup_filterMap_keys (f : Name → Option α) (k : Name) (ks : List Name) :
    lookup k (ks.filterMap (fun n => (f n).map (fun c => (n, c)))) = if k ∈ ks then f k else none := by
  induction ks with
  | nil => simp
  | cons a r ih =>
    by_cases h : a = k
    · subst h; cases hf : f a <;> simp [hf, ih, lookup_cons]
    · have h' : ¬ k = a := fun h2 => h h2.symm
      cases hf : f a <;> simp [hf, lookup_cons, h, ih, h']

theorem keys_cons (k : Name) (v : α) (l : AList α) : keys ((k, v) :: l) = k :: keys l := rfl

theorem mem_keys_iff {k : Name} {l : AList α} : k ∈ keys l ↔ lookup k l ≠ none := by
  induction l with
  | nil => simp [keys]
  | cons e r ih =>
    obtain ⟨a, b⟩ := e
    rw [keys_cons, List.mem_cons, lookup_cons, ih]
    by_cases h : a = k
    · simp [h]
    · have h' : ¬ k = a := fun h2 => h h2.symm
      simp [h, h']

theorem lookup_eq_none_iff {k : Name} {l : AList α} : lookup k l = none ↔ k ∉ keys l := by
  rw [mem_keys_iff, Classical.not_not]

theorem mem_keys_of_lookup {k : Name} {v : α} {l : AList α} (h : lookup k l = some v) : k ∈ keys l :=
  mem_keys_iff.mpr (by rw [h]; exact Option.some_ne_none v)

theorem lookup_isSome_of_mem_keys {k : Name} {l : AList α} (h : k ∈ keys l) : ∃ v, lookup k l = some v :=
  Option.ne_none_iff_exists'.mp (mem_keys_iff.mp h)

theorem lookup_some_mem {k : Name} {v : α} {l : AList α} (h : lookup k l = some v) : (k, v) ∈ l := by
  induction l with
  | nil => cases h
  | cons e r ih =>
    obtain ⟨a, b⟩ := e
    by_cases h1 : a = k
    · simp_all [lookup_cons]
    · exact List.mem_cons_of_mem _ (ih (by simpa [lookup_cons, h1] using h))

theorem contains_iff {k : Name} {l : AList α} : contains k l = true ↔ k ∈ keys l := by
  rw [mem_keys_iff, contains, Option.isSome_iff_ne_none]

@[simp] theorem contains_eq_false_iff {k : Name} {l : AList α} : contains k l = false ↔ lookup k l = none := by
  simp [contains]

theorem contains_of_lookup {k : Name} {v : α} {l : AList α} (h : lookup k l = some v) : contains k l = true := by
  simp [contains, h]

theorem keys_append (l m : AList α) : keys (l ++ m) = keys l ++ keys m := List.map_append

theorem keys_insert (k : Name) (v : α) (l : AList α) :
    keys (AList.insert k v l) = if k ∈ keys l then keys l else keys l ++ [k] := by
  induction l with
  | nil => rfl
  | cons e r ih =>
    obtain ⟨a, b⟩ := e
    by_cases h : a = k
    · simp [insert_cons, keys, h]
    · have h' : ¬ k = a := fun h2 => h h2.symm
      rw [insert_cons, if_neg h, keys_cons, keys_cons, ih]
      by_cases hk : k ∈ keys r <;> simp [hk, h']

theorem keys_modify (k : Name) (f : α → α) (l : AList α) : keys (AList.modify k f l) = keys l := by
  induction l with
  | nil => rfl
  | cons e r ih =>
    obtain ⟨a, b⟩ := e
    rw [modify_cons]
    split
    · rfl
    · exact congrArg (a :: ·) ih

theorem keys_filter_sub {α : Type} (p : Name × α → Bool) (l : AList α) {k : Name} (h : k ∈ keys (l.filter p)) : k ∈ keys l :=
  (List.filter_sublist.map _).subset h

theorem mem_insert {k n : Name} {v t : α} {l : AList α} (h : (n, t) ∈ AList.insert k v l) :
    (n, t) = (k, v) ∨ (n, t) ∈ l := by
  induction l with
  | nil => exact Or.inl (List.mem_singleton.mp h)
  | cons e r ih =>
    obtain ⟨a, b⟩ := e
    rw [insert_cons] at h
    split at h
    · exact (List.mem_cons.mp h).imp_right (List.mem_cons_of_mem _)
    · rcases List.mem_cons.mp h with h | h
      · exact Or.inr (h ▸ List.mem_cons_self)
      · exact (ih h).imp_right (List.mem_cons_of_mem _)

theorem insert_eq_self {k : Name} {v : α} {l : AList α} (h : lookup k l = some v) : AList.insert k v l = l := by
  induction l with
  | nil => cases h
  | cons e r ih =>
    obtain ⟨a, b⟩ := e
    by_cases h1 : a = k <;> simp_all [insert_cons, lookup_cons]

theorem erase_eq_self {k : Name} {l : AList α} (h : lookup k l = none) : AList.erase k l = l := by
  induction l with
  | nil => rfl
  | cons e r ih =>
    obtain ⟨a, b⟩ := e
    by_cases h1 : a = k <;> simp_all [erase_cons, lookup_cons]

def NodupKeys (l : AList α) : Prop := (keys l).Nodup

theorem nodupKeys_nil : NodupKeys ([] : AList α) := List.nodup_nil

theorem nodupKeys_cons {k : Name} {v : α} {l : AList α} : NodupKeys ((k, v) :: l) ↔ lookup k l = none ∧ NodupKeys l := by
  rw [lookup_eq_none_iff]; exact List.nodup_cons

theorem nodupKeys_insert {k : Name} (v : α) {l : AList α} (h : NodupKeys l) : NodupKeys (AList.insert k v l) := by
  unfold NodupKeys
  rw [keys_insert]
  split
  · exact h
  · refine List.nodup_append.mpr ⟨h, by simp, fun a ha b hb hab => ?_⟩
    rw [List.mem_singleton] at hb
    subst hab hb
    contradiction

theorem nodupKeys_filter (p : Name × α → Bool) {l : AList α} (h : NodupKeys l) : NodupKeys (l.filter p) :=
  (List.filter_sublist.map _).nodup h

theorem filterMap_congr' {β γ : Type} {f g : β → Option γ} {l : List β} (h : ∀ x ∈ l, f x = g x) :
    l.filterMap f = l.filterMap g := by
  induction l with
  | nil => rfl
  | cons a r ih =>
    rw [List.filterMap_cons, List.filterMap_cons, h a List.mem_cons_self, ih fun x hx => h x (List.mem_cons_of_mem _ hx)]

theorem filterMap_keys_lookup {l : AList α} (h : NodupKeys l) :
    (keys l).filterMap (fun k => (lookup k l).map (fun c => (k, c))) = l := by
  induction l with
  | nil => rfl
  | cons e r ih =>
    obtain ⟨a, b⟩ := e
    obtain ⟨ha, hr⟩ := nodupKeys_cons.mp h
    have h1 : ∀ k ∈ keys r, (lookup k ((a, b) :: r)).map (fun c => (k, c)) = (lookup k r).map (fun c => (k, c)) := by
      intro k hk
      have : a ≠ k := fun h2 => mem_keys_iff.mp (h2 ▸ hk) ha
      rw [lookup_cons, if_neg this]
    show ((a :: keys r).filterMap _) = _
    rw [List.filterMap_cons, filterMap_congr' h1, ih hr]
    simp [lookup_cons]

theorem ext_of_keys_lookup {a b : AList α} (hk : keys a = keys b) (hl : ∀ k, lookup k a = lookup k b)
    (hn : NodupKeys a) : a = b := by
  rw [← filterMap_keys_lookup hn, ← filterMap_keys_lookup (l := b) (by unfold NodupKeys; rw [← hk]; exact hn)]
  simp only [hk, hl]

/-- `i` may occur in `ks` more than once, hence `u` idempotent. -/
theorem foldl_keyed {σ β : Type} (f : σ → Name → σ) (π : σ → β) (i : Name) (u : β → β) (hu : ∀ b, u (u b) = u b)
    (hf : ∀ s k, π (f s k) = if k = i then u (π s) else π s) (ks : List Name) (s : σ) :
    π (ks.foldl f s) = if i ∈ ks then u (π s) else π s := by
  induction ks generalizing s with
  | nil => rfl
  | cons k r ih =>
    rw [List.foldl_cons, ih, hf]
    by_cases hk : k = i
    · subst hk; by_cases hr : k ∈ r <;> simp [hr, hu]
    · have : ¬ i = k := fun h => hk h.symm
      simp [hk, this]

end Corro.Schema
