/-
C12: what the first read settles — the snapshot part of the output (`rows`, `eoq`)
and the base — along every schedule, and the client library's verdicts.
-/
import Corro.Lemmas.CatchUpStep

namespace Corro.CatchUp

/-- the snapshot items of an output -/
def snapPart : List Item → List Item
  | [] => []
  | .rows v :: r => .rows v :: snapPart r
  | .eoq s :: r => .eoq s :: snapPart r
  | _ :: r => snapPart r

@[simp] theorem snapPart_append (a b : List Item) : snapPart (a ++ b) = snapPart a ++ snapPart b := by
  induction a with
  | nil => rfl
  | cons x r ih => cases x <;> simp [snapPart, ih]

@[simp] theorem snapPart_map_change (l : List Nat) : snapPart (l.map Item.change) = [] := by
  induction l with
  | nil => rfl
  | cons x r ih => simp [snapPart, ih]

/-- program points after the first read -/
def Post : Pc → Prop
  | .start | .readEoq _ => False
  | _ => True

/-- from `s` to `s'` nothing of the snapshot is sent: `s'` is past the first read, the base is the same and
what was appended to the output has no snapshot part -/
def Quiet (s s' : Sub) : Prop :=
  Post s'.pc ∧ s'.base = s.base ∧ ∃ l, s'.out = s.out ++ l ∧ snapPart l = []

theorem Quiet.same {s s' : Sub} (hp : Post s'.pc) (hb : s'.base = s.base) (ho : s'.out = s.out) : Quiet s s' :=
  ⟨hp, hb, [], ho.trans (List.append_nil _).symm, rfl⟩

theorem Main.quiet {cfg : Cfg} {e : Env} {s s' : Sub} {pc : Pc} (h : Main cfg e s pc s') (hpc : s.pc = pc)
    (hp : Post pc) : Quiet s s' := by
  cases h with
  | startAnew | startSkip | startSince | readEoq => exact hp.elim
  | recvClosed | afterShort | pendSend | joinFailed | liveLagged | drainSend | liveSend | liveUnfiltered =>
    exact ⟨trivial, rfl, _, rfl, rfl⟩
  | loopRead => exact ⟨trivial, rfl, _, rfl, snapPart_map_change _⟩
  | drainWait | liveWait | done => exact .same (hpc ▸ trivial) rfl rfl
  -- the remaining rules send nothing and move to a point after the first read
  | _ => exact .same trivial rfl rfl

/-- What a subscriber attached with mode `m` has sent, along every schedule: nothing, then (`anew`
only) the rows of one version `v`, then the end-of-query event carrying the same `v` and no further
snapshot item; and the base of a resume is its `from`. -/
def ReadInv (m : Mode) (s : Sub) : Prop :=
  (s.pc = .start ∧ s.mode = m ∧ s.out = [] ∧ s.base = none) ∨
  (∃ v, s.pc = .readEoq v ∧ m = .anew ∧ s.out = [.rows v] ∧ s.base = none) ∨
  (Post s.pc ∧ (m = .anew → ∃ v rest, s.out = .rows v :: .eoq v :: rest ∧ snapPart rest = []) ∧
    (m ≠ .anew → snapPart s.out = []) ∧ ∀ n, m = .since n → s.base = some n)

theorem readInv_attach (e : Env) (m : Mode) : ReadInv m (attach e m) := Or.inl ⟨rfl, rfl, rfl, rfl⟩

theorem readInv_main (cfg : Cfg) (e : Env) {m : Mode} {s : Sub} (h : ReadInv m s) :
    ReadInv m (stepMain cfg e s) := by
  have hs := Main.of cfg e s
  generalize stepMain cfg e s = s' at hs
  rcases h with ⟨hpc, rfl, ho, hb⟩ | ⟨v, hpc, rfl, ho, hb⟩ | ⟨hp, h1, h2, h3⟩
  · rw [hpc] at hs
    cases hs with
    | startAnew => exact Or.inr (Or.inl ⟨_, rfl, ‹_›, by rw [ho]; rfl, hb⟩)
    | startSkip hm =>
      exact Or.inr (Or.inr ⟨trivial, by rw [hm]; nofun, fun _ => by rw [ho]; rfl, by rw [hm]; nofun⟩)
    | startSince hm =>
      exact Or.inr (Or.inr ⟨trivial, by rw [hm]; nofun, fun _ => by rw [ho]; exact snapPart_map_change _,
        fun _ h => by cases hm.symm.trans h; rfl⟩)
  · rw [hpc] at hs
    cases hs
    exact Or.inr (Or.inr ⟨trivial, fun _ => ⟨v, [], by rw [ho]; rfl, rfl⟩, fun h => absurd rfl h, nofun⟩)
  · obtain ⟨hp', hb, l, hl, hs⟩ := hs.quiet rfl hp
    refine Or.inr (Or.inr ⟨hp', fun hm => ?_, fun hm => ?_, fun n hm => hb.trans (h3 n hm)⟩)
    · obtain ⟨v, rest, ho, hr⟩ := h1 hm
      exact ⟨v, rest ++ l, by rw [hl, ho]; rfl, by rw [snapPart_append, hr, hs]; rfl⟩
    · rw [hl, snapPart_append, h2 hm, hs]; rfl

theorem run_readInv (cfg : Cfg) {m : Mode} (acts : List Act) : ∀ st : State, ReadInv m st.2 →
    ReadInv m (run cfg st acts).2 :=
  run_preserves (P := fun _ s => ReadInv m s) cfg (fun e _ h => readInv_main cfg e h)
    (fun _ _ h => stepQRecv_frame _ _ fun _ _ _ => h) (fun _ _ h => stepQCancel_frame fun _ => h)
    (fun _ _ _ h => h) acts

/-- rows and `EndOfQuery.change_id` come from one log state -/
theorem ReadInv.snapshot {m : Mode} {s : Sub} (h : ReadInv m s) :
    (m = .anew →
        s.out = [] ∨ (∃ v, s.out = [.rows v]) ∨
        (∃ v rest, s.out = .rows v :: .eoq v :: rest ∧ snapPart rest = [])) ∧
    (m ≠ .anew → snapPart s.out = []) := by
  rcases h with ⟨_, _, ho, _⟩ | ⟨v, _, hm, ho, _⟩ | ⟨_, h1, h2, _⟩
  · exact ⟨fun _ => .inl ho, fun _ => by rw [ho]; rfl⟩
  · exact ⟨fun _ => .inr (.inl ⟨v, ho⟩), fun h => absurd hm h⟩
  · exact ⟨fun hm => .inr (.inr (h1 hm)), h2⟩

theorem ReadInv.base {n : Nat} {s : Sub} (h : ReadInv (.since n) s) : s.base = none ∨ s.base = some n := by
  rcases h with ⟨_, _, _, hb⟩ | ⟨_, _, _, _, hb⟩ | ⟨_, _, _, h3⟩
  · exact .inl hb
  · exact .inl hb
  · exact .inr (h3 n rfl)

theorem clientRun_good_append : ∀ (n l : Nat) (r : List Nat),
    clientRun (some l) (idsFrom l (l + n) ++ r) = List.replicate n none ++ clientRun (some (l + n)) r := by
  intro n
  induction n with
  | zero => intro l r; simp [idsFrom]
  | succ k ih =>
    intro l r
    rw [idsFrom_cons]
    simp only [List.cons_append, clientRun, handleChange]
    have := ih (l + 1) r
    have e : l + 1 + k = l + (k + 1) := by omega
    rw [e] at this
    rw [e]
    simp [this, List.replicate_succ]

theorem clientRun_good (n l : Nat) :
    clientRun (some l) (idsFrom l (l + n)) = List.replicate n none := by
  have := clientRun_good_append n l []
  simpa [clientRun] using this

theorem clientRun_silent : ∀ (ids : List Nat) (l : Nat),
    (∀ r ∈ clientRun (some l) ids, r = none) → ids = idsFrom l (l + ids.length) := by
  intro ids
  induction ids with
  | nil => intro l _; simp [idsFrom]
  | cons x r ih =>
    intro l h
    simp only [clientRun, handleChange] at h
    by_cases hx : l + 1 = x
    · subst hx
      simp only [ne_eq, not_true_eq_false, ite_false, List.mem_cons, forall_eq_or_imp, true_and] at h
      have := ih (l + 1) h
      simp only [List.length_cons]
      rw [idsFrom_cons, ← this]
    · have := h (some (l + 1, x)) (by simp [hx])
      cases this

end Corro.CatchUp
