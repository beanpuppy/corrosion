/-
What delivered changesets do to ONE actor's bookkeeping, on any node whose bookkeeping of that actor is
well formed (`RSet.WF` of `needed`, `PWF`, `KeysSorted`).

`process_multiple_changes` updates the in-memory bookkeeping of an actor only after the commit:
`insert_db` of ALL processed versions at once, then `insert_partial` / removal of stale partials in
processing order (`committed`).  The same bookkeeping is obtained by updating per processed changeset
(`cV`: `insert_db` of its versions, then its `insert_partial` / removal) — `committed_eq_cV`.  This
lets the transaction be followed changeset by changeset with a bookkeeping that is always "as if
committed now" (`vbOf`; `vNode`: the node with it).  `StepKind` is what `processOne` does with one
changeset, `BkStep` how the bookkeeping changes in a step that books a range of versions.

The results speak of a version in a bookkeeping through two predicates: `OwnB`, booked with no partial
left ("settled"), and the weaker `WillHold`, booked with no partial or a complete one.  What ONE changeset
does to ONE version of the virtual bookkeeping is `Eff` (`VB.eff`, under the invariant `VB` of the
transaction; `SeenAt`: what `alreadySeen` checks of that version); the transaction seen from its
changesets is `TXK` (`txFold_known`: every changeset processed is contained in the virtual bookkeeping
afterwards, with two exceptions).  The changesets of a batch that reach the transaction of actor `a` are
`unknownFor n batch a`, and the transactions of the other actors leave the bookkeeping of `a` alone: what
its own transaction establishes holds after the fold over all actors (`deliverFold_actor_vb`).  What the
changesets of one or several batches do to the bookkeeping is the relation `BatchEff` (`HasChunk`: an
incomplete chunk of the version is among them), which composes (`deliverFold_eff`, `deliver_eff`,
`BatchEff.trans`), with what a delivery achieves for one version read off it (`BatchEff.willHold`,
`of_empty`, `of_full`, `of_ranges`).
-/
import Corro.Lemmas.NodeOne

namespace Corro.Node
open Corro.Crdt

/-- the after-commit step of one processed changeset, preceded by `insert_db` of its versions -/
def commitStepV (site : Nat) (acc : Booked × List (Nat × Nat)) (p : Processed) : Booked × List (Nat × Nat) :=
  commitStep site (acc.1.insertDb [(p.vlo, p.vhi)], acc.2) p

/-- the virtual bookkeeping (and scheduled applies) after the processed changesets `P` -/
def cV (b0 : Booked) (site : Nat) (P : List Processed) : Booked × List (Nat × Nat) :=
  P.foldl (commitStepV site) (b0, [])

/-- the virtual bookkeeping of the transaction's actor -/
def vbOf (b0 : Booked) (site : Nat) (st : TxSt) : Booked := (cV b0 site st.processed).1

theorem cV_nil (b0 : Booked) (site : Nat) : cV b0 site [] = (b0, []) := rfl

theorem cV_append (b0 : Booked) (site : Nat) (P : List Processed) (p : Processed) :
    cV b0 site (P ++ [p]) = commitStepV site (cV b0 site P) p := by
  unfold cV; rw [List.foldl_append]; rfl

theorem commitStepV_none (site : Nat) (acc : Booked × List (Nat × Nat)) (vlo vhi : Nat) :
    commitStepV site acc ⟨vlo, vhi, none⟩ = ((acc.1.insertDb [(vlo, vhi)]).dropPartials vlo vhi, acc.2) := rfl

theorem commitStep_needed (site : Nat) (acc : Booked × List (Nat × Nat)) (p : Processed) :
    (commitStep site acc p).1.needed = acc.1.needed := by
  cases hq : p.part with
  | none => rw [commitStep_none hq]; rfl
  | some q => rw [commitStep_some hq]; exact insertPartial_needed _ _ _

theorem commitStep_max (site : Nat) (acc : Booked × List (Nat × Nat)) (p : Processed)
    (h : p.vlo ≤ acc.1.max) : (commitStep site acc p).1.max = acc.1.max := by
  cases hq : p.part with
  | none => rw [commitStep_none hq]; rfl
  | some q =>
    rw [commitStep_some hq]
    show (acc.1.insertPartial p.vlo q).1.max = acc.1.max
    rw [insertPartial_max]
    split
    · rfl
    · exact Nat.max_eq_left h

theorem insertPartial_congr {b b' : Booked} (h : b.partials = b'.partials) (v : Nat) (p : Partial) :
    (b.insertPartial v p).1.partials = (b'.insertPartial v p).1.partials ∧
    (b.insertPartial v p).2 = (b'.insertPartial v p).2 := by
  have hp : b.partial? v = b'.partial? v := by unfold Booked.partial?; rw [h]
  unfold Booked.insertPartial
  rw [hp]
  cases b'.partial? v with
  | none => simp [h]
  | some old => simp [h]

theorem commitStep_congr (site : Nat) {x y : Booked × List (Nat × Nat)} (h1 : x.1.partials = y.1.partials)
    (h2 : x.2 = y.2) (p : Processed) :
    (commitStep site x p).1.partials = (commitStep site y p).1.partials ∧
    (commitStep site x p).2 = (commitStep site y p).2 := by
  unfold commitStep
  cases hq : p.part with
  | none =>
    simp only
    refine ⟨?_, h2⟩
    unfold Booked.dropPartials
    simp only [h1]
  | some q =>
    simp only
    obtain ⟨h3, h4⟩ := insertPartial_congr h1 p.vlo q
    rw [h4, h2]
    split
    · exact ⟨h3, rfl⟩
    · exact ⟨h3, rfl⟩

/-- the folds of `commitStep` and of `commitStepV` agree on the partials and the scheduled applies:
`insertDb` leaves both alone -/
theorem fold_commitStepV (site : Nat) (P : List Processed) (x y : Booked × List (Nat × Nat))
    (h1 : x.1.partials = y.1.partials) (h2 : x.2 = y.2) :
    (P.foldl (commitStep site) x).1.partials = (P.foldl (commitStepV site) y).1.partials ∧
    (P.foldl (commitStep site) x).2 = (P.foldl (commitStepV site) y).2 := by
  induction P generalizing x y with
  | nil => exact ⟨h1, h2⟩
  | cons p P ih =>
    simp only [List.foldl_cons]
    have := commitStep_congr site (x := x) (y := (y.1.insertDb [(p.vlo, p.vhi)], y.2))
      (by rw [h1]; simp) h2 p
    exact ih _ _ this.1 this.2

theorem fold_commit_frame (site : Nat) (P : List Processed) (acc : Booked × List (Nat × Nat))
    (h : ∀ e ∈ P, e.vlo ≤ acc.1.max) :
    (P.foldl (commitStep site) acc).1.max = acc.1.max ∧
    (P.foldl (commitStep site) acc).1.needed = acc.1.needed := by
  induction P generalizing acc with
  | nil => exact ⟨rfl, rfl⟩
  | cons p P ih =>
    simp only [List.foldl_cons]
    have hm := commitStep_max site acc p (h p (by simp))
    have := ih (commitStep site acc p) (by intro e he; rw [hm]; exact h e (by simp [he]))
    rw [this.1, this.2, hm, commitStep_needed]
    exact ⟨rfl, rfl⟩

theorem sup_append (rs : List (Nat × Nat)) (r : Nat × Nat) : sup (rs ++ [r]) = Nat.max (sup rs) r.2 := by
  unfold sup; rw [List.foldl_append]; rfl

theorem insertDb_congr {b b' : Booked} (h1 : b.max = b'.max) (h2 : b.needed = b'.needed) (vs : List (Nat × Nat)) :
    (b.insertDb vs).max = (b'.insertDb vs).max ∧ (b.insertDb vs).needed = (b'.insertDb vs).needed := by
  unfold Booked.insertDb
  split
  · exact ⟨h1, h2⟩
  · simp only [h1, h2, and_self]

/-- both sides are canonical range sets, so it is enough to compare their members (`RSet.wf_unique`,
`mem_insertDb_needed`) -/
theorem insertDb_snoc {b : Booked} (hw : RSet.WF b.needed) {rs : List (Nat × Nat)} {r : Nat × Nat}
    (hrs : ∀ x ∈ rs, x.1 ≤ x.2) (hr : r.1 ≤ r.2) :
    ((b.insertDb rs).insertDb [r]).max = (b.insertDb (rs ++ [r])).max ∧
    ((b.insertDb rs).insertDb [r]).needed = (b.insertDb (rs ++ [r])).needed := by
  by_cases hnil : rs = []
  · subst hnil; exact ⟨rfl, rfl⟩
  have hne : rs ++ [r] ≠ [] := by simp
  have hr1 : ∀ x ∈ [r], x.1 ≤ x.2 := by
    intro x hx; rw [List.mem_singleton] at hx; subst hx; exact hr
  have hall : ∀ x ∈ rs ++ [r], x.1 ≤ x.2 := by
    intro x hx
    rcases List.mem_append.mp hx with hx | hx
    · exact hrs x hx
    · exact hr1 x hx
  have hmx : ∀ x y : Nat, Nat.max x y = max x y := fun _ _ => rfl
  have hmax1 := insertDb_max b rs hnil
  have hw1 := insertDb_needed_wf hw _ hrs
  constructor
  · rw [insertDb_single_max, hmax1, insertDb_max _ _ hne, sup_append]
    exact Nat.max_assoc _ _ _
  · apply RSet.wf_unique _ _ (insertDb_needed_wf hw1 _ hr1) (insertDb_needed_wf hw _ hall)
    intro x
    rw [mem_insertDb_needed hw1 _ hr1 (by simp), mem_insertDb_needed hw _ hrs hnil,
      mem_insertDb_needed hw _ hall hne, sup_singleton, hmax1, sup_append]
    simp only [List.mem_singleton, exists_eq_left, List.mem_append, hmx]
    constructor
    · rintro ⟨(⟨h1 | h1, h2⟩ | h1), h3⟩
      · refine ⟨Or.inl h1, ?_⟩
        rintro ⟨q, hq | hq, h4⟩
        · exact h2 ⟨q, hq, h4⟩
        · subst hq; exact h3 h4
      · refine ⟨Or.inr ⟨h1.1, by omega⟩, ?_⟩
        rintro ⟨q, hq | hq, h4⟩
        · exact h2 ⟨q, hq, h4⟩
        · subst hq; exact h3 h4
      · refine ⟨Or.inr ⟨by omega, by omega⟩, ?_⟩
        rintro ⟨q, hq | hq, h4⟩
        · have := le_sup hq
          omega
        · subst hq; exact h3 h4
    · rintro ⟨h1, h2⟩
      have h3 : ¬ (r.1 ≤ x ∧ x ≤ r.2) := fun h4 => h2 ⟨_, Or.inr rfl, h4⟩
      have h4 : ¬ ∃ q ∈ rs, q.1 ≤ x ∧ x ≤ q.2 := by
        rintro ⟨q, hq, h5⟩; exact h2 ⟨q, Or.inl hq, h5⟩
      refine ⟨?_, h3⟩
      rcases h1 with h1 | h1
      · exact Or.inl ⟨Or.inl h1, h4⟩
      · by_cases h5 : x ≤ sup rs
        · exact Or.inl ⟨Or.inr ⟨h1.1, h5⟩, h4⟩
        · exact Or.inr ⟨by omega, by omega⟩

theorem cV_max_needed (b0 : Booked) (hw : RSet.WF b0.needed) (site : Nat) (P : List Processed)
    (hf : ∀ e ∈ P, e.vlo ≤ e.vhi) :
    (cV b0 site P).1.max = (b0.insertDb (P.map (fun p => (p.vlo, p.vhi)))).max ∧
    (cV b0 site P).1.needed = (b0.insertDb (P.map (fun p => (p.vlo, p.vhi)))).needed := by
  unfold cV
  refine foldl_inv_prefix P (commitStepV site) (b0, [])
    (fun done acc => acc.1.max = (b0.insertDb (done.map (fun p => (p.vlo, p.vhi)))).max ∧
      acc.1.needed = (b0.insertDb (done.map (fun p => (p.vlo, p.vhi)))).needed) ⟨rfl, rfl⟩ ?_
  intro done p rest acc hl hacc
  have hfd : ∀ x ∈ done.map (fun p => (p.vlo, p.vhi)), x.1 ≤ x.2 := by
    intro x hx
    obtain ⟨e, he, rfl⟩ := List.mem_map.mp hx
    exact hf e (by rw [hl]; simp [he])
  have hp : p.vlo ≤ p.vhi := hf p (by rw [hl]; simp)
  have hle : p.vlo ≤ (acc.1.insertDb [(p.vlo, p.vhi)]).max := by
    rw [insertDb_single_max]
    exact Nat.le_trans hp (Nat.le_max_right _ _)
  have hc := insertDb_congr hacc.1 hacc.2 [(p.vlo, p.vhi)]
  have hsn := insertDb_snoc hw hfd (r := (p.vlo, p.vhi)) hp
  unfold commitStepV
  rw [commitStep_max site _ p hle, commitStep_needed, List.map_append]
  exact ⟨hc.1.trans hsn.1, hc.2.trans hsn.2⟩

theorem booked_ext {b b' : Booked} (h1 : b.max = b'.max) (h2 : b.needed = b'.needed)
    (h3 : b.partials = b'.partials) : b = b' := by
  cases b; cases b'
  simp only at h1 h2 h3
  subst h1; subst h2; subst h3
  rfl

/-- the bookkeeping and applies of the commit (`insert_db` of all processed ranges, then the partials in
processing order) are those of the per-changeset update.  `max` and `needed`: the later `commitStep`s leave
them alone (`fold_commit_frame`), and `insert_db` range by range is `insert_db` of all ranges
(`cV_max_needed`).  Partials and applies: `insert_db` does not touch them (`fold_commitStepV`) -/
theorem committed_eq_cV (n : Node) (site : Nat) (st : TxSt) (hw : RSet.WF (n.booked site).needed)
    (hf : ∀ e ∈ st.processed, e.vlo ≤ e.vhi) :
    committed n site st = cV (n.booked site) site st.processed := by
  have hcong := fold_commitStepV site st.processed ((n.booked site).insertDb (procRanges st), []) (n.booked site, [])
    (by simp) rfl
  have hframe := fold_commit_frame site st.processed ((n.booked site).insertDb (procRanges st), []) (by
    intro e he
    have hrs : procRanges st ≠ [] := fun h => by
      rw [List.map_eq_nil_iff.mp h] at he; cases he
    show e.vlo ≤ ((n.booked site).insertDb (procRanges st)).max
    rw [insertDb_max _ _ hrs]
    exact Nat.le_trans (hf e he)
      (Nat.le_trans (le_sup (r := (e.vlo, e.vhi)) (List.mem_map.mpr ⟨e, he, rfl⟩)) (Nat.le_max_right _ _)))
  have hv := cV_max_needed (n.booked site) hw site st.processed hf
  unfold committed
  exact Prod.ext (booked_ext (hframe.1.trans hv.1.symm) (hframe.2.trans hv.2.symm) hcong.1) hcong.2

theorem bufferChunk_setBooked (n : Node) (a : Nat) (B : Booked) (s v lo hi last : Nat) (cs : List Chg) :
    ((n.setBooked a B).bufferChunk s v lo hi last cs).2 = (n.bufferChunk s v lo hi last cs).2 ∧
    ((n.setBooked a B).bufferChunk s v lo hi last cs).1.seqRows = (n.bufferChunk s v lo hi last cs).1.seqRows ∧
    ((n.setBooked a B).bufferChunk s v lo hi last cs).1.buf = (n.bufferChunk s v lo hi last cs).1.buf := by
  rw [bufferChunk_eq, bufferChunk_eq]
  simp only [setBooked_seqRows, setBooked_buf, and_self]

theorem stBuffer_seen (st : TxSt) (site v lo hi last : Nat) (cs : List Chg) :
    (stBuffer st site v lo hi last cs).seen =
      seenInsert st.seen (v, v) (some ⟨[(st.node.bufferChunk site v lo hi last cs).2], last⟩) := rfl

/-- the virtual node: the node inside the transaction with the virtual bookkeeping installed -/
def vNode (b0 : Booked) (site : Nat) (st : TxSt) : Node := st.node.setBooked site (vbOf b0 site st)

theorem vNode_booked (b0 : Booked) (site : Nat) (st : TxSt) :
    (vNode b0 site st).booked site = vbOf b0 site st := booked_setBooked_same _ _ _

theorem cV_buffer (b0 : Booked) (site : Nat) (st : TxSt) (v lo hi last : Nat) (cs : List Chg) :
    cV b0 site (stBuffer st site v lo hi last cs).processed =
      (bufBooked (vNode b0 site st) site v lo hi last cs,
        if (bufPartial (vNode b0 site st) site v lo hi last cs).complete then
          (cV b0 site st.processed).2 ++ [(site, v)]
        else (cV b0 site st.processed).2) := by
  obtain ⟨hch2, _, _⟩ := bufferChunk_setBooked st.node site (vbOf b0 site st) site v lo hi last cs
  unfold stBuffer bufBooked bufPartial
  simp only
  rw [cV_append]
  unfold commitStepV
  rw [commitStep_some rfl, vNode_booked]
  unfold vNode
  rw [hch2]
  rfl

theorem vbOf_buffer (b0 : Booked) (site : Nat) (st : TxSt) (v lo hi last : Nat) (cs : List Chg) :
    vbOf b0 site (stBuffer st site v lo hi last cs) = bufBooked (vNode b0 site st) site v lo hi last cs := by
  unfold vbOf; rw [cV_buffer]

/-- what `processOne` does with a changeset of the transaction's actor: nothing, a cleared / completed
version range, or a buffered chunk.  It is `ProcCase` for a fixed site, with `cleared` and `complete` taken
together as `none`: processed with `part = none` -/
inductive StepKind (b0 : Booked) (site : Nat) (st : TxSt) (it : Item) : Prop
  | skip (h : processOne b0 st it = st)
      (why : b0.containsAll it.versions.1 it.versions.2 it.seqs = true ∨ alreadySeen st.seen it = true ∨
        ∃ lo hi, it.seqs = some (lo, hi) ∧ hi < lo) : StepKind b0 site st it
  | none (vlo vhi : Nat) (hlh : vlo ≤ vhi) (hv : it.versions = (vlo, vhi))
      (hseen : (processOne b0 st it).seen = seenInsert st.seen (vlo, vhi) none)
      (hproc : (processOne b0 st it).processed = st.processed ++ [⟨vlo, vhi, none⟩]) : StepKind b0 site st it
  | buffer (v lo hi last : Nat) (cs : List Chg) (hit : it = .full site v lo hi last cs) (hlh : lo ≤ hi)
      (hinc : ¬ (lo = 0 ∧ hi = last)) (hnc : b0.containsAll v v (some (lo, hi)) = false)
      (hns : alreadySeen st.seen it = false)
      (hst : processOne b0 st it = stBuffer st site v lo hi last cs) : StepKind b0 site st it

theorem stepKind (b0 : Booked) (site : Nat) (st : TxSt) (it : Item) (hs : it.site = site) :
    StepKind b0 site st it := by
  obtain ⟨_, hc⟩ := procCase b0 st it
  cases hc with
  | skip h why =>
    exact .skip h (why.imp_right (Or.imp_right fun ⟨_, _, lo, hi, _, _, hit, hlt⟩ => ⟨lo, hi, hit ▸ rfl, hlt⟩))
  | @cleared s vlo vhi h hshape hlh =>
    obtain rfl : s = site := by
      rcases hshape with rfl | ⟨_, rfl, _⟩ <;> exact hs
    have hv : it.versions = (vlo, vhi) := by
      rcases hshape with rfl | ⟨_, rfl, rfl⟩ <;> rfl
    exact .none vlo vhi hlh hv (by rw [h]; rfl) (by rw [h]; rfl)
  | @complete s v last _ h hit =>
    subst hit
    subst hs
    exact .none v v (Nat.le_refl _) rfl (by rw [h]; rfl) (by rw [h]; rfl)
  | @buffer s v lo hi last cs h hit hlh hinc hnc hns =>
    subst hit
    subst hs
    exact .buffer v lo hi last cs rfl hlh hinc hnc hns h

theorem vbOf_none (b0 : Booked) (site : Nat) {st st' : TxSt} {vlo vhi : Nat}
    (h : st'.processed = st.processed ++ [⟨vlo, vhi, none⟩]) :
    vbOf b0 site st' = ((vbOf b0 site st).insertDb [(vlo, vhi)]).dropPartials vlo vhi := by
  unfold vbOf; rw [h, cV_append, commitStepV_none]

/-- the check `alreadySeen` makes of one version (`sn`: what `seen` records of it) -/
def SeenAt (sq : Option (Nat × Nat)) (sn : Option (Option Partial)) : Bool :=
  match sq with
  | some s => match sn with
    | some (some p) => (RSet.gaps p.seqs s).isEmpty
    | some none => true
    | none => false
  | none => sn.isSome

theorem alreadySeen_iff (seen : List ((Nat × Nat) × Option Partial)) (it : Item) :
    alreadySeen seen it = true ↔
      ∀ w, it.versions.1 ≤ w → w ≤ it.versions.2 → SeenAt it.seqs (seenGet seen w) = true := by
  cases it with
  | full s v lo hi last cs => exact all_range_iff (f := fun w => SeenAt (some (lo, hi)) (seenGet seen w))
  | empty s lo hi => exact all_range_iff (f := fun w => SeenAt none (seenGet seen w))

/-- the bookkeeping holds the version with no partial left, not even a complete one: the version is
SETTLED.  It is what `seen` records as `some none` (`TXK.settled`), and no changeset undoes it (`Eff.own`,
`BatchEff.own`) -/
def OwnB (b : Booked) (v : Nat) : Prop := b.containsVersion v = true ∧ b.partial? v = none

/-- how the bookkeeping `B` of an actor changes in a micro-step that books the versions `lo..=hi` -/
structure BkStep (B B' : Booked) (lo hi : Nat) : Prop where
  wf : RSet.WF B'.needed
  pwf : B'.PWF
  keys : B'.KeysSorted
  max : B'.max = max B.max hi
  cv : ∀ w, B'.containsVersion w = true ↔ (lo ≤ w ∧ w ≤ hi) ∨ B.containsVersion w = true
  part : ∀ w, ¬ (lo ≤ w ∧ w ≤ hi) → B'.partial? w = B.partial? w

theorem BkStep.insertDb {B : Booked} (hw : RSet.WF B.needed) (hp : B.PWF) (hk : B.KeysSorted) {lo hi : Nat}
    (hlh : lo ≤ hi) : BkStep B (B.insertDb [(lo, hi)]) lo hi :=
  ⟨insertDb_needed_wf hw _ (by intro r hr; rw [List.mem_singleton] at hr; subst hr; exact hlh),
    insertDb_pwf hp _, insertDb_keysSorted hk _, insertDb_single_max _ _ _,
    containsVersion_insertDb hw hlh, fun w _ => partial?_insertDb _ _ w⟩

theorem BkStep.cleared {B : Booked} (hw : RSet.WF B.needed) (hp : B.PWF) (hk : B.KeysSorted) {lo hi : Nat}
    (hlh : lo ≤ hi) : BkStep B ((B.insertDb [(lo, hi)]).dropPartials lo hi) lo hi :=
  have h := BkStep.insertDb hw hp hk hlh
  ⟨h.wf, dropPartials_pwf h.pwf _ _, dropPartials_keysSorted h.keys _ _, h.max,
    fun w => by rw [containsVersion_dropPartials]; exact h.cv w,
    fun w hw' => by rw [partial?_dropPartials, if_neg hw']; exact h.part w hw'⟩

/-- a cleared / completed range is settled -/
theorem ownB_cleared {B : Booked} (hw : RSet.WF B.needed) {lo hi w : Nat} (h1 : lo ≤ w) (h2 : w ≤ hi) :
    OwnB ((B.insertDb [(lo, hi)]).dropPartials lo hi) w :=
  ⟨by rw [containsVersion_dropPartials, containsVersion_insertDb hw (Nat.le_trans h1 h2)]; exact Or.inl ⟨h1, h2⟩,
    by rw [partial?_dropPartials, if_pos ⟨h1, h2⟩]⟩

theorem BkStep.buffer {n : Node} {a v lo hi last : Nat} {cs : List Chg} (hw : RSet.WF (n.booked a).needed)
    (hp : (n.booked a).PWF) (hk : (n.booked a).KeysSorted) (hlh : lo ≤ hi) :
    BkStep (n.booked a) (bufBooked n a v lo hi last cs) v v :=
  ⟨by rw [bufBooked_needed]; exact (BkStep.insertDb hw hp hk (Nat.le_refl v)).wf, bufBooked_pwf hp hlh,
    bufBooked_keys hk, bufBooked_max n a v lo hi last cs,
    fun w => by
      rw [bufBooked_cv hw w]
      exact or_congr_left ⟨fun h => ⟨Nat.le_of_eq h.symm, Nat.le_of_eq h⟩, fun h => Nat.le_antisymm h.2 h.1⟩,
    fun w hw' => bufBooked_partial_other _ _ _ _ _ _ _ w (fun h => hw' ⟨Nat.le_of_eq h.symm, Nat.le_of_eq h⟩)⟩

/-- what buffering a chunk `lo..=hi` of version `w` does to the virtual bookkeeping (`vb` before, `vb'`
after): `q` is the partial of `w` afterwards, `pm` what `seen` then records of `w` (the merged range the
chunk went into) -/
structure Buffered (w lo hi : Nat) (vb vb' : Booked) (q pm : Partial) : Prop where
  nown : ¬ OwnB vb w
  cv : vb'.containsVersion w = true
  pt : vb'.partial? w = some q
  wf : RSet.WF q.seqs
  old : ∀ old, vb.partial? w = some old → q.last = old.last ∧
    (∀ x, RSet.Mem old.seqs x → RSet.Mem q.seqs x) ∧ (old.complete = true → q.complete = true)
  range : ∀ x, lo ≤ x → x ≤ hi → RSet.Mem q.seqs x
  pm_wf : RSet.WF pm.seqs
  pm_sub : ∀ x, RSet.Mem pm.seqs x → RSet.Mem q.seqs x

/-- what one changeset `it` of the transaction does to version `w`: to its booked bit and partial in the
virtual bookkeeping (`vb` before, `vb'` after) and to what `seen` records of it (`sn`, `sn'`): nothing; or
the version is settled (booked, no partial); or a chunk of it is buffered and its partial grows
(`VB.eff`, the one case analysis of a step) -/
inductive Eff (b0 : Booked) (site : Nat) (it : Item) (w : Nat) (vb vb' : Booked)
    (sn sn' : Option (Option Partial)) : Prop
  | same (hcv : vb'.containsVersion w = vb.containsVersion w) (hpt : vb'.partial? w = vb.partial? w)
      (hsn : sn' = sn)
      (hwhy : it.versions.1 ≤ w → w ≤ it.versions.2 → b0.contains w it.seqs = true ∨ SeenAt it.seqs sn = true ∨
        ∃ lo hi, it.seqs = some (lo, hi) ∧ hi < lo)
  | settled (hown : OwnB vb' w) (hsn : sn' = some none)
  | buffered (lo hi last : Nat) (cs : List Chg) (hit : it = .full site w lo hi last cs)
      (hinc : ¬ (lo = 0 ∧ hi = last)) (q pm : Partial) (hb : Buffered w lo hi vb vb' q pm)
      (hsn : sn' = some (some pm))

theorem Eff.contains {b0 : Booked} {site : Nat} {it : Item} {w : Nat} {vb vb' : Booked} {sn sn' : Option (Option Partial)}
    (e : Eff b0 site it w vb vb' sn sn') (hp : vb.PWF) (s : Option (Nat × Nat))
    (hc : vb.contains w s = true) : vb'.contains w s = true := by
  rw [contains_iff] at hc ⊢
  cases e with
  | same hcv hpt _ => rw [hcv, hpt]; exact hc
  | settled hown _ => exact ⟨hown.1, fun p hp => by rw [hown.2] at hp; cases hp⟩
  | buffered _ _ _ _ _ _ q _ hb =>
    refine ⟨hb.cv, fun p hq => ?_⟩
    rw [hb.pt] at hq; cases hq
    cases ho : vb.partial? w with
    | none => exact absurd ⟨hc.1, ho⟩ hb.nown
    | some old =>
      obtain ⟨_, hsub, hcomp⟩ := hb.old old ho
      have := hc.2 old ho
      cases s with
      | none => exact hcomp this
      | some r => exact gaps_empty_of_sub (hp.of_partial? ho) hb.wf hsub this

theorem Eff.own {b0 : Booked} {site : Nat} {it : Item} {w : Nat} {vb vb' : Booked} {sn sn' : Option (Option Partial)}
    (e : Eff b0 site it w vb vb' sn sn') (h : OwnB vb w) : OwnB vb' w := by
  cases e with
  | same hcv hpt _ => unfold OwnB; rw [hcv, hpt]; exact h
  | settled hown _ => exact hown
  | buffered _ _ _ _ _ _ _ _ hb => exact absurd h hb.nown

theorem Eff.ownFrom {b0 : Booked} {site : Nat} {it : Item} {w : Nat} {vb vb' : Booked} {sn sn' : Option (Option Partial)}
    (e : Eff b0 site it w vb vb' sn sn') (h : OwnB vb w → OwnB b0 w ∨ sn = some none) (h' : OwnB vb' w) :
    OwnB b0 w ∨ sn' = some none := by
  cases e with
  | same hcv hpt hsn => unfold OwnB at h'; rw [hcv, hpt] at h'; rw [hsn]; exact h h'
  | settled _ hsn => exact Or.inr hsn
  | buffered _ _ _ _ _ _ _ _ hb => exact nomatch h'.2.symm.trans hb.pt

/-- the invariant of the transaction of actor `site` as far as the bookkeeping goes (`b0`: the bookkeeping of
`site` before it): the virtual bookkeeping is well formed, the processed ranges run forward, and (`ownFrom`) a
version that the virtual bookkeeping holds without a partial was held like that before the transaction, or
was completed / cleared in it (and is marked so in `seen`) -/
structure VB (b0 : Booked) (site : Nat) (st : TxSt) : Prop where
  wf : RSet.WF (vbOf b0 site st).needed
  pwf : (vbOf b0 site st).PWF
  keys : (vbOf b0 site st).KeysSorted
  fwd : ∀ e ∈ st.processed, e.vlo ≤ e.vhi
  ownFrom : ∀ v, OwnB (vbOf b0 site st) v → OwnB b0 v ∨ seenGet st.seen v = some none

section
variable {b0 : Booked} {site : Nat} {st : TxSt}

theorem VB.init {n : Node} {site : Nat} (hw : RSet.WF (n.booked site).needed) (hp : (n.booked site).PWF)
    (hk : (n.booked site).KeysSorted) :
    VB (n.booked site) site { node := n, seen := [], processed := [], clears := [] } :=
  ⟨hw, hp, hk, fun _ he => (nomatch he), fun _ h => Or.inl h⟩

/-- a version of which a chunk gets buffered (the conditions under which `processOne` buffers it) is not
booked without a partial in the virtual bookkeeping -/
theorem VB.not_own (h : VB b0 site st) {v lo hi : Nat} (hnc : b0.containsAll v v (some (lo, hi)) = false)
    (hns : seenGet st.seen v ≠ some none) : ¬ OwnB (vbOf b0 site st) v := by
  intro ho
  have hb0 : b0.contains v (some (lo, hi)) = false := by rw [← containsAll_single]; exact hnc
  rcases h.ownFrom v ho with ⟨h3, h4⟩ | h3
  · rw [contains_of_cv_none _ h3 h4] at hb0; cases hb0
  · exact hns h3

theorem VB.eff (h : VB b0 site st) (it : Item) (hs : it.site = site) (w : Nat) :
    Eff b0 site it w (vbOf b0 site st) (vbOf b0 site (processOne b0 st it))
      (seenGet st.seen w) (seenGet (processOne b0 st it).seen w) := by
  have hkey := fun {lo hi : Nat} => @VB.not_own _ _ _ h w lo hi
  cases stepKind b0 site st it hs with
  | skip hsk why =>
    rw [hsk]
    exact .same rfl rfl rfl (fun h1 h2 => why.imp (fun hc => (containsAll_iff _ _ _ _).mp hc w h1 h2)
      (Or.imp_left (fun hc => (alreadySeen_iff _ _).mp hc w h1 h2)))
  | none vlo vhi hlh hv hseen hproc =>
    rw [vbOf_none b0 site hproc, hseen, seenGet_cons]
    have hst := BkStep.cleared h.wf h.pwf h.keys hlh
    by_cases hin : vlo ≤ w ∧ w ≤ vhi
    · rw [if_pos hin]
      exact .settled (ownB_cleared h.wf hin.1 hin.2) rfl
    · rw [if_neg hin]
      exact .same (Bool.eq_iff_iff.mpr ((hst.cv w).trans (or_iff_right hin))) (hst.part w hin) rfl
        (fun h1 h2 => by rw [hv] at h1 h2; exact absurd ⟨h1, h2⟩ hin)
  | buffer v' lo hi last cs hit hlh hinc hnc hns hst =>
    rw [hst, vbOf_buffer, stBuffer_seen, seenGet_cons]
    have hVb := vNode_booked b0 site st
    have hwf : RSet.WF ((vNode b0 site st).booked site).needed := by rw [hVb]; exact h.wf
    have hpwf : ((vNode b0 site st).booked site).PWF := by rw [hVb]; exact h.pwf
    by_cases hw : w = v'
    · subst hw hit
      rw [if_pos ⟨Nat.le_refl _, Nat.le_refl _⟩]
      have hm := @mem_bufPartial (vNode b0 site st) site w lo hi last cs hlh
      have hch : ((vNode b0 site st).bufferChunk site w lo hi last cs).2 =
          (st.node.bufferChunk site w lo hi last cs).2 :=
        (bufferChunk_setBooked st.node site (vbOf b0 site st) site w lo hi last cs).1
      have hrange := bufChunk_range (vNode b0 site st) site w lo hi last cs
      refine .buffered lo hi last cs rfl hinc _ _ ⟨hkey hnc (not_alreadySeen_full hns),
        (bufBooked_cv hwf w).mpr (Or.inl rfl), bufBooked_partial_same _ _ _ _ _ _ _,
        (bufBooked_pwf hpwf hlh).of_partial? (bufBooked_partial_same _ _ _ _ _ _ _), ?_, ?_,
        by rw [← hch]; exact RSet.wf_singleton (bufChunk_fwd _ site w last cs hlh), ?_⟩ rfl
      · intro old ho
        rw [← hVb] at ho
        exact ⟨by rw [bufPartial_last, ho], fun x hx => (hm x).mpr (Or.inl ⟨old, ho, hx⟩),
          bufPartial_complete_of_old hpwf hlh ho⟩
      · intro x h1 h2
        exact (hm x).mpr (Or.inr ⟨by omega, by omega⟩)
      · intro x hx
        rw [← hch] at hx
        exact (hm x).mpr (Or.inr (RSet.mem_singleton.mp hx))
    · rw [if_neg (fun hh => hw (Nat.le_antisymm hh.2 hh.1))]
      exact .same (Bool.eq_iff_iff.mpr (by rw [bufBooked_cv hwf w, hVb]; exact or_iff_right hw))
        (by rw [bufBooked_partial_other _ _ _ _ _ _ _ w hw, hVb]) rfl
        (fun h1 h2 => by subst hit; exact absurd (Nat.le_antisymm h2 h1) hw)

theorem VB.step (h : VB b0 site st) (it : Item) (hs : it.site = site) : VB b0 site (processOne b0 st it) := by
  have hfrom := fun v => (h.eff it hs v).ownFrom (h.ownFrom v)
  cases stepKind b0 site st it hs with
  | skip hsk _ => rw [hsk]; exact h
  | none vlo vhi hlh _ _ hproc =>
    have hst := BkStep.cleared h.wf h.pwf h.keys hlh
    have hvb := vbOf_none b0 site hproc
    refine ⟨hvb ▸ hst.wf, hvb ▸ hst.pwf, hvb ▸ hst.keys, fun e he => ?_, hfrom⟩
    rw [hproc] at he
    rcases List.mem_append.mp he with he | he
    · exact h.fwd e he
    · rw [List.mem_singleton.mp he]; exact hlh
  | buffer v lo hi last cs _ hlh _ _ _ hst =>
    have hVb := vNode_booked b0 site st
    have hb := BkStep.buffer (n := vNode b0 site st) (a := site) (v := v) (last := last) (cs := cs)
      (by rw [hVb]; exact h.wf) (by rw [hVb]; exact h.pwf) (by rw [hVb]; exact h.keys) hlh
    have hvb : vbOf b0 site (processOne b0 st it) = bufBooked (vNode b0 site st) site v lo hi last cs := by
      rw [hst, vbOf_buffer]
    refine ⟨hvb ▸ hb.wf, hvb ▸ hb.pwf, hvb ▸ hb.keys, fun e he => ?_, hfrom⟩
    rw [hst] at he
    rcases List.mem_append.mp he with he | he
    · exact h.fwd e he
    · rw [List.mem_singleton.mp he]; exact Nat.le_refl _

end

/-- an incomplete chunk of `(a, w)` is among the changesets `its` -/
def HasChunk (its : List Item) (a w : Nat) : Prop :=
  ∃ lo hi last cs, Item.full a w lo hi last cs ∈ its ∧ ¬ (lo = 0 ∧ hi = last)

theorem HasChunk.mono {its its' : List Item} {a w : Nat} (h : HasChunk its a w) (hs : ∀ it ∈ its, it ∈ its') :
    HasChunk its' a w := by
  obtain ⟨lo, hi, last, cs, hm, hinc⟩ := h
  exact ⟨lo, hi, last, cs, hs _ hm, hinc⟩

/-- **the transaction seen from its changesets**, after the changesets `done`: the virtual bookkeeping
contains what the bookkeeping before the transaction contained (`mono`) and settled versions stay settled
(`own`); what `seen` records of a version
is true of the virtual bookkeeping (`unseen`: nothing happened to it; `settled`; `buffered`: only by an
incomplete chunk); every changeset processed is contained in it (`known`); a partial only grows (`grows`) -/
structure TXK (b0 : Booked) (site : Nat) (done : List Item) (st : TxSt) : Prop where
  mono : ∀ w sq, b0.contains w sq = true → (vbOf b0 site st).contains w sq = true
  own : ∀ w, OwnB b0 w → OwnB (vbOf b0 site st) w
  unseen : ∀ w, seenGet st.seen w = none →
    (vbOf b0 site st).containsVersion w = b0.containsVersion w ∧
    (vbOf b0 site st).partial? w = b0.partial? w
  settled : ∀ w, seenGet st.seen w = some none → OwnB (vbOf b0 site st) w
  buffered : ∀ w pm, seenGet st.seen w = some (some pm) →
    RSet.WF pm.seqs ∧ (vbOf b0 site st).containsVersion w = true ∧
    (∃ q, (vbOf b0 site st).partial? w = some q ∧ ∀ x, RSet.Mem pm.seqs x → RSet.Mem q.seqs x) ∧
    HasChunk done site w
  /-- EVERY CHANGESET PROCESSED IS CONTAINED in the virtual bookkeeping, with the two exceptions of the
  "check if we've seen this version here" of `process_multiple_changes` (`agent/util.rs`, `alreadySeen`):
  an `Empty` is skipped for a version of which a chunk was buffered earlier in the same transaction
  (`None => seen.contains_key(&version)`: any entry counts, also a partial one), so that version stays
  partial; and a chunk with a backward seq range is ignored -/
  known : ∀ it ∈ done, ∀ w, it.versions.1 ≤ w → w ≤ it.versions.2 →
    ((vbOf b0 site st).contains w it.seqs = true ∨ (it.seqs = none ∧ ∃ pm, seenGet st.seen w = some (some pm))) ∨
    ∃ lo hi, it.seqs = some (lo, hi) ∧ hi < lo
  grows : ∀ w q0, b0.partial? w = some q0 → OwnB (vbOf b0 site st) w ∨
    ∃ q, (vbOf b0 site st).partial? w = some q ∧ q.last = q0.last ∧ ∀ x, RSet.Mem q0.seqs x → RSet.Mem q.seqs x

theorem TXK.init (b0 : Booked) (n : Node) (site : Nat) :
    TXK b0 site [] { node := n, seen := [], processed := [], clears := [] } :=
  ⟨fun _ _ h => h, fun _ h => h, fun _ _ => ⟨rfl, rfl⟩, fun _ h => (by cases h), fun _ _ h => (by cases h), fun _ h => (by cases h),
    fun _ q0 hq0 => Or.inr ⟨q0, hq0, rfl, fun _ hx => hx⟩⟩

theorem TXK.step {b0 : Booked} {site : Nat} {done : List Item} {st : TxSt} (hk : TXK b0 site done st)
    (h : VB b0 site st) (it : Item) (hs : it.site = site) : TXK b0 site (done ++ [it]) (processOne b0 st it) := by
  have e := h.eff it hs
  have hp := h.pwf
  generalize processOne b0 st it = st' at e ⊢
  -- what the skip reasons say in terms of the virtual bookkeeping
  have hwhy : ∀ w, b0.contains w it.seqs = true ∨ SeenAt it.seqs (seenGet st.seen w) = true →
      (vbOf b0 site st).contains w it.seqs = true ∨ (it.seqs = none ∧ ∃ pm, seenGet st.seen w = some (some pm)) := by
    rintro w (hc | hc)
    · exact Or.inl (hk.mono w _ hc)
    · unfold SeenAt at hc
      cases hsn : seenGet st.seen w with
      | none => rw [hsn] at hc; cases hsq : it.seqs <;> rw [hsq] at hc <;> cases hc
      | some o =>
        cases o with
        | none => exact Or.inl (contains_of_cv_none _ (hk.settled w hsn).1 (hk.settled w hsn).2)
        | some pm =>
          obtain ⟨g1, g2, ⟨q, hq, g3⟩, _⟩ := hk.buffered w pm hsn
          rw [hsn] at hc
          cases hsq : it.seqs with
          | none => exact Or.inr ⟨rfl, pm, rfl⟩
          | some r =>
            rw [hsq] at hc
            refine Or.inl ((contains_iff _ _ _).mpr ⟨g2, fun p hp0 => ?_⟩)
            rw [hq] at hp0; cases hp0
            exact gaps_empty_of_sub g1 (hp.of_partial? hq) g3 hc
  -- what is known of a changeset at a version stays known
  have hpres : ∀ (it' : Item) w, (vbOf b0 site st).contains w it'.seqs = true ∨
        (it'.seqs = none ∧ ∃ pm, seenGet st.seen w = some (some pm)) →
      (vbOf b0 site st').contains w it'.seqs = true ∨ (it'.seqs = none ∧ ∃ pm, seenGet st'.seen w = some (some pm)) := by
    rintro it' w (hc | ⟨h1, pm, h2⟩)
    · exact Or.inl ((e w).contains hp _ hc)
    · cases e w with
      | same _ _ hsn => exact Or.inr ⟨h1, pm, hsn ▸ h2⟩
      | settled hown _ => exact Or.inl (contains_of_cv_none _ hown.1 hown.2)
      | buffered _ _ _ _ _ _ _ pm' _ hsn => exact Or.inr ⟨h1, pm', hsn⟩
  refine ⟨fun w sq hc => (e w).contains hp sq (hk.mono w sq hc), fun w ho => (e w).own (hk.own w ho),
    fun w hsn' => ?_, fun w hsn' => ?_,
    fun w pm hsn' => ?_, fun it' hm w h1 h2 => ?_, fun w q0 hq0 => ?_⟩
  · cases e w with
    | same hcv hpt hsn => rw [hcv, hpt]; exact hk.unseen w (hsn ▸ hsn')
    | settled _ hsn => rw [hsn] at hsn'; cases hsn'
    | buffered _ _ _ _ _ _ _ _ _ hsn => rw [hsn] at hsn'; cases hsn'
  · cases e w with
    | same hcv hpt hsn => unfold OwnB; rw [hcv, hpt]; exact hk.settled w (hsn ▸ hsn')
    | settled hown _ => exact hown
    | buffered _ _ _ _ _ _ _ _ _ hsn => rw [hsn] at hsn'; cases hsn'
  · cases e w with
    | same hcv hpt hsn =>
      rw [hcv, hpt]
      obtain ⟨g1, g2, g3, g4⟩ := hk.buffered w pm (hsn ▸ hsn')
      exact ⟨g1, g2, g3, g4.mono (fun _ => List.mem_append_left _)⟩
    | settled _ hsn => rw [hsn] at hsn'; cases hsn'
    | buffered lo hi last cs hit hinc q pm' hb hsn =>
      rw [hsn] at hsn'; cases hsn'
      exact ⟨hb.pm_wf, hb.cv, ⟨q, hb.pt, hb.pm_sub⟩, lo, hi, last, cs, by rw [hit]; simp, hinc⟩
  · rcases List.mem_append.mp hm with hm | hm
    · exact (hk.known it' hm w h1 h2).imp_left (hpres it' w)
    · obtain rfl := List.mem_singleton.mp hm
      cases e w with
      | same _ _ _ why =>
        rcases why h1 h2 with hc | hc | hc
        · exact Or.inl (hpres _ w (hwhy w (Or.inl hc)))
        · exact Or.inl (hpres _ w (hwhy w (Or.inr hc)))
        · exact Or.inr hc
      | settled hown _ => exact Or.inl (Or.inl (contains_of_cv_none _ hown.1 hown.2))
      | buffered lo hi last cs hit _ q _ hb =>
        subst hit
        refine Or.inl (Or.inl ((contains_iff _ _ _).mpr ⟨hb.cv, fun p hp0 => ?_⟩))
        rw [hb.pt] at hp0; cases hp0
        exact (RSet.gaps_isEmpty_iff hb.wf lo hi).mpr hb.range
  · rcases hk.grows w q0 hq0 with hown | ⟨q, hq, hl, hsub⟩
    · exact Or.inl ((e w).own hown)
    · cases e w with
      | same _ hpt _ => exact Or.inr ⟨q, hpt ▸ hq, hl, hsub⟩
      | settled hown _ => exact Or.inl hown
      | buffered _ _ _ _ _ _ q' _ hb =>
        exact Or.inr ⟨q', hb.pt, (hb.old q hq).1.trans hl, fun x hx => (hb.old q hq).2.1 x (hsub x hx)⟩

/-- **one actor's transaction, the bookkeeping**: its invariant at the end; the transaction seen from its
changesets -/
theorem txFold_known {n : Node} {site : Nat} (hw : RSet.WF (n.booked site).needed) (hp : (n.booked site).PWF)
    (hk : (n.booked site).KeysSorted) (items : List Item) (hit : ∀ it ∈ items, it.site = site) :
    VB (n.booked site) site (txFold n site items) ∧ TXK (n.booked site) site items (txFold n site items) := by
  unfold txFold
  refine foldl_inv_prefix items (processOne (n.booked site)) _
    (fun done st => VB (n.booked site) site st ∧ TXK (n.booked site) site done st)
    ⟨VB.init hw hp hk, TXK.init _ n site⟩ ?_
  rintro done it rest st hl ⟨h1, h2⟩
  have hs := hit it (by rw [hl]; simp)
  exact ⟨h1.step it hs, h2.step h1 it hs⟩

theorem txFold_committed {n : Node} {site : Nat} (hw : RSet.WF (n.booked site).needed) (hp : (n.booked site).PWF)
    (hk : (n.booked site).KeysSorted) (items : List Item) (hit : ∀ it ∈ items, it.site = site) :
    committed n site (txFold n site items) = cV (n.booked site) site (txFold n site items).processed :=
  committed_eq_cV n site _ hw (txFold_known hw hp hk items hit).1.fwd

/-- the bookkeeping `processActor` installs for its actor is the virtual bookkeeping at the end of the
transaction -/
theorem processActor_vbOf {n : Node} {site : Nat} (hw : RSet.WF (n.booked site).needed) (hp : (n.booked site).PWF)
    (hk : (n.booked site).KeysSorted) (items : List Item) (hit : ∀ it ∈ items, it.site = site) :
    (processActor n site items).1.booked site = vbOf (n.booked site) site (txFold n site items) := by
  rw [(processActor_obs n site items).2.1, txFold_committed hw hp hk items hit]
  rfl

/-- the changesets of actor `a` that reach its transaction -/
def unknownFor (n : Node) (batch : List Item) (a : Nat) : List Item := (unknownOf n batch).filter (·.site = a)

theorem mem_unknownFor {n : Node} {batch : List Item} {a : Nat} {it : Item} (h : it ∈ unknownFor n batch a) :
    it ∈ batch ∧ it.site = a :=
  ⟨mem_unknownOf (List.mem_filter.mp h).1, of_decide_eq_true (List.mem_filter.mp h).2⟩

theorem mem_sitesOf {items : List Item} {a : Nat} : a ∈ sitesOf items ↔ ∃ it ∈ items, it.site = a := by
  rw [sitesOf_eq, mem_dedupSorted, List.mem_map]

/-- a changeset of actor `a` in the batch is represented in the transaction of `a`, or it is already
known -/
theorem rep_cases (n : Node) {batch : List Item} {it : Item} (h : it ∈ batch) :
    ∃ it', it' ∈ batch ∧ it'.site = it.site ∧ it'.versions = it.versions ∧ it'.seqs = it.seqs ∧
      (it' ∈ unknownFor n batch it.site ∨
        (n.booked it.site).containsAll it.versions.1 it.versions.2 it.seqs = true) := by
  obtain ⟨it', h1, h2, h3, h4⟩ := dedupeBatch_repr h
  refine ⟨it', mem_dedupeBatch h1, h2, h3, h4, ?_⟩
  cases hc : (n.booked it.site).containsAll it.versions.1 it.versions.2 it.seqs with
  | true => exact Or.inr rfl
  | false =>
    left
    unfold unknownFor unknownOf
    refine List.mem_filter.mpr ⟨List.mem_filter.mpr ⟨h1, ?_⟩, by simpa using h2⟩
    rw [h2, h3, h4, hc]; rfl

/-- **one actor through the batch**: whatever the transaction of actor `a` establishes about its virtual
bookkeeping (from any node whose bookkeeping of `a` is still the original one) holds of the bookkeeping of
`a` after the fold over all actors — the transactions of the other actors do not touch it -/
theorem deliverFold_actor_vb {n : Node} {a : Nat} (hw : RSet.WF (n.booked a).needed) (hp : (n.booked a).PWF)
    (hk : (n.booked a).KeysSorted) (batch : List Item) (Q : Booked → Prop)
    (hQ : ∀ N0 : Node, N0.booked a = n.booked a → Q (vbOf (N0.booked a) a (txFold N0 a (unknownFor n batch a)))) :
    Q ((deliverFold n batch).1.booked a) := by
  have := foldl_inv_prefix (sitesOf (unknownOf n batch)) (actorStep (unknownOf n batch)) (n, [], [])
    (fun done acc => (a ∈ done → Q (acc.1.booked a)) ∧ (a ∉ done → acc.1.booked a = n.booked a))
    ⟨(fun h => by cases h), fun _ => rfl⟩
    (by
      intro done s rest acc hl ⟨h2, h3⟩
      have hs : s ∉ done := sitesOf_fresh hl
      have hnode : (actorStep (unknownOf n batch) acc s).1 = (processActor acc.1 s (unknownFor n batch s)).1 := rfl
      have hother : s ≠ a → (actorStep (unknownOf n batch) acc s).1.booked a = acc.1.booked a := fun hsa => by
        rw [hnode]; exact (processActor_obs acc.1 s _).2.2.1 a (fun h => hsa h.symm)
      refine ⟨fun hmem => ?_, fun hmem => ?_⟩
      · by_cases hsa : s = a
        · subst hsa
          have hb := h3 hs
          rw [hnode, processActor_vbOf (hb ▸ hw) (hb ▸ hp) (hb ▸ hk) _ (fun it hit => (mem_unknownFor hit).2)]
          exact hQ acc.1 hb
        · rw [hother hsa]
          apply h2
          rcases List.mem_append.mp hmem with h | h
          · exact h
          · simp only [List.mem_singleton] at h; exact absurd h.symm hsa
      · have hsa : s ≠ a := by
          intro h; apply hmem; rw [h]; simp
        rw [hother hsa]
        exact h3 (fun h => hmem (List.mem_append_left _ h)))
  unfold deliverFold
  by_cases hmem : a ∈ sitesOf (unknownOf n batch)
  · exact this.1 hmem
  · rw [this.2 hmem]
    -- no changeset of `a` reaches a transaction: the empty transaction
    have hnil : unknownFor n batch a = [] := by
      apply List.filter_eq_nil_iff.mpr
      intro it hit hs
      exact hmem (mem_sitesOf.mpr ⟨it, hit, of_decide_eq_true hs⟩)
    have := hQ n rfl
    rw [hnil] at this
    exact this

/-- **what the changesets `its`, delivered in one or several batches, do to the bookkeeping of actor `a`**
(`b` before, `b'` after): it contains what it contained; a version booked without a partial stays so; every
version is as before, or settled, or has an incomplete chunk among `its`; EVERY CHANGESET IS CONTAINED —
but an `Empty` does not settle a version with an incomplete chunk among `its`, and a backward range is
ignored (the exceptions of `TXK.known`); a partial only grows.  It holds of one batch and composes, hence
of the batches of a session -/
structure BatchEff (its : List Item) (a : Nat) (b b' : Booked) : Prop where
  cv : ∀ w, b.containsVersion w = true → b'.containsVersion w = true
  mono : ∀ w sq, b.contains w sq = true → b'.contains w sq = true
  own : ∀ w, OwnB b w → OwnB b' w
  status : ∀ w, b'.partial? w = b.partial? w ∨ OwnB b' w ∨ HasChunk its a w
  known : ∀ it ∈ its, it.site = a → ∀ w, it.versions.1 ≤ w → w ≤ it.versions.2 →
    b'.contains w it.seqs = true ∨ (it.seqs = none ∧ HasChunk its a w) ∨
      ∃ lo hi, it.seqs = some (lo, hi) ∧ hi < lo
  grows : ∀ w q0, b.partial? w = some q0 → OwnB b' w ∨
    ∃ q, b'.partial? w = some q ∧ q.last = q0.last ∧ ∀ x, RSet.Mem q0.seqs x → RSet.Mem q.seqs x

section
variable {its its' : List Item} {a : Nat} {b b' b'' : Booked}

/-- a stretch in which no changeset is processed: versions get booked, the partials stay (the applies
at the end of a batch) -/
theorem BatchEff.idle (h1 : ∀ w, b.containsVersion w = true → b'.containsVersion w = true)
    (h2 : ∀ w, b'.partial? w = b.partial? w) : BatchEff [] a b b' :=
  ⟨h1, fun w sq hc => by
      rw [contains_iff] at hc ⊢
      rw [h2]; exact ⟨h1 w hc.1, hc.2⟩,
    fun w ho => ⟨h1 w ho.1, (h2 w).trans ho.2⟩, fun w => Or.inl (h2 w), fun _ hm => (nomatch hm),
    fun w q0 hq0 => Or.inr ⟨q0, (h2 w).trans hq0, rfl, fun _ hx => hx⟩⟩

theorem BatchEff.trans (h : BatchEff its a b b') (h' : BatchEff its' a b' b'') : BatchEff (its ++ its') a b b'' := by
  have hl : ∀ {w}, HasChunk its a w → HasChunk (its ++ its') a w := fun hc => hc.mono (fun _ => List.mem_append_left _)
  have hr : ∀ {w}, HasChunk its' a w → HasChunk (its ++ its') a w := fun hc => hc.mono (fun _ => List.mem_append_right _)
  refine ⟨fun w hc => h'.cv w (h.cv w hc), fun w sq hc => h'.mono w sq (h.mono w sq hc),
    fun w ho => h'.own w (h.own w ho), fun w => ?_, fun it hm hsite w h1 h2 => ?_, fun w q0 hq0 => ?_⟩
  · rcases h'.status w with e | o | c
    · rcases h.status w with e1 | o1 | c1
      · exact Or.inl (e.trans e1)
      · exact Or.inr (Or.inl (h'.own w o1))
      · exact Or.inr (Or.inr (hl c1))
    · exact Or.inr (Or.inl o)
    · exact Or.inr (Or.inr (hr c))
  · rcases List.mem_append.mp hm with hm | hm
    · exact (h.known it hm hsite w h1 h2).imp (h'.mono w _) (Or.imp_left (And.imp_right hl))
    · exact (h'.known it hm hsite w h1 h2).imp_right (Or.imp_left (And.imp_right hr))
  · rcases h.grows w q0 hq0 with o | ⟨q, hq, hl1, hs1⟩
    · exact Or.inl (h'.own w o)
    · rcases h'.grows w q hq with o | ⟨q', hq', hl2, hs2⟩
      · exact Or.inl o
      · exact Or.inr ⟨q', hq', hl2.trans hl1, fun x hx => hs2 x (hs1 x hx)⟩

/-- the version is booked, without a partial or with a complete one: it will be held once the applies
of the batch have run -/
def WillHold (b : Booked) (v : Nat) : Prop :=
  b.containsVersion v = true ∧ ∀ p, b.partial? v = some p → p.complete = true

theorem contains_none_iff (b : Booked) (v : Nat) : b.contains v none = true ↔ WillHold b v :=
  contains_iff b v none

theorem BatchEff.willHold (h : BatchEff its a b b') {v : Nat} (hw : WillHold b v) : WillHold b' v :=
  (contains_none_iff _ _).mp (h.mono v none ((contains_none_iff _ _).mpr hw))

theorem OwnB.willHold {b : Booked} {v : Nat} (h : OwnB b v) : WillHold b v :=
  ⟨h.1, fun p hp => by rw [h.2] at hp; cases hp⟩

theorem BatchEff.of_empty (h : BatchEff its a b b') {v lo hi : Nat} (hno : ¬ HasChunk its a v)
    (hm : Item.empty a lo hi ∈ its) (h1 : lo ≤ v) (h2 : v ≤ hi) : WillHold b' v := by
  rcases h.known _ hm rfl v h1 h2 with hc | ⟨_, hc⟩ | ⟨_, _, he, _⟩
  · exact (contains_none_iff _ _).mp hc
  · exact absurd hc hno
  · cases he

theorem BatchEff.of_full (h : BatchEff its a b b') {v last : Nat} {cs : List Chg} (hno : ¬ HasChunk its a v)
    (hp : b.partial? v = none) (hm : Item.full a v 0 last last cs ∈ its) : WillHold b' v := by
  rcases h.known _ hm rfl v (Nat.le_refl v) (Nat.le_refl v) with hc | ⟨hc, _⟩ | ⟨lo, hi, he, hlt⟩
  · rcases h.status v with e | o | c
    · exact ⟨((contains_iff _ _ _).mp hc).1, fun p hp0 => by rw [e, hp] at hp0; cases hp0⟩
    · exact o.willHold
    · exact absurd c hno
  · cases hc
  · -- `0..=last` is no backward range
    simp only [Item.seqs, Option.some.injEq, Prod.mk.injEq] at he
    omega

theorem BatchEff.of_ranges (h : BatchEff its a b b') (hp : b'.PWF) {v : Nat} {q0 : Partial}
    (hcv : b.containsVersion v = true) (hq0 : b.partial? v = some q0)
    (hcov : ∀ x, x ≤ q0.last → RSet.Mem q0.seqs x ∨
      ∃ lo hi last cs, Item.full a v lo hi last cs ∈ its ∧ lo ≤ x ∧ x ≤ hi) : WillHold b' v := by
  rcases h.grows v q0 hq0 with o | ⟨q, hq, hl, hs⟩
  · exact o.willHold
  refine ⟨h.cv v hcv, fun p hpq => ?_⟩
  rw [hq] at hpq; cases hpq
  rw [complete_iff (hp.of_partial? hq)]
  intro x hx
  rcases hcov x (hl ▸ hx) with hm | ⟨lo, hi, last, cs, hm, h1, h2⟩
  · exact hs x hm
  · rcases h.known _ hm rfl v (Nat.le_refl v) (Nat.le_refl v) with hc | ⟨hc, _⟩ | ⟨lo', hi', he, hlt⟩
    · exact mem_of_gaps_empty (hp.of_partial? hq) (((contains_iff _ _ _).mp hc).2 q hq) ⟨h1, h2⟩
    · cases hc
    · -- a range that contains `x` is no backward range
      simp only [Item.seqs, Option.some.injEq, Prod.mk.injEq] at he
      omega

end

/-- **the transactions of one batch**, before its clear jobs and applies; the bookkeeping stays well formed -/
theorem deliverFold_eff {n : Node} {a : Nat} (hw : RSet.WF (n.booked a).needed) (hp : (n.booked a).PWF)
    (hk : (n.booked a).KeysSorted) (batch : List Item) :
    BatchEff batch a (n.booked a) ((deliverFold n batch).1.booked a) ∧
      RSet.WF ((deliverFold n batch).1.booked a).needed := by
  apply deliverFold_actor_vb hw hp hk batch (fun b => BatchEff batch a (n.booked a) b ∧ RSet.WF b.needed)
  intro N0 hb
  obtain ⟨hvb, hk⟩ := txFold_known (hb ▸ hw) (hb ▸ hp) (hb ▸ hk) (unknownFor n batch a)
    (fun it hit => (mem_unknownFor hit).2)
  have hchunk : ∀ w pm, seenGet (txFold N0 a (unknownFor n batch a)).seen w = some (some pm) → HasChunk batch a w :=
    fun w pm hsn => (hk.buffered w pm hsn).2.2.2.mono (fun _ hm => (mem_unknownFor hm).1)
  rw [hb] at hvb hk ⊢
  have hmono := hk.mono
  refine ⟨⟨fun w hcv => ?_, hmono, hk.own, fun w => ?_, fun it hm hsite w h1 h2 => ?_, hk.grows⟩, hvb.wf⟩
  · cases hsn : seenGet (txFold N0 a (unknownFor n batch a)).seen w with
    | none => rw [(hk.unseen w hsn).1]; exact hcv
    | some o =>
      cases o with
      | none => exact (hk.settled w hsn).1
      | some pm => exact (hk.buffered w pm hsn).2.1
  · cases hsn : seenGet (txFold N0 a (unknownFor n batch a)).seen w with
    | none => exact Or.inl (hk.unseen w hsn).2
    | some o =>
      cases o with
      | none => exact Or.inr (Or.inl (hk.settled w hsn))
      | some pm => exact Or.inr (Or.inr (hchunk w pm hsn))
  · obtain ⟨it', _, k1, k2, k3, hcase⟩ := rep_cases n hm
    rw [hsite] at hcase k1
    rw [← k2] at h1 h2
    rw [← k3]
    rcases hcase with hc | hc
    · rcases hk.known it' hc w h1 h2 with (h | ⟨h3, pm, h4⟩) | h
      · exact Or.inl h
      · exact Or.inr (Or.inl ⟨h3, hchunk w pm h4⟩)
      · exact Or.inr (Or.inr h)
    · rw [← k2, ← k3] at hc
      exact Or.inl (hmono w _ ((containsAll_iff _ _ _ _).mp hc w h1 h2))

theorem applyBuffered_cv {N : Node} (a v a' : Nat) (hw : RSet.WF (N.booked a').needed) (w : Nat)
    (h : (N.booked a').containsVersion w = true) : ((N.applyBuffered a v).booked a').containsVersion w = true := by
  rcases applyBuffered_cases N a v with ⟨hX, hskip⟩ | ⟨p, hp, hpc, hX⟩
  · rw [hX]; exact h
  · rw [hX, booked_clearMeta]
    by_cases ha : a' = a
    · subst ha
      rw [applyCore_booked_same, containsVersion_insertDb hw (Nat.le_refl v) w]
      exact Or.inr h
    · rw [applyCore_booked_other _ _ _ _ ha]; exact h

/-- the applies only book versions: what the bookkeeping of `a` has booked stays booked -/
theorem applyAll_cv {N : Node} {a : Nat} (hw : RSet.WF (N.booked a).needed) (A : List (Nat × Nat)) :
    ∀ w, (N.booked a).containsVersion w = true → ((applyAll N A).booked a).containsVersion w = true := by
  induction A generalizing N with
  | nil => exact fun _ h => h
  | cons t A ih =>
    have hw' : RSet.WF ((N.applyBuffered t.1 t.2).booked a).needed := by
      rcases applyBuffered_cases N t.1 t.2 with ⟨hX, _⟩ | ⟨p, _, _, hX⟩
      · rw [hX]; exact hw
      · rw [hX, booked_clearMeta]
        by_cases ha : a = t.1
        · subst ha
          rw [applyCore_booked_same]
          exact insertDb_needed_wf hw _ (by intro r hr; rw [List.mem_singleton.mp hr]; exact Nat.le_refl _)
        · rw [applyCore_booked_other _ _ _ _ ha]; exact hw
    intro w h
    exact ih hw' w (applyBuffered_cv t.1 t.2 a hw w h)

/-- **from the fold over the actors to the end of the batch**: the clear jobs and the applies only book
versions and leave the partials of the bookkeeping as they are -/
theorem deliver_booked {n : Node} {a : Nat} (batch : List Item)
    (hwf : RSet.WF ((deliverFold n batch).1.booked a).needed) :
    BatchEff [] a ((deliverFold n batch).1.booked a) ((n.deliver batch).booked a) := by
  have hbk : (clearAll (deliverFold n batch).1 (deliverFold n batch).2.2).booked a =
      (deliverFold n batch).1.booked a := booked_of_book (clearAll_book _ _) a
  refine BatchEff.idle ?_ ?_
  -- each of the two goals of `idle` splits on whether the node is alive after the clear jobs: if so `finish`
  -- runs the applies (first and third bullet), if not it returns that node (second and fourth)
  all_goals
    rw [deliver_eq']
    unfold finish
    split
  · exact fun w h => applyAll_cv (hbk ▸ hwf) _ w (hbk ▸ h)
  · rw [hbk]; exact fun _ h => h
  · intro w; rw [partial?_applyAll, hbk]
  · rw [hbk]; exact fun _ => rfl

/-- **one batch, the bookkeeping of one actor**, on any node whose bookkeeping of the actor is well formed -/
theorem deliver_eff {n : Node} {a : Nat} (hw : RSet.WF (n.booked a).needed) (hp : (n.booked a).PWF)
    (hk : (n.booked a).KeysSorted) (batch : List Item) :
    BatchEff batch a (n.booked a) ((n.deliver batch).booked a) := by
  obtain ⟨hE, hwf⟩ := deliverFold_eff hw hp hk batch
  have := hE.trans (deliver_booked batch hwf)
  rwa [List.append_nil] at this

end Corro.Node
