/-
What the relational evaluator returns, row by row (`Chain`); the source keys of a joined row identify
it; the rewritten per-table statement returns the candidate slice of the query; joined rows that no
candidate touches are the same before and after a batch.
-/
import Corro.Lemmas.Ivm

namespace Corro.Ivm

variable {db : Db} {q : Query}

/-- how one more FROM position extends a joined row -/
def Link (db : Db) (j : Join) (e0 : Env) : Option Row → Prop
  | some r => r ∈ db j.src.tbl ∧ j.on.holds (e0 ++ [some r]) = true
  | none => j.kind = .left ∧ ∀ r ∈ db j.src.tbl, j.on.holds (e0 ++ [some r]) = false

/-- `e` extends `e0` through the joins `js` -/
def Chain (db : Db) : List Join → Env → Env → Prop
  | [], e0, e => e = e0
  | j :: js, e0, e => ∃ o, Link db j e0 o ∧ Chain db js (e0 ++ [o]) e

theorem mem_joinStep {j : Join} {envs : List Env} {e' : Env} :
    e' ∈ joinStep db j envs ↔ ∃ e ∈ envs, ∃ o, Link db j e o ∧ e ++ [o] = e' := by
  unfold joinStep
  rw [List.mem_flatMap]
  refine exists_congr fun e => and_congr_right fun _ => ?_
  have hemp : ((db j.src.tbl).filter fun r => j.on.holds (e ++ [some r])).isEmpty = true ↔
      ∀ r ∈ db j.src.tbl, j.on.holds (e ++ [some r]) = false := by
    simp [List.isEmpty_iff, List.filter_eq_nil_iff]
  simp only [Option.exists, Link]
  cases j.kind <;> simp only [reduceCtorEq, false_and, false_or, true_and]
  · simp only [List.mem_map, List.mem_filter]
  · split
    · rename_i h
      rw [List.mem_singleton, eq_comm]
      exact ⟨fun he => Or.inl ⟨hemp.mp h, he⟩, fun
        | .inl h => h.2
        | .inr ⟨r, ⟨hr, ht⟩, _⟩ => by rw [hemp.mp h r hr] at ht; cases ht⟩
    · rename_i h
      simp only [mt hemp.mpr h, false_and, false_or, List.mem_map, List.mem_filter]

theorem mem_joinAll {js : List Join} {envs : List Env} {e : Env} :
    e ∈ joinAll db js envs ↔ ∃ e0 ∈ envs, Chain db js e0 e := by
  induction js generalizing envs with
  | nil => simp [joinAll, Chain]
  | cons j js ih =>
    simp only [joinAll, Chain, ih, mem_joinStep]
    constructor
    · rintro ⟨_, ⟨e0, h0, o, hl, rfl⟩, hc⟩
      exact ⟨e0, h0, o, hl, hc⟩
    · rintro ⟨e0, h0, o, hl, hc⟩
      exact ⟨_, ⟨e0, h0, o, hl, rfl⟩, hc⟩

theorem mem_envs {e : Env} :
    e ∈ q.envs db ↔ ∃ r0 ∈ db q.base.tbl, Chain db q.joins [some r0] e := by
  simp only [Query.envs, mem_joinAll, List.mem_map]
  constructor
  · rintro ⟨_, ⟨r0, hr0, rfl⟩, hc⟩
    exact ⟨r0, hr0, hc⟩
  · rintro ⟨r0, hr0, hc⟩
    exact ⟨_, ⟨r0, hr0, rfl⟩, hc⟩

theorem mem_evalKeyed {x : Out} :
    x ∈ evalKeyed q db ↔ ∃ r0 ∈ db q.base.tbl, ∃ e, Chain db q.joins [some r0] e ∧ q.where_.holds e = true ∧ x = q.out e := by
  simp only [evalKeyed, List.mem_map, List.mem_filter, mem_envs]
  constructor
  · rintro ⟨e, ⟨⟨r0, hr0, hc⟩, hw⟩, rfl⟩
    exact ⟨r0, hr0, e, hc, hw, rfl⟩
  · rintro ⟨r0, hr0, e, hc, hw, rfl⟩
    exact ⟨e, ⟨⟨r0, hr0, hc⟩, hw⟩, rfl⟩

theorem chain_snoc {j : Join} {o : Option Row} {pre : List Join} {a b : Env}
    (h : Chain db pre a b) (hl : Link db j b o) : Chain db (pre ++ [j]) a (b ++ [o]) := by
  induction pre generalizing a with
  | nil => cases h; exact ⟨o, hl, rfl⟩
  | cons p pre ih => exact h.imp fun o' h' => ⟨h'.1, ih h'.2⟩

def EnvIn (db : Db) : List Src → Env → Prop
  | [], [] => True
  | s :: ss, o :: os => (∀ r, o = some r → r ∈ db s.tbl) ∧ EnvIn db ss os
  | _, _ => False

theorem envIn_length {db : Db} : ∀ {ss : List Src} {e : Env}, EnvIn db ss e → e.length = ss.length := by
  intro ss
  induction ss with
  | nil => intro e h; cases e <;> first | rfl | exact h.elim
  | cons s ss ih => intro e h; cases e with
    | nil => exact h.elim
    | cons o os => exact congrArg (· + 1) (ih h.2)

theorem chain_prefix {js : List Join} {e0 e : Env} (h : Chain db js e0 e) :
    ∃ rest, e = e0 ++ rest ∧ EnvIn db (js.map (·.src)) rest := by
  induction js generalizing e0 with
  | nil => exact ⟨[], by rw [List.append_nil]; exact h, trivial⟩
  | cons j js ih =>
    obtain ⟨o, hl, hc⟩ := h
    obtain ⟨rest, he, hr⟩ := ih hc
    exact ⟨o :: rest, by rw [he, List.append_assoc]; rfl, fun r hr' => by subst hr'; exact hl.1, hr⟩

theorem evalKeyed_envIn {r0 : Row} {e : Env} (hr0 : r0 ∈ db q.base.tbl)
    (hc : Chain db q.joins [some r0] e) : EnvIn db q.srcs e := by
  obtain ⟨rest, rfl, hr⟩ := chain_prefix hc
  exact ⟨fun r h => by cases h; exact hr0, hr⟩

theorem envIn_at {ss : List Src} {e : Env} {i : Nat} {s : Src} (h : EnvIn db ss e) (hs : ss[i]? = some s) :
    (envPks ss e).getD i [] = (match e.getD i none with | some r => keyOf s.nk r | none => List.replicate s.nk Val.null) ∧
      ∀ r, e.getD i none = some r → r ∈ db s.tbl := by
  induction ss generalizing e i with
  | nil => cases hs
  | cons a ss ih => cases e with
    | nil => exact h.elim
    | cons o os => cases i with
      | zero =>
        cases hs
        exact ⟨by cases o <;> rfl, h.1⟩
      | succ i => exact ih h.2 hs

/-- the tables of a query: distinct keys, clean key values -/
structure DbOk (srcs : List Src) (db : Db) : Prop where
  clean : ∀ s ∈ srcs, ∀ r ∈ db s.tbl, CleanKey (keyOf s.nk r)
  uniq : ∀ s ∈ srcs, ∀ r ∈ db s.tbl, ∀ r' ∈ db s.tbl, keyOf s.nk r = keyOf s.nk r' → r = r'

theorem DbOk.tail {s : Src} {ss : List Src} (h : DbOk (s :: ss) db) : DbOk ss db :=
  ⟨fun s hs => h.clean s (List.mem_cons_of_mem _ hs), fun s hs => h.uniq s (List.mem_cons_of_mem _ hs)⟩

theorem clean_ne_null {k : Key} (h : CleanKey k) {n : Nat} : k ≠ List.replicate n Val.null := by
  rintro rfl
  cases n with
  | zero => exact h.1 rfl
  | succ n => exact (h.2 Val.null (List.mem_replicate.mpr ⟨nofun, rfl⟩)).1 rfl

theorem envPks_inj {ss : List Src} {e e' : Env} (hdb : DbOk ss db) (h : EnvIn db ss e) (h' : EnvIn db ss e')
    (hp : envPks ss e = envPks ss e') : e = e' := by
  induction ss generalizing e e' with
  | nil => cases e <;> cases e' <;> first | rfl | exact h.elim | exact h'.elim
  | cons s ss ih =>
    obtain _ | ⟨o, os⟩ := e
    · exact h.elim
    obtain _ | ⟨o', os'⟩ := e'
    · exact h'.elim
    simp only [envPks, List.cons.injEq] at hp
    rw [ih hdb.tail h.2 h'.2 hp.2]
    have hc := hdb.clean s List.mem_cons_self
    -- a stored key is not all NULL, so a row and a null extension never share their key columns
    match o, o', h.1, h'.1, hp.1 with
    | some r, some r', hr, hr', hk => rw [hdb.uniq s List.mem_cons_self r (hr r rfl) r' (hr' r' rfl) hk]
    | none, none, _, _, _ => rfl
    | some r, none, hr, _, hk => exact absurd hk (clean_ne_null (hc r (hr r rfl)))
    | none, some r', _, hr', hk => exact absurd hk.symm (clean_ne_null (hc r' (hr' r' rfl)))

theorem envPks_proper {ss : List Src} {e : Env} (hdb : DbOk ss db) (h : EnvIn db ss e) : Proper (envPks ss e) := by
  induction ss generalizing e with
  | nil => cases e <;> first | exact nofun | exact h.elim
  | cons s ss ih =>
    obtain _ | ⟨o, os⟩ := e
    · exact h.elim
    intro k hk v hv
    rcases List.mem_cons.mp hk with rfl | hk
    · match o, h.1 with
      | some r, hr => exact ((hdb.clean s List.mem_cons_self r (hr r rfl)).2 v hv).2
      | none, _ => rw [List.eq_of_mem_replicate hv]; exact nofun
    · exact ih hdb.tail h.2 k hk v hv

theorem evalKeyed_proper (hdb : DbOk q.srcs db) {x : Out} (hx : x ∈ evalKeyed q db) :
    Proper x.pks := by
  obtain ⟨r0, hr0, e, hc, _, rfl⟩ := mem_evalKeyed.mp hx
  exact envPks_proper hdb (evalKeyed_envIn hr0 hc)

theorem evalKeyed_functional (hdb : DbOk q.srcs db) {x y : Out}
    (hx : x ∈ evalKeyed q db) (hy : y ∈ evalKeyed q db) (hp : x.pks = y.pks) : x = y := by
  obtain ⟨r0, hr0, e, hc, _, rfl⟩ := mem_evalKeyed.mp hx
  obtain ⟨r0', hr0', e', hc', _, rfl⟩ := mem_evalKeyed.mp hy
  rw [envPks_inj hdb (evalKeyed_envIn hr0 hc) (evalKeyed_envIn hr0' hc') hp]

theorem joinStep_nodup {j : Join} {envs : List Env} (hn : (db j.src.tbl).Nodup) (he : envs.Nodup) :
    (joinStep db j envs).Nodup := by
  -- rows made from different `e` differ before their last entry
  have shape : ∀ e x, x ∈ joinStep db j [e] → ∃ o, e ++ [o] = x := fun e x hx => by
    obtain ⟨_, he, o, _, rfl⟩ := mem_joinStep.mp hx
    exact ⟨o, by rw [List.mem_singleton.mp he]⟩
  simp only [joinStep, List.flatMap_singleton] at shape
  unfold joinStep
  rw [List.Nodup, List.pairwise_flatMap]
  constructor
  · intro e _
    have hmap : (((db j.src.tbl).filter fun r => j.on.holds (e ++ [some r])).map fun r => e ++ [some r]).Nodup :=
      List.pairwise_map.mpr ((hn.sublist List.filter_sublist).imp fun hab heq => hab (by simpa using heq))
    cases j.kind with
    | inner => exact hmap
    | left =>
      simp only []
      split
      · exact List.pairwise_singleton ..
      · exact hmap
  · refine he.imp fun hne x hx y hy hxy => ?_
    obtain ⟨o1, rfl⟩ := shape _ x hx
    obtain ⟨o2, rfl⟩ := shape _ y hy
    exact hne (List.append_inj_left' hxy rfl)

theorem joinAll_nodup {js : List Join} {envs : List Env} (hn : ∀ j ∈ js, (db j.src.tbl).Nodup) (he : envs.Nodup) :
    (joinAll db js envs).Nodup := by
  induction js generalizing envs with
  | nil => exact he
  | cons j js ih =>
    rw [List.forall_mem_cons] at hn
    exact ih hn.2 (joinStep_nodup hn.1 he)

theorem evalKeyed_pairwise (hdb : DbOk q.srcs db) (hn : ∀ s ∈ q.srcs, (db s.tbl).Nodup) :
    (evalKeyed q db).Pairwise (fun a b => a.pks ≠ b.pks) := by
  have henvs : (q.envs db).Nodup := joinAll_nodup
    (fun j hj => hn j.src (List.mem_cons_of_mem _ (List.mem_map_of_mem hj)))
    (List.pairwise_map.mpr ((hn q.base List.mem_cons_self).imp fun hab heq => hab (by simpa using heq)))
  refine List.pairwise_map.mpr ((henvs.sublist List.filter_sublist).imp_of_mem fun h1 h2 hne hp => hne ?_)
  obtain ⟨r1, hr1, hc1⟩ := mem_envs.mp (List.mem_filter.mp h1).1
  obtain ⟨r2, hr2, hc2⟩ := mem_envs.mp (List.mem_filter.mp h2).1
  exact envPks_inj hdb (evalKeyed_envIn hr1 hc1) (evalKeyed_envIn hr2 hc2) hp

theorem innerAt_src (k : Nat) (js : List Join) : (innerAt k js).map (·.src) = js.map (·.src) := by
  induction js generalizing k with
  | nil => cases k <;> rfl
  | cons j js ih => cases k with
    | zero => rfl
    | succ k => exact congrArg (j.src :: ·) (ih k)

theorem stmtFor_srcs (q : Query) (i : Nat) (ks : List Key) : (stmtFor q i ks).srcs = q.srcs := by
  cases i with
  | zero => rfl
  | succ i => exact congrArg (q.base :: ·) (innerAt_src i q.joins)

theorem getD_append_length {α} (a b : List α) (x : α) (d : α) :
    (a ++ x :: b).getD a.length d = x := by
  simp [List.getD]

theorem chain_innerAt {js : List Join} {k : Nat} {e0 e : Env} (hne : e.getD (e0.length + k) none ≠ none) :
    Chain db (innerAt k js) e0 e ↔ Chain db js e0 e := by
  induction js generalizing k e0 with
  | nil => cases k <;> exact Iff.rfl
  | cons j js ih => cases k with
    | zero =>
      refine exists_congr fun o => and_congr_left fun hc => ?_
      obtain ⟨rest, rfl, _⟩ := chain_prefix hc
      rw [List.append_assoc, Nat.add_zero, List.singleton_append, getD_append_length] at hne
      cases o with
      | some r => exact Iff.rfl
      | none => exact absurd rfl hne
    | succ k =>
      exact exists_congr fun o => and_congr_right fun _ =>
        ih (by rwa [List.length_append, List.length_singleton, Nat.add_assoc, Nat.add_comm 1])

theorem and_holds (p w : Pred) (e : Env) :
    (Pred.and p w).holds e = true ↔ p.truth e = some true ∧ w.holds e = true := by
  simp only [Pred.holds, Pred.truth]
  rcases p.truth e with _ | _ | _ <;> rcases w.truth e with _ | _ | _ <;> simp [and3]

theorem keyIn_truth (p nk : Nat) (ks : List Key) (e : Env) :
    (Pred.keyIn p nk ks).truth e = some true ↔ ∃ r, e.getD p none = some r ∧ keyOf nk r ∈ ks.map coalKey := by
  simp only [Pred.truth]
  cases e.getD p none <;> simp

theorem sliceOut_out {e : Env} {i : Nat} {s : Src} {ks : List Key}
    (hdb : DbOk q.srcs db) (hin : EnvIn db q.srcs e) (hs : q.srcs[i]? = some s) (hks : ∀ k ∈ ks, CleanKey k) :
    sliceOut i ks (q.out e) ↔ ∃ r, e.getD i none = some r ∧ keyOf s.nk r ∈ ks.map coalKey := by
  obtain ⟨hpk, hrow⟩ := envIn_at hin hs
  rw [sliceOut, Query.out, hpk]
  cases he : e.getD i none with
  | some r =>
    simp only [Option.some.injEq, exists_eq_left']
    rw [coalKey_clean (hdb.clean s (List.mem_of_getElem? hs) r (hrow r he)).2]
  | none =>
    -- the key columns are NULLs: coalesced they equal no coalesced clean key
    simp only [reduceCtorEq, false_and, exists_false, iff_false]
    intro hmem
    obtain ⟨k, hk, hkeq⟩ := List.mem_map.mp hmem
    exact clean_ne_null (hks k hk) (coalKey_inj (fun v hv => ((hks k hk).2 v hv).2)
      (fun v hv => by rw [List.eq_of_mem_replicate hv]; nofun) hkeq)

/-- The LEFT→INNER rewrite of the changed table changes nothing: null-extended rows fail
`pk IN temp`. -/
theorem evalKeyed_stmtFor {i : Nat} {s : Src} {ks : List Key}
    (hdb : DbOk q.srcs db) (hs : q.srcs[i]? = some s) (hks : ∀ k ∈ ks, CleanKey k) (x : Out) :
    x ∈ evalKeyed (stmtFor q i ks) db ↔ x ∈ evalKeyed q db ∧ sliceOut i ks x := by
  have hout : ∀ e, (stmtFor q i ks).out e = q.out e := fun e => by rw [Query.out, stmtFor_srcs]; rfl
  have hwhere : ∀ e, (stmtFor q i ks).where_.holds e = true ↔
      (∃ r, e.getD i none = some r ∧ keyOf s.nk r ∈ ks.map coalKey) ∧ q.where_.holds e = true := fun e => by
    rw [← keyIn_truth, ← and_holds, ← show (q.srcs.getD i default).nk = s.nk by simp [List.getD, hs]]
    rfl
  have hchain : ∀ {r0 : Row} {e : Env}, (∃ r, e.getD i none = some r ∧ keyOf s.nk r ∈ ks.map coalKey) →
      (Chain db (stmtFor q i ks).joins [some r0] e ↔ Chain db q.joins [some r0] e) := fun {r0 e} ⟨r, hr, _⟩ => by
    cases i with
    | zero => exact Iff.rfl
    | succ i' => exact chain_innerAt (by rw [List.length_singleton, Nat.add_comm, hr]; nofun)
  simp only [mem_evalKeyed, hout, hwhere]
  constructor
  · rintro ⟨r0, hr0, e, hc, ⟨hk, hw⟩, rfl⟩
    have hc := (hchain hk).mp hc
    exact ⟨⟨r0, hr0, e, hc, hw, rfl⟩, (sliceOut_out hdb (evalKeyed_envIn hr0 hc) hs hks).mpr hk⟩
  · rintro ⟨⟨r0, hr0, e, hc, hw, rfl⟩, hsl⟩
    have hk := (sliceOut_out hdb (evalKeyed_envIn hr0 hc) hs hks).mp hsl
    exact ⟨r0, hr0, e, (hchain hk).mpr hc, ⟨hk, hw⟩, rfl⟩

/-- the row `r` of table `t` is in exactly one of the two databases -/
def Changed (a b : Db) (t : Nat) (r : Row) : Prop := (r ∈ a t ∧ r ∉ b t) ∨ (r ∈ b t ∧ r ∉ a t)

/-- some position of the joined row holds a row whose key is a candidate of its table -/
def EnvTouched (cands : List (Nat × List Key)) (srcs : List Src) (e : Env) : Prop :=
  ∃ i s r c, srcs[i]? = some s ∧ e.getD i none = some r ∧ c ∈ cands ∧ c.1 = s.tbl ∧ keyOf s.nk r ∈ c.2

/-- the hypotheses of the property on one batch: the candidates contain the key of every changed
row, and every row change on the nullable side of a LEFT join comes with a candidate for (one of)
the preserved rows it joins with, before or after -/
structure Covered (q : Query) (db0 db1 : Db) (cands : List (Nat × List Key)) : Prop where
  complete : ∀ s ∈ q.srcs, ∀ r, Changed db0 db1 s.tbl r → ∃ c ∈ cands, c.1 = s.tbl ∧ keyOf s.nk r ∈ c.2
  leftSafe : ∀ pre j post, q.joins = pre ++ j :: post → j.kind = .left → ∀ r, Changed db0 db1 j.src.tbl r →
    ∀ r0 e0, ((r0 ∈ db0 q.base.tbl ∧ Chain db0 pre [some r0] e0) ∨ (r0 ∈ db1 q.base.tbl ∧ Chain db1 pre [some r0] e0)) →
      j.on.holds (e0 ++ [some r]) = true → EnvTouched cands q.srcs e0

variable {cands : List (Nat × List Key)}

/-- `Changed` is symmetric and `leftSafe` takes the preserved row from either database, so that a
batch read backwards is covered too: one direction of `untouched_iff` then gives the other -/
theorem Covered.symm {db0 db1 : Db} (h : Covered q db0 db1 cands) :
    Covered q db1 db0 cands :=
  ⟨fun s hs r hr => h.complete s hs r (Or.symm hr),
   fun pre j post hj hk r hr r0 e0 hc hon => h.leftSafe pre j post hj hk r (Or.symm hr) r0 e0 hc.symm hon⟩

theorem envTouched_prefix {srcs : List Src} {e0 rest : Env}
    (h : EnvTouched cands srcs e0) : EnvTouched cands srcs (e0 ++ rest) := by
  obtain ⟨i, s, r, c, h1, h2, h3⟩ := h
  refine ⟨i, s, r, c, h1, ?_, h3⟩
  have hi : i < e0.length := Nat.lt_of_not_le fun hge => by
    rw [List.getD, List.getElem?_eq_none hge] at h2
    cases h2
  rwa [List.getD, List.getElem?_append_left hi]

/-- a joined row that no candidate touches is a joined row of the other database too, position by
position: a row in it did not change, and where it is null-extended no partner appeared -/
theorem chain_transfer {dbA dbB : Db} (hcov : Covered q dbA dbB cands)
    {r0 : Row} (hr0 : r0 ∈ dbA q.base.tbl) {js pre : List Join} {e0 e : Env} (hq : q.joins = pre ++ js)
    (hpre : Chain dbA pre [some r0] e0) (hc : Chain dbA js e0 e) (hnt : ¬ EnvTouched cands q.srcs e) :
    Chain dbB js e0 e := by
  induction js generalizing pre e0 with
  | nil => exact hc
  | cons j js ih =>
    obtain ⟨o, hl, hc'⟩ := hc
    obtain ⟨rest, hrest, _⟩ := chain_prefix hc'
    obtain ⟨rest0, hrest0, hin0⟩ := chain_prefix hpre
    have hsrc : q.srcs[e0.length]? = some j.src := by
      rw [hrest0, Query.srcs, hq]
      simp [envIn_length hin0]
    refine ⟨o, ?_, ih (pre := pre ++ [j]) (by rw [hq, List.append_assoc]; rfl) (chain_snoc hpre hl) hc'⟩
    rw [List.append_assoc] at hrest
    cases o with
    | some r =>
      refine ⟨Classical.byContradiction fun hnot => ?_, hl.2⟩
      obtain ⟨c, hc⟩ := hcov.complete j.src (List.mem_of_getElem? hsrc) r (Or.inl ⟨hl.1, hnot⟩)
      exact hnt ⟨e0.length, j.src, r, c, hsrc, hrest ▸ getD_append_length .., hc⟩
    | none =>
      refine ⟨hl.1, fun r hr => Bool.eq_false_iff.mpr fun hh => hnt ?_⟩
      have hnA : r ∉ dbA j.src.tbl := fun hin => by rw [hl.2 r hin] at hh; cases hh
      exact hrest ▸ envTouched_prefix
        (hcov.leftSafe pre j js hq hl.1 r (Or.inr ⟨hr, hnA⟩) r0 e0 (Or.inl ⟨hr0, hpre⟩) hh)

theorem posOf_get {srcs : List Src} {t i : Nat} (h : posOf t srcs = some i) : ∃ s, srcs[i]? = some s ∧ s.tbl = t := by
  induction srcs generalizing i with
  | nil => cases h
  | cons a ss ih =>
    rw [posOf] at h
    split at h
    · cases h
      exact ⟨a, rfl, ‹_›⟩
    · obtain ⟨k, hk, rfl⟩ := Option.map_eq_some_iff.mp h
      exact ih hk

theorem posOf_of_get {srcs : List Src} {i : Nat} {s : Src} (hnd : (srcs.map (·.tbl)).Nodup) (h : srcs[i]? = some s) :
    posOf s.tbl srcs = some i := by
  induction srcs generalizing i with
  | nil => cases h
  | cons a ss ih =>
    rw [List.map_cons, List.nodup_cons] at hnd
    cases i with
    | zero => cases h; exact if_pos rfl
    | succ i =>
      have hne : a.tbl ≠ s.tbl := fun he => hnd.1 (he ▸ List.mem_map_of_mem (List.mem_of_getElem? h))
      rw [posOf, if_neg hne, ih hnd.2 h]
      rfl

/-- the result row lies in the slice of some candidate list -/
def TouchedOut (cands : List (Nat × List Key)) (srcs : List Src) (x : Out) : Prop :=
  ∃ c ∈ cands, ∃ i, posOf c.1 srcs = some i ∧ sliceOut i c.2 x

theorem envTouched_touchedOut {e : Env}
    (hnd : (q.srcs.map (·.tbl)).Nodup) (hdb : DbOk q.srcs db) (hin : EnvIn db q.srcs e)
    (hks : ∀ c ∈ cands, ∀ k ∈ c.2, CleanKey k) (h : EnvTouched cands q.srcs e) :
    TouchedOut cands q.srcs (q.out e) := by
  obtain ⟨i, s, r, c, h1, h2, h3, h4, h5⟩ := h
  refine ⟨c, h3, i, h4 ▸ posOf_of_get hnd h1, (sliceOut_out hdb hin h1 (hks c h3)).mpr ⟨r, h2, ?_⟩⟩
  exact List.mem_map.mpr ⟨_, h5, coalKey_clean (hdb.clean s (List.mem_of_getElem? h1) r ((envIn_at hin h1).2 r h2)).2⟩

theorem untouched_iff {db0 db1 : Db} (hnd : (q.srcs.map (·.tbl)).Nodup) (hdb0 : DbOk q.srcs db0) (hdb1 : DbOk q.srcs db1)
    (hks : ∀ c ∈ cands, ∀ k ∈ c.2, CleanKey k) (hcov : Covered q db0 db1 cands) (x : Out)
    (hnt : ¬ TouchedOut cands q.srcs x) : x ∈ evalKeyed q db0 ↔ x ∈ evalKeyed q db1 := by
  have half : ∀ {dbA dbB : Db}, DbOk q.srcs dbA → Covered q dbA dbB cands → x ∈ evalKeyed q dbA → x ∈ evalKeyed q dbB := by
    intro dbA dbB hdb hcov hx
    obtain ⟨r0, hr0, e, hc, hw, rfl⟩ := mem_evalKeyed.mp hx
    have hne : ¬ EnvTouched cands q.srcs e := fun ht => hnt (envTouched_touchedOut hnd hdb (evalKeyed_envIn hr0 hc) hks ht)
    refine mem_evalKeyed.mpr ⟨r0, Classical.byContradiction fun hnot => ?_, e,
      chain_transfer hcov hr0 (pre := []) rfl rfl hc hne, hw, rfl⟩
    obtain ⟨c, hc1⟩ := hcov.complete q.base List.mem_cons_self r0 (Or.inl ⟨hr0, hnot⟩)
    obtain ⟨rest, rfl, _⟩ := chain_prefix hc
    exact hne ⟨0, q.base, r0, c, rfl, rfl, hc1⟩
  exact ⟨half hdb0 hcov, half hdb1 hcov.symm⟩

end Corro.Ivm
