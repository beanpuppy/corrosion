/-
The update feed of C14 one list operation at a time.  `cl_cache` and the buffer are association lists
whose keys stay distinct (`Coh`); that is why an eviction, which cuts a prefix off the cache, drops
entries and changes none (`lookup_drop`), and why a flush emits for each key exactly its buffered causal
length (`clsOf_flush`).
-/
import Corro.Model.Updates

namespace Corro.Updates

theorem lookup_upsert (k k' v : Nat) (l : List Cand) :
    lookup k' (upsert k v l) = if k = k' then some v else lookup k' l := by
  induction l with
  | nil => rfl
  | cons c rest ih => grind [upsert, lookup]

theorem lookup_isSome_iff_mem_keys (k : Nat) (l : List Cand) :
    (lookup k l).isSome ↔ k ∈ l.map (·.1) := by
  induction l with
  | nil => simp [lookup]
  | cons c rest ih =>
    simp only [lookup, List.map_cons, List.mem_cons]
    split
    · rename_i h; simp [h]
    · rename_i h; rw [ih]; exact ⟨Or.inr, fun h' => h'.resolve_left (Ne.symm h)⟩

theorem lookup_eq_none_iff (k : Nat) (l : List Cand) : lookup k l = none ↔ k ∉ l.map (·.1) := by
  rw [← lookup_isSome_iff_mem_keys]; cases lookup k l <;> simp

theorem lookup_some_mem {k v : Nat} {l : List Cand} (h : lookup k l = some v) : (k, v) ∈ l := by
  induction l with
  | nil => simp [lookup] at h
  | cons c rest ih =>
    simp only [lookup] at h
    split at h
    · rename_i hc; cases h; cases hc; exact List.mem_cons_self
    · exact List.mem_cons_of_mem _ (ih h)

theorem lookup_append (k : Nat) (a b : List Cand) :
    lookup k (a ++ b) = (lookup k a).orElse (fun _ => lookup k b) := by
  induction a with
  | nil => rfl
  | cons c rest ih =>
    simp only [List.cons_append, lookup]
    split
    · rfl
    · exact ih

theorem upsert_of_not_mem {k v : Nat} {l : List Cand} (h : k ∉ l.map (·.1)) :
    upsert k v l = l ++ [(k, v)] := by
  induction l with
  | nil => rfl
  | cons c rest ih =>
    simp only [List.map_cons, List.mem_cons, not_or] at h
    unfold upsert
    rw [if_neg (fun e => h.1 e.symm), ih h.2]; rfl

theorem keys_upsert (k v : Nat) (l : List Cand) :
    (upsert k v l).map (·.1) = if k ∈ l.map (·.1) then l.map (·.1) else l.map (·.1) ++ [k] := by
  induction l with
  | nil => rfl
  | cons c rest ih =>
    unfold upsert
    split
    · rename_i h; simp [h]
    · rename_i h
      simp only [List.map_cons, ih, List.mem_cons]
      have : ¬ k = c.1 := fun e => h e.symm
      by_cases hm : k ∈ rest.map (·.1)
      · simp [hm]
      · simp [hm, this]

theorem length_upsert_le (k v : Nat) (l : List Cand) : (upsert k v l).length ≤ l.length + 1 := by
  have := congrArg List.length (keys_upsert k v l)
  simp only [List.length_map] at this
  rw [this]; split <;> simp

theorem nodup_keys_upsert {k v : Nat} {l : List Cand} (h : (l.map (·.1)).Nodup) :
    ((upsert k v l).map (·.1)).Nodup := by
  rw [keys_upsert]
  split
  · exact h
  · rename_i hk
    exact List.nodup_append.2 ⟨h, by simp, fun a ha b hb => by cases List.mem_singleton.1 hb; exact fun e => hk (e ▸ ha)⟩

theorem lookup_drop (k n : Nat) {l : List Cand} (hn : (l.map (·.1)).Nodup) :
    lookup k (l.drop n) = none ∨ lookup k (l.drop n) = lookup k l := by
  induction n generalizing l with
  | zero => exact Or.inr rfl
  | succ n ih =>
    cases l with
    | nil => exact Or.inr rfl
    | cons c rest =>
      simp only [List.map_cons, List.nodup_cons] at hn
      simp only [List.drop_succ_cons, lookup]
      rcases ih hn.2 with h | h
      · exact Or.inl h
      · split
        · rename_i hc
          exact Or.inl (h.trans ((lookup_eq_none_iff k rest).2 (hc ▸ hn.1)))
        · exact Or.inr h

theorem evict_eq_drop (p : Params) (l : List Cand) :
    ∃ n, evict p l = l.drop n ∧ (l.length ≤ p.cap → n = 0) := by
  unfold evict
  split
  · rename_i hc
    exact ⟨_, rfl, fun h => absurd hc (Nat.not_lt.2 h)⟩
  · exact ⟨0, rfl, fun _ => rfl⟩

theorem clsOf_nil (k : Nat) : clsOf k [] = [] := rfl

theorem clsOf_append (k : Nat) (a b : List Event) : clsOf k (a ++ b) = clsOf k a ++ clsOf k b := by
  simp [clsOf]

theorem clsOf_flush (k : Nat) {l : List Cand} (hn : (l.map (·.1)).Nodup) :
    clsOf k (l.map toEvent) = (lookup k l).toList := by
  induction l with
  | nil => rfl
  | cons c rest ih =>
    simp only [List.map_cons, List.nodup_cons] at hn
    have ih := ih hn.2
    simp only [clsOf, List.map_cons, List.filter_cons, toEvent, lookup] at ih ⊢
    split
    · rename_i hc
      have : lookup k rest = none := (lookup_eq_none_iff k rest).2 (of_decide_eq_true hc ▸ hn.1)
      rw [this] at ih
      simp [of_decide_eq_true hc, ih]
    · rename_i hc
      rw [if_neg (fun e => hc (decide_eq_true e))]
      exact ih

/-- what every reachable state of the loop satisfies -/
structure Coh (s : St) : Prop where
  cacheNodup : (s.cache.map (·.1)).Nodup
  bufNodup : (s.buf.map (·.1)).Nodup
  agree : ∀ k c b, lookup k s.cache = some c → lookup k s.buf = some b → b = c
  count : s.bufCount = 0 → s.buf = []

theorem coh_init : Coh init := ⟨by simp [init], by simp [init], by simp [init, lookup], by simp [init]⟩

theorem stale_iff {s : St} {c : Cand} :
    stale s c = true ↔ ∃ old, lookup c.1 s.cache = some old ∧ c.2 < old := by
  unfold stale
  cases lookup c.1 s.cache <;> simp

theorem stale_false_iff {s : St} {c : Cand} :
    stale s c = false ↔ ∀ old, lookup c.1 s.cache = some old → old ≤ c.2 := by
  unfold stale
  cases lookup c.1 s.cache <;> simp

theorem coh_pushCand {s : St} (c : Cand) (h : Coh s) : Coh (pushCand s c) := by
  unfold pushCand
  split
  · exact h
  · refine ⟨nodup_keys_upsert h.cacheNodup, nodup_keys_upsert h.bufNodup, ?_, by simp⟩
    intro k cc b
    simp only [lookup_upsert]
    split
    · intro hc hb; cases hc; cases hb; rfl
    · exact h.agree k cc b

theorem coh_fold {s : St} (b : List Cand) (h : Coh s) : Coh (b.foldl pushCand s) :=
  List.foldlRecOn b pushCand h fun _ hs c _ => coh_pushCand c hs

theorem run_append (p : Params) (s : St) (xs ys : List In) :
    run p s (xs ++ ys) =
      ((run p (run p s xs).1 ys).1, (run p s xs).2 ++ (run p (run p s xs).1 ys).2) := by
  induction xs generalizing s with
  | nil => simp [run]
  | cons x xs ih => simp only [List.cons_append, run, ih, List.append_assoc]

theorem events_append (p : Params) (s : St) (xs ys : List In) :
    events p s (xs ++ ys) = events p s xs ++ events p (stateAfter p s xs) ys := by
  simp [events, stateAfter, run_append]

theorem stateAfter_append (p : Params) (s : St) (xs ys : List In) :
    stateAfter p s (xs ++ ys) = stateAfter p (stateAfter p s xs) ys := by
  simp [stateAfter, run_append]

theorem events_cons (p : Params) (s : St) (x : In) (xs : List In) :
    events p s (x :: xs) = (step p s x).2 ++ events p (step p s x).1 xs := by
  simp [events, run]

theorem stateAfter_cons (p : Params) (s : St) (x : In) (xs : List In) :
    stateAfter p s (x :: xs) = stateAfter p (step p s x).1 xs := by
  simp [stateAfter, run]

end Corro.Updates
