/-
`backup` and `adopt` (C19) seen through the site table.  Both delete rows and add one with a fresh key,
which keeps the two uniqueness constraints; with those a look-up is decided by which rows sit on the
ordinal (`siteOf_congr`), and rewriting the clock's ordinals leaves the resolved changes alone when every
new ordinal resolves as the old one did (`changes_rewrite`).  `restore` is then read by the actor id it
keeps.
-/
import Corro.Model.Backup

namespace Corro.Backup

/-- `ordinal INTEGER PRIMARY KEY` -/
def OrdsKey (sites : List (Nat × Site)) : Prop := ∀ p ∈ sites, ∀ q ∈ sites, p.1 = q.1 → p = q
/-- `CREATE UNIQUE INDEX crsql_site_id_site_id ON crsql_site_id (site_id)` -/
def SitesKey (sites : List (Nat × Site)) : Prop := ∀ p ∈ sites, ∀ q ∈ sites, p.2 = q.2 → p = q

variable {sites : List (Nat × Site)}

theorem siteOf_eq_none {o : Nat} : siteOf sites o = none ↔ ∀ p ∈ sites, p.1 ≠ o := by
  simp only [siteOf, Option.map_eq_none_iff, List.find?_eq_none, beq_iff_eq, ne_eq]

theorem siteOf_some_mem {o : Nat} {s : Site} (h : siteOf sites o = some s) : (o, s) ∈ sites := by
  obtain ⟨p, hp, rfl⟩ := Option.map_eq_some_iff.1 h
  have : p.1 = o := by simpa using List.find?_some hp
  exact this ▸ List.mem_of_find?_eq_some hp

theorem siteOf_eq_some (hk : OrdsKey sites) {o : Nat} {s : Site} :
    siteOf sites o = some s ↔ (o, s) ∈ sites := by
  refine ⟨siteOf_some_mem, fun hm => ?_⟩
  cases h : siteOf sites o with
  | none => exact absurd rfl (siteOf_eq_none.1 h (o, s) hm)
  | some s' => exact congrArg (fun p => some p.2) (hk _ (siteOf_some_mem h) _ hm rfl)

theorem ordOf_eq_none {a : Site} : ordOf sites a = none ↔ ∀ p ∈ sites, p.2 ≠ a := by
  simp only [ordOf, Option.map_eq_none_iff, List.find?_eq_none, beq_iff_eq, ne_eq]

theorem ordOf_some_mem {a : Site} {k : Nat} (h : ordOf sites a = some k) : (k, a) ∈ sites := by
  obtain ⟨p, hp, rfl⟩ := Option.map_eq_some_iff.1 h
  have : p.2 = a := by simpa using List.find?_some hp
  exact this ▸ List.mem_of_find?_eq_some hp

theorem siteOf_congr {sites' : List (Nat × Site)} (hk : OrdsKey sites) (hk' : OrdsKey sites') {o : Nat}
    (h : ∀ s, (o, s) ∈ sites' ↔ (o, s) ∈ sites) : siteOf sites' o = siteOf sites o :=
  Option.ext fun s => by rw [siteOf_eq_some hk', siteOf_eq_some hk, h]

theorem key_filter {f : Nat × Site → Nat} (q : Nat × Site → Bool)
    (h : ∀ p ∈ sites, ∀ p' ∈ sites, f p = f p' → p = p') :
    ∀ p ∈ sites.filter q, ∀ p' ∈ sites.filter q, f p = f p' → p = p' :=
  fun p hp p' hp' => h p (List.mem_filter.1 hp).1 p' (List.mem_filter.1 hp').1

theorem key_concat {f : Nat × Site → Nat} {x : Nat × Site}
    (h : ∀ p ∈ sites, ∀ p' ∈ sites, f p = f p' → p = p') (hx : ∀ p ∈ sites, f p ≠ f x) :
    ∀ p ∈ sites ++ [x], ∀ p' ∈ sites ++ [x], f p = f p' → p = p' := by
  intro p hp p' hp' e
  rcases List.mem_append.1 hp with hp | hp <;> rcases List.mem_append.1 hp' with hp' | hp'
  · exact h p hp p' hp' e
  · cases List.mem_singleton.1 hp'; exact absurd e (hx p hp)
  · cases List.mem_singleton.1 hp; exact absurd e.symm (hx p' hp')
  · rw [List.mem_singleton.1 hp, List.mem_singleton.1 hp']

theorem le_maxOrd {p : Nat × Site} (hp : p ∈ sites) : p.1 ≤ maxOrd sites := by
  induction sites with
  | nil => cases hp
  | cons q qs ih =>
    cases hp with
    | head => exact Nat.le_max_left _ _
    | tail _ h => exact Nat.le_trans (ih h) (Nat.le_max_right _ _)

theorem nextOrd_fresh (sites : List (Nat × Site)) :
    (∀ p ∈ sites, p.1 < nextOrd sites) ∧ 0 < nextOrd sites := by
  unfold nextOrd
  split
  · rename_i h
    rw [List.isEmpty_iff.1 h]
    exact ⟨fun p hp => (nomatch hp), Nat.one_pos⟩
  · exact ⟨fun p hp => Nat.lt_succ_of_le (le_maxOrd hp), Nat.succ_pos _⟩

theorem mem_rewriteOrd {frm to : Nat} {clock : List ClockRow} {r : ClockRow} :
    r ∈ rewriteOrd frm to clock ↔ ∃ r0 ∈ clock, r = if r0.ord = frm then { r0 with ord := to } else r0 := by
  simp only [rewriteOrd, List.mem_map, eq_comm]

theorem changes_rewrite {sites' : List (Nat × Site)} {frm to : Nat} {clock : List ClockRow}
    (h : ∀ r ∈ clock, siteOf sites' (if r.ord = frm then to else r.ord) = siteOf sites r.ord) :
    (rewriteOrd frm to clock).map (resolve sites') = clock.map (resolve sites) := by
  rw [rewriteOrd, List.map_map]
  refine List.map_congr_left fun r hr => ?_
  have := h r hr
  show resolve sites' (if r.ord = frm then { r with ord := to } else r) = resolve sites r
  split at this <;> rename_i hc
  · rw [if_pos hc, resolve, this]; rfl
  · rw [if_neg hc, resolve, this]; rfl

/-- the ordinal `backup` moves the node's own site id to -/
abbrev selfOrd (sites : List (Nat × Site)) : Nat := nextOrd (sites.filter (fun p => p.1 != 0))

/-- the site table `backup` leaves behind -/
def backupSites (sites : List (Nat × Site)) (self : Site) : List (Nat × Site) :=
  sites.filter (fun p => p.1 != 0) ++ [(selfOrd sites, self)]

variable {self a : Site} {o : Nat} {s : Site}

theorem mem_backupSites :
    (o, s) ∈ backupSites sites self ↔ ((o, s) ∈ sites ∧ o ≠ 0) ∨ (o = selfOrd sites ∧ s = self) := by
  simp [backupSites, List.mem_filter]

theorem lt_selfOrd (h : (o, s) ∈ sites) (ho : o ≠ 0) : o < selfOrd sites :=
  (nextOrd_fresh _).1 (o, s) (List.mem_filter.2 ⟨h, by simpa using ho⟩)

theorem backupSites_ordsKey (hk : OrdsKey sites) : OrdsKey (backupSites sites self) :=
  key_concat (f := (·.1)) (key_filter _ hk) fun p hp => Nat.ne_of_lt ((nextOrd_fresh _).1 p hp)

theorem backupSites_sitesKey (hs : SitesKey sites) (h0 : (0, self) ∈ sites) :
    SitesKey (backupSites sites self) :=
  key_concat (f := (·.2)) (key_filter _ hs) fun p hp e => by
    obtain ⟨hm, hne⟩ := List.mem_filter.1 hp
    rw [hs p hm _ h0 e] at hne
    cases hne

theorem backupSites_zero : siteOf (backupSites sites self) 0 = none :=
  siteOf_eq_none.2 fun p hp e => by
    obtain ⟨po, ps⟩ := p
    cases e
    rcases mem_backupSites.1 hp with ⟨_, h⟩ | ⟨h, _⟩
    · exact h rfl
    · exact Nat.ne_of_lt (nextOrd_fresh _).2 h

theorem backupSites_moved (hk : OrdsKey sites) :
    siteOf (backupSites sites self) (selfOrd sites) = some self :=
  (siteOf_eq_some (backupSites_ordsKey hk)).2 (mem_backupSites.2 (Or.inr ⟨rfl, rfl⟩))

theorem backupSites_keep (hk : OrdsKey sites) (ho : o ≠ 0) (hres : (siteOf sites o).isSome) :
    siteOf (backupSites sites self) o = siteOf sites o := by
  obtain ⟨s0, hs0⟩ := Option.isSome_iff_exists.1 hres
  have hlt := lt_selfOrd (siteOf_some_mem hs0) ho
  refine siteOf_congr hk (backupSites_ordsKey hk) fun s => ?_
  rw [mem_backupSites]
  exact ⟨fun h => h.elim And.left fun h => absurd h.1 (Nat.ne_of_lt hlt), fun h => Or.inl ⟨h, ho⟩⟩

/-- the site table `restore --self-actor-id` / `--actor-id a` leaves in the snapshot:
`(adopt snap a).sites` unfolds to `adoptSites snap.sites a`, which the `adopt_*` lemmas use as it is -/
def adoptSites (sites : List (Nat × Site)) (a : Site) : List (Nat × Site) :=
  (sites.filter (fun p => p.2 != a)).filter (fun p => p.1 != 0) ++ [(0, a)]

theorem mem_adoptSites :
    (o, s) ∈ adoptSites sites a ↔ ((o, s) ∈ sites ∧ o ≠ 0 ∧ s ≠ a) ∨ (o = 0 ∧ s = a) := by
  simp [adoptSites, List.mem_filter]

theorem adoptSites_ordsKey (hk : OrdsKey sites) : OrdsKey (adoptSites sites a) :=
  key_concat (f := (·.1)) (key_filter _ (key_filter _ hk)) fun p hp => by
    simpa using (List.mem_filter.1 hp).2

theorem adoptSites_sitesKey (hs : SitesKey sites) : SitesKey (adoptSites sites a) :=
  key_concat (f := (·.2)) (key_filter _ (key_filter _ hs)) fun p hp => by
    simpa using (List.mem_filter.1 (List.mem_filter.1 hp).1).2

theorem adoptSites_zero (hk : OrdsKey sites) : siteOf (adoptSites sites a) 0 = some a :=
  (siteOf_eq_some (adoptSites_ordsKey hk)).2 (mem_adoptSites.2 (Or.inr ⟨rfl, rfl⟩))

theorem adoptSites_keep (hk : OrdsKey sites) (ho : o ≠ 0) (hna : ∀ s, (o, s) ∈ sites → s ≠ a) :
    siteOf (adoptSites sites a) o = siteOf sites o := by
  refine siteOf_congr hk (adoptSites_ordsKey hk) fun s => ?_
  rw [mem_adoptSites]
  exact ⟨fun h => h.elim And.left fun h => absurd h.1 ho, fun h => Or.inl ⟨h, ho, hna s h⟩⟩

theorem ordOf_eq_some (hs : SitesKey sites) {k : Nat} : ordOf sites a = some k ↔ (k, a) ∈ sites := by
  refine ⟨ordOf_some_mem, fun hm => ?_⟩
  cases h : ordOf sites a with
  | none => exact absurd rfl (ordOf_eq_none.1 h (k, a) hm)
  | some k' => exact congrArg (fun p => some p.1) (hs _ (ordOf_some_mem h) _ hm rfl)

/-- the constraints cr-sqlite's schema puts on a database file: `ordinal` is the primary key of
`crsql_site_id`, `site_id` has a unique index, and every clock row's author ordinal is in the
site table (cr-sqlite allocates the ordinal before it writes the clock row). -/
structure WF (db : Db) : Prop where
  ords : OrdsKey db.sites
  sitesU : SitesKey db.sites
  resolved : ∀ r ∈ db.clock, (siteOf db.sites r.ord).isSome

/-- nobody sits on ordinal 0 and no clock row is attributed to it -/
def ZeroVacant (db : Db) : Prop := siteOf db.sites 0 = none ∧ ∀ r ∈ db.clock, r.ord ≠ 0

variable {db b snap : Db}

theorem resolved_of_changes_eq (h : b.changes = db.changes)
    (hr : ∀ r ∈ db.clock, (siteOf db.sites r.ord).isSome) :
    ∀ r ∈ b.clock, (siteOf b.sites r.ord).isSome := by
  intro r hr'
  have : resolve b.sites r ∈ db.changes := h ▸ List.mem_map_of_mem hr'
  obtain ⟨r0, hr0, e⟩ := List.mem_map.1 this
  have e : siteOf db.sites r0.ord = siteOf b.sites r.ord := congrArg Change.site e
  exact e ▸ hr r0 hr0

theorem backup_eq (h : backup db = some b) :
    ∃ self, siteOf db.sites 0 = some self ∧
      b = { db with
        sites := backupSites db.sites self
        clock := rewriteOrd 0 (selfOrd db.sites) db.clock
        members := 0
        subs := db.subs.map (fun _ => 0)
        consulServices := (dropConsul db.consulServices db.consulChecks).1
        consulChecks := (dropConsul db.consulServices db.consulChecks).2
        wal := true } := by
  unfold backup at h
  split at h
  · cases h
  · rename_i self hs
    cases h
    exact ⟨self, hs, rfl⟩

theorem backup_changes (hwf : WF db) (h : backup db = some b) : b.changes = db.changes := by
  obtain ⟨self, h0, rfl⟩ := backup_eq h
  refine changes_rewrite fun r hr => ?_
  split
  · rename_i hc; rw [backupSites_moved hwf.ords, hc, h0]
  · rename_i hc; exact backupSites_keep hwf.ords hc (hwf.resolved r hr)

theorem backup_zeroVacant (h : backup db = some b) : ZeroVacant b := by
  obtain ⟨self, h0, rfl⟩ := backup_eq h
  refine ⟨backupSites_zero, fun r hr => ?_⟩
  obtain ⟨r0, _, rfl⟩ := mem_rewriteOrd.1 hr
  split
  · exact Nat.ne_of_gt (nextOrd_fresh _).2
  · assumption

theorem backup_wf (hwf : WF db) (h : backup db = some b) : WF b := by
  have hres := resolved_of_changes_eq (backup_changes hwf h) hwf.resolved
  obtain ⟨self, h0, rfl⟩ := backup_eq h
  exact ⟨backupSites_ordsKey hwf.ords, backupSites_sitesKey hwf.sitesU (siteOf_some_mem h0), hres⟩

theorem adopt_zero (hwf : WF snap) (a : Site) : siteOf (adopt snap a).sites 0 = some a :=
  adoptSites_zero hwf.ords

theorem rewriteOrd_self (k : Nat) (clock : List ClockRow) : rewriteOrd k k clock = clock := by
  rw [rewriteOrd, List.map_congr_left (g := id), List.map_id]
  intro r _
  split
  · rename_i hc; cases r; cases hc; rfl
  · rfl

theorem adopt_clock (snap : Db) (a : Site) :
    (adopt snap a).clock = rewriteOrd ((snap.ordOf a).getD 0) 0 snap.clock := by
  unfold adopt
  rcases h : snap.ordOf a with _ | _ | k
  · exact (rewriteOrd_self 0 _).symm
  · exact (rewriteOrd_self 0 _).symm
  · rfl

theorem adopt_changes (hwf : WF snap) (hz : ZeroVacant snap) (a : Site) :
    (adopt snap a).changes = snap.changes := by
  rw [Db.changes, adopt_clock]
  refine changes_rewrite fun r hr => ?_
  have hr0 := hz.2 r hr
  split
  · rename_i hc
    cases hk : snap.ordOf a with
    | none => rw [hk] at hc; exact absurd hc hr0
    | some k =>
      rw [hk] at hc
      rw [adopt_zero hwf, hc]
      exact ((siteOf_eq_some hwf.ords).2 (ordOf_some_mem hk)).symm
  · rename_i hc
    refine adoptSites_keep hwf.ords hr0 fun s hs hsa => hc ?_
    rw [Db.ordOf, (ordOf_eq_some hwf.sitesU).2 (hsa ▸ hs)]; rfl

theorem adopt_wf (hwf : WF snap) (hz : ZeroVacant snap) (a : Site) : WF (adopt snap a) :=
  ⟨adoptSites_ordsKey hwf.ords, adoptSites_sitesKey hwf.sitesU,
    resolved_of_changes_eq (adopt_changes hwf hz a) hwf.resolved⟩

/-- none of a node's local state: no membership rows, no subscription rows, no consul hash tables -/
def LocalEmpty (db : Db) : Prop :=
  db.members = 0 ∧ (db.subs = none ∨ db.subs = some 0) ∧ db.consulServices = none ∧ db.consulChecks = none

/-- `consul sync` creates `__corro_consul_services` and `__corro_consul_checks` in one transaction -/
def ConsulPaired (db : Db) : Prop := db.consulChecks.isSome → db.consulServices.isSome

/-- the actor id the restored database is asked to carry at ordinal 0, if any -/
def keepActor (n : Node) : Keep → Option Site
  | .no => none
  | .actor a => some a
  | .self => match n.file with
    | .db d => d.siteOf 0
    | _ => none

/-- the snapshot as a successful `restore` leaves it and copies it over the destination -/
def kept (snap : Db) : Option Site → Db
  | some a => adopt snap a
  | none => snap

variable {n : Node} {keep : Keep}

theorem restore_of_keepActor (h : keepActor n keep = some a) :
    restore n snap keep = .ok ⟨⟨.db (adopt snap a), 0⟩, adopt snap a⟩ := by
  cases keep with
  | no => cases h
  | actor a' => cases h; rfl
  | self =>
    simp only [keepActor] at h
    simp only [restore]
    cases hf : n.file with
    | db d => rw [hf] at h; simp only [h]
    | _ => rw [hf] at h; cases h

theorem restore_ok {r : Restored} (h : restore n snap keep = .ok r) :
    r = ⟨⟨.db (kept snap (keepActor n keep)), 0⟩, kept snap (keepActor n keep)⟩ := by
  cases hk : keepActor n keep with
  | some a => rw [restore_of_keepActor hk] at h; cases h; rfl
  | none =>
    cases keep with
    | no => cases h; rfl
    | actor a => cases hk
    | self =>
      simp only [keepActor] at hk
      simp only [restore] at h
      cases hf : n.file with
      | db d => rw [hf] at h hk; simp only [hk] at h; cases h
      | _ => rw [hf] at h; cases h

end Corro.Backup
