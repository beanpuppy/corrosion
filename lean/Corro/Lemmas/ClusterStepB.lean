/-
C01, protocol level — the step of the batched cluster model (`Model/ClusterSysBatch.lean`).  The
one-changeset-per-batch model is its restriction to singleton batches, on the whole cluster state, ghost
lists included: `mergedByBatch n [it] = mergedBy n it`, hence `step c op = stepB c (liftOp op)` and
`run c ops = runB c (ops.map liftOp)`.  So what a step can do is said once, for `stepB` (`StepBCase`), and
what a predicate of every node must survive to survive a step once (`allNodes_stepB`); every invariant of
the runs of either model is an instance.
-/
import Corro.Lemmas.ClusterStep
import Corro.Lemmas.ClusterBatchDb

namespace Corro.ClusterSys
open Corro.Crdt Corro.Node

theorem unknownB_single (n : Node) (it : Item) :
    unknownB n [it] =
      if (n.booked it.site).containsAll it.versions.1 it.versions.2 it.seqs then [] else [it] := by
  unfold unknownB
  rw [dedupeBatch_single]
  cases h : (n.booked it.site).containsAll it.versions.1 it.versions.2 it.seqs <;> simp [h]

theorem mergedByBatch_noApplies {n : Node} {batch : List Item} (h : (deliverFold n batch).2.1 = []) :
    mergedByBatch n batch = (deliverFoldG n batch).2 := by
  rw [mergedByBatch_eq, h]
  show (if _ then _ ++ [] else _) = _
  rw [List.append_nil, ite_self]

theorem deliverFoldG_single_skip (n : Node) (it : Item)
    (h : (n.booked it.site).containsAll it.versions.1 it.versions.2 it.seqs = true) :
    (deliverFoldG n [it]).2 = [] := by
  unfold deliverFoldG
  rw [unknownB_single, if_pos h]
  rfl

theorem deliverFoldG_single (n : Node) (it : Item)
    (h : (n.booked it.site).containsAll it.versions.1 it.versions.2 it.seqs = false) :
    (deliverFoldG n [it]).2 = if it.isComplete then itemChanges it else [] := by
  have hf : List.filter (fun x => decide (x.site = it.site)) [it] = [it] := by simp
  have hle : it.versions.1 ≤ it.versions.2 :=
    Nat.le_of_not_lt fun hlt => by rw [containsAll_backward _ _ _ _ hlt] at h; cases h
  have hs : alreadySeen (tx0 n).seen it = false := alreadySeen_nil it hle
  unfold deliverFoldG
  rw [unknownB_single, if_neg (ne_true_of_eq_false h)]
  show (actorStepG [it] ((n, [], []), []) it.site).2 = _
  unfold actorStepG
  rw [hf]
  show stepMerged (n.booked it.site) (tx0 n) it = _
  rw [stepMerged_eq, if_neg (ne_true_of_eq_false h), hs, if_neg Bool.false_ne_true]

theorem mergedBy_of_not_incomplete (n : Node) (it : Item)
    (h : (n.booked it.site).containsAll it.versions.1 it.versions.2 it.seqs = false)
    (hinc : ¬ it.incomplete) : mergedBy n it = if it.isComplete then itemChanges it else [] := by
  cases it with
  | empty => rfl
  | full a v lo hi last cs =>
    show _ = if lo == 0 && hi == last then cs else []
    unfold mergedBy
    simp only [Item.site, Item.versions, Item.seqs] at h
    simp only [h, Bool.false_eq_true, if_false]
    by_cases hc : (lo == 0 && hi == last) = true
    · rw [if_pos hc, if_pos hc]
    · rw [if_neg hc, if_neg hc]
      split
      · rfl
      · next hlt =>
        exact absurd ⟨Nat.le_of_not_lt hlt, by simpa only [Bool.and_eq_true, beq_iff_eq] using hc⟩ hinc

theorem mergedByBatch_single (n : Node) (it : Item) : mergedByBatch n [it] = mergedBy n it := by
  cases hk : (n.booked it.site).containsAll it.versions.1 it.versions.2 it.seqs with
  | true =>
    rw [mergedByBatch_noApplies (deliverFold_single_noApplies n it (Or.inl hk)),
      deliverFoldG_single_skip n it hk]
    cases it with
    | empty => rfl
    | full a v lo hi last cs =>
      unfold mergedBy
      simp only [Item.site, Item.versions, Item.seqs] at hk
      simp only [hk, if_true]
  | false =>
    by_cases hinc : it.incomplete
    · -- an incomplete chunk: buffered; the apply it may schedule runs on an alive node
      rcases deliver_one n it with ⟨_, hk' | ⟨a, v, lo, hi, last, cs, rfl, hlt⟩⟩ |
          ⟨a, vlo, vhi, cs, hs, _⟩ | ⟨a, v, lo, hi, last, cs, rfl, hnc, hlh, hcomp, hF, _⟩
      · rw [hk] at hk'; cases hk'
      · exact absurd hinc.1 (Nat.not_le_of_gt hlt)
      · rcases hs with ⟨rfl, -⟩ | ⟨l, rfl, -⟩
        · exact hinc.elim
        · exact absurd ⟨rfl, rfl⟩ hinc.2
      · have hM : (deliverFoldG n [Item.full a v lo hi last cs]).2 = [] := by
          rw [deliverFoldG_single n _ hk]
          exact if_neg (by simpa only [Item.isComplete, Bool.and_eq_true, beq_iff_eq] using hcomp)
        have hal : (bufNode n a v lo hi last cs).alive = n.alive := by
          unfold bufNode; simp
        rw [mergedByBatch_eq, hM, hF, mergedBy_full_buffer n a v lo hi last cs hnc hlh hcomp]
        simp only [clearAll_nil, hal, List.nil_append]
        cases hpc : (bufPartial n a v lo hi last cs).complete with
        | false => simp [applyMerged]
        | true =>
          cases n.alive with
          | false => rfl
          | true =>
            simp only [Bool.and_self, if_true]
            rw [applyMerged_cons, appliedBy_complete (bufNode_partial n a v lo hi last cs) hpc]
            exact List.append_nil _
    · rw [mergedByBatch_noApplies (deliverFold_single_noApplies n it (Or.inr hinc)),
        deliverFoldG_single n it hk, mergedBy_of_not_incomplete n it hk hinc]

theorem deliver_nil (n : Node) : n.deliver [] = n := by
  show (if n.alive = true then n else n) = n
  rw [ite_self]

theorem mergedByBatch_nil (n : Node) : mergedByBatch n [] = [] := by
  show (if n.alive = true then [] else []) = []
  rw [ite_self]

theorem deliverB_nil (s : Node × List Chg) : deliverB s [] = s := by
  rw [deliverB_eq, deliver_nil, mergedByBatch_nil]
  rfl

theorem deliverB_single (s : Node × List Chg) (it : Item) : deliverB s [it] = deliverOne s it := by
  rw [deliverB_eq, mergedByBatch_single]
  rfl

/-- the step of the batched model that does what `op` does: a delivery of one changeset is the batch
`[it]`, a session delivering the answers `keep` one at a time is the session with the batches
`[[ans k₁], [ans k₂], …]` -/
def liftOp : Op → OpB
  | .write i stmts => .write i stmts
  | .deliverOrigin i site ver lo hi => .deliverOrigins i [(site, ver, lo, hi)]
  | .sync i j keep => .syncB i j (keep.map (fun k => [Pick.ans k]))
  | .kill i => .kill i
  | .restart i => .restart i

theorem set_self {α : Type} (l : List α) (i : Nat) (x : α) (h : l[i]? = some x) : l.set i x = l := by
  apply List.ext_getElem?
  intro j
  by_cases hij : i = j
  · subst hij
    rw [List.getElem?_set_self (List.getElem?_eq_some_iff.mp h).1, h]
  · rw [List.getElem?_set_ne hij]

/-- `recv` may be shorter than `nodes`: then `set` does nothing -/
theorem setNode_self (c : Cluster) (i : Nat) (n : Node) (h : c.nodes[i]? = some n) :
    c.setNode i (n, c.R i) = c := by
  have hr : c.recv.set i (c.R i) = c.recv := by
    unfold Cluster.R
    cases hi : c.recv[i]? with
    | none => exact List.set_eq_of_length_le (List.getElem?_eq_none_iff.mp hi)
    | some r => exact set_self _ _ _ hi
  unfold Cluster.setNode
  rw [set_self _ _ _ h, hr]

theorem foldB_singletons (L : Log) (ans : List Item) (keep : List Nat) (s : Node × List Chg) :
    ((keep.map (fun k => [Pick.ans k])).map (pickBatch L ans)).foldl deliverB s =
      (pick ans keep).foldl deliverOne s := by
  induction keep generalizing s with
  | nil => rfl
  | cons k keep ih =>
    unfold pick
    rw [List.map_cons, List.map_cons, List.foldl_cons, List.filterMap_cons]
    cases hk : ans[k]? with
    | none =>
      have hb : pickBatch L ans [Pick.ans k] = [] := by
        unfold pickBatch
        simp [hk]
      rw [hb, deliverB_nil]
      exact ih s
    | some it =>
      have hb : pickBatch L ans [Pick.ans k] = [it] := by
        unfold pickBatch
        simp [hk]
      rw [hb, deliverB_single, List.foldl_cons]
      exact ih (deliverOne s it)

theorem originBatch_single (L : Log) (site ver lo hi : Nat) :
    originBatch L [(site, ver, lo, hi)] =
      if originValid L site ver lo hi then [originItem L site ver lo hi] else [] := by
  unfold originBatch
  cases hv : originValid L site ver lo hi <;> simp [hv]

theorem step_eq_stepB (c : Cluster) (op : Op) : step c op = stepB c (liftOp op) := by
  cases op with
  | write i stmts => rfl
  | kill i => rfl
  | restart i => rfl
  | deliverOrigin i site ver lo hi =>
    show _ = (match c.nodes[i]? with
      | none => c
      | some n => c.setNode i (deliverB (n, c.R i) (originBatch c.log [(site, ver, lo, hi)])))
    rw [step_deliverOrigin]
    cases hi' : c.nodes[i]? with
    | none => rfl
    | some n =>
      show (if originValid c.log site ver lo hi then
          c.setNode i (deliverOne (n, c.R i) (originItem c.log site ver lo hi)) else c) =
        c.setNode i (deliverB (n, c.R i) (originBatch c.log [(site, ver, lo, hi)]))
      rw [originBatch_single]
      cases originValid c.log site ver lo hi with
      | true =>
        show _ = c.setNode i (deliverB (n, c.R i) [originItem c.log site ver lo hi])
        rw [deliverB_single]
        rfl
      | false =>
        show c = c.setNode i (deliverB (n, c.R i) [])
        rw [deliverB_nil, setNode_self c i n hi']
  | sync i j keep =>
    show _ = (match c.nodes[i]?, c.nodes[j]? with
      | some ni, some nj =>
        if i = j then c
        else c.setNode i (((keep.map (fun k => [Pick.ans k])).map (pickBatch c.log (answers ni nj))).foldl
          deliverB (ni, c.R i))
      | _, _ => c)
    rw [step_sync]
    cases c.nodes[i]? with
    | none => rfl
    | some ni =>
      cases c.nodes[j]? with
      | none => rfl
      | some nj =>
        show (if i = j then c else _) = (if i = j then c else _)
        rw [foldB_singletons]

theorem run_eq_runB (c : Cluster) (ops : List Op) : run c ops = runB c (ops.map liftOp) := by
  unfold run runB
  induction ops generalizing c with
  | nil => rfl
  | cons op ops ih => rw [List.map_cons, List.foldl_cons, List.foldl_cons, step_eq_stepB, ih]

/-- side condition of a step (the local write path agrees with merging its own change list) -/
def OpOKB (c : Cluster) : OpB → Prop
  | .write i stmts => OpOK c (.write i stmts)
  | _ => True

instance (c : Cluster) (op : OpB) : Decidable (OpOKB c op) := by
  cases op with
  | write i stmts => exact inferInstanceAs (Decidable (OpOK c (.write i stmts)))
  | deliverOrigins => exact isTrue trivial
  | syncB => exact isTrue trivial
  | kill => exact isTrue trivial
  | restart => exact isTrue trivial

theorem stepB_write (c : Cluster) (i : Nat) (stmts : List Stmt) :
    stepB c (.write i stmts) = step c (.write i stmts) := rfl

theorem stepB_kill (c : Cluster) (i : Nat) : stepB c (.kill i) = step c (.kill i) := rfl

theorem stepB_restart (c : Cluster) (i : Nat) : stepB c (.restart i) = step c (.restart i) := rfl

theorem stepB_deliverOrigins (c : Cluster) (i : Nat) (chunks : List (Nat × Nat × Nat × Nat)) :
    stepB c (.deliverOrigins i chunks) =
      match c.nodes[i]? with
      | none => c
      | some n => c.setNode i (n.deliver (originBatch c.log chunks),
          mergedByBatch n (originBatch c.log chunks) ++ c.R i) := rfl

theorem stepB_syncB (c : Cluster) (i j : Nat) (batches : List (List Pick)) :
    stepB c (.syncB i j batches) =
      match c.nodes[i]?, c.nodes[j]? with
      | some ni, some nj =>
        if i = j then c
        else c.setNode i ((batches.map (pickBatch c.log (answers ni nj))).foldl deliverB (ni, c.R i))
      | _, _ => c := rfl

/-- what a step does: nothing; a local write that extends the log; or it replaces one node and its ghost
list (a batch of original chunks, a session in batches, `kill`, `restart`) -/
inductive StepBCase (c : Cluster) (op : OpB) : Prop
  | same (h : stepB c op = c)
  | write (i : Nat) (stmts : List Stmt) (n n' : Node) (ver : Nat) (chs : List Chg) (hop : op = .write i stmts)
      (hi : c.nodes[i]? = some n) (hw : n.localWrite stmts = .ok (n', some (ver, chs)))
      (h : stepB c op = ({ c with log := ((n.id, ver), chs) :: c.log } : Cluster).setNode i (n', chs ++ c.R i))
  | origins (i : Nat) (chunks : List (Nat × Nat × Nat × Nat)) (n : Node) (hop : op = .deliverOrigins i chunks)
      (hi : c.nodes[i]? = some n)
      (h : stepB c op = c.setNode i (n.deliver (originBatch c.log chunks),
        mergedByBatch n (originBatch c.log chunks) ++ c.R i))
  | sync (i j : Nat) (batches : List (List Pick)) (ni nj : Node) (hop : op = .syncB i j batches) (hij : i ≠ j)
      (hi : c.nodes[i]? = some ni) (hj : c.nodes[j]? = some nj)
      (h : stepB c op = c.setNode i ((batches.map (pickBatch c.log (answers ni nj))).foldl deliverB (ni, c.R i)))
  | kill (i : Nat) (n : Node) (hop : op = .kill i) (hi : c.nodes[i]? = some n)
      (h : stepB c op = c.setNode i (n.kill, c.R i))
  | restart (i : Nat) (n : Node) (hop : op = .restart i) (hi : c.nodes[i]? = some n)
      (h : stepB c op = c.setNode i (n.restart, restartMerged n ++ c.R i))

theorem stepBCase (c : Cluster) (op : OpB) : StepBCase c op := by
  cases op with
  | write i stmts =>
    cases hi : c.nodes[i]? with
    | none => exact .same (by rw [stepB_write, step_write, hi])
    | some n =>
      have h : stepB c (.write i stmts) = match n.localWrite stmts with
          | .ok (n', some (ver, chs)) =>
            { nodes := c.nodes.set i n', log := ((n.id, ver), chs) :: c.log, recv := c.recv.set i (chs ++ c.R i) }
          | _ => c := by rw [stepB_write, step_write, hi]; rfl
      split at h
      · rename_i n' ver chs hw
        exact .write i stmts n n' ver chs rfl hi hw h
      · exact .same h
  | deliverOrigins i chunks =>
    cases hi : c.nodes[i]? with
    | none => exact .same (by rw [stepB_deliverOrigins, hi])
    | some n => exact .origins i chunks n rfl hi (by rw [stepB_deliverOrigins, hi])
  | syncB i j batches =>
    cases hi : c.nodes[i]? with
    | none => exact .same (by rw [stepB_syncB, hi])
    | some ni =>
      cases hj : c.nodes[j]? with
      | none => exact .same (by rw [stepB_syncB, hi, hj])
      | some nj =>
        by_cases hij : i = j
        · exact .same (by rw [stepB_syncB, hi, hj]; exact if_pos hij)
        · exact .sync i j batches ni nj rfl hij hi hj (by rw [stepB_syncB, hi, hj]; exact if_neg hij)
  | kill i =>
    cases hi : c.nodes[i]? with
    | none => exact .same (by rw [stepB_kill, step_kill, hi])
    | some n => exact .kill i n rfl hi (by rw [stepB_kill, step_kill, hi])
  | restart i =>
    cases hi : c.nodes[i]? with
    | none => exact .same (by rw [stepB_restart, step_restart, hi])
    | some n => exact .restart i n rfl hi (by rw [stepB_restart, step_restart, hi])

theorem stepB_log (c : Cluster) (op : OpB) :
    (stepB c op).log = c.log ∨ ∃ e, (stepB c op).log = e :: c.log := by
  cases stepBCase c op with
  | write _ _ _ _ _ _ _ _ _ h => exact Or.inr ⟨_, by rw [h]; rfl⟩
  | same h => exact Or.inl (by rw [h])
  | origins _ _ _ _ _ h => exact Or.inl (by rw [h]; rfl)
  | sync _ _ _ _ _ _ _ _ _ h => exact Or.inl (by rw [h]; rfl)
  | kill _ _ _ _ h => exact Or.inl (by rw [h]; rfl)
  | restart _ _ _ _ h => exact Or.inl (by rw [h]; rfl)

theorem logOK_of_stepB {c : Cluster} {op : OpB} (h : LogOK (stepB c op).log) : LogOK c.log := by
  rcases stepB_log c op with h1 | ⟨e, h1⟩
  · rw [h1] at h; exact h
  · rw [h1] at h; exact h.tail

theorem originValid_has {L : Log} {site ver lo hi : Nat} (h : originValid L site ver lo hi = true) :
    L.has site ver = true := by
  unfold originValid at h
  simp only [Bool.and_eq_true] at h
  exact h.1.1

theorem mem_originBatch {L : Log} {chunks : List (Nat × Nat × Nat × Nat)} {it : Item}
    (h : it ∈ originBatch L chunks) :
    ∃ site ver lo hi, L.has site ver = true ∧ it = originItem L site ver lo hi := by
  unfold originBatch at h
  obtain ⟨q, _, hq⟩ := List.mem_filterMap.mp h
  split at hq
  · rename_i hv
    simp only [Option.some.injEq] at hq
    exact ⟨_, _, _, _, originValid_has hv, hq.symm⟩
  · cases hq

theorem mem_pickBatch {L : Log} {ans : List Item} {ps : List Pick} {it : Item} (h : it ∈ pickBatch L ans ps) :
    it ∈ ans ∨ ∃ site ver lo hi, L.has site ver = true ∧ it = originItem L site ver lo hi := by
  unfold pickBatch at h
  obtain ⟨p, _, hp⟩ := List.mem_filterMap.mp h
  cases p with
  | ans k => exact Or.inl (List.mem_of_getElem? hp)
  | orig site ver lo hi =>
    simp only at hp
    split at hp
    · rename_i hv
      simp only [Option.some.injEq] at hp
      exact Or.inr ⟨_, _, _, _, originValid_has hv, hp.symm⟩
    · cases hp

/-- **one step, every node**: a predicate `P log index node ghost-list` that holds of every node holds
of every node after a step, given what a step can do to a node: `write` — the node's own local write,
the log growing by it; `grow` — the log growing under the other nodes; `deliver` — one batch of
changesets that satisfy `Src`, to any node state satisfying `P` (the batches of a session are folded
here); `origin`, `answer` — original chunks and the answers of a server of the cluster satisfy `Src`;
`kill`; `restart`.  Every invariant of the runs is an instance. -/
theorem allNodes_stepB {k : Nat} {P : Log → Nat → Node → List Chg → Prop} {Src : Log → Item → Prop}
    {c : Cluster} {op : OpB} (h : AllNodes k (P c.log) c) (hok : OpOKB c op)
    (write : ∀ i stmts n n' ver chs, c.nodes[i]? = some n →
      n.localWrite stmts = .ok (n', some (ver, chs)) → (stepB c op).log = ((n.id, ver), chs) :: c.log →
      WriteAgrees n.db stmts → P c.log i n (c.R i) → P (((n.id, ver), chs) :: c.log) i n' (chs ++ c.R i))
    (grow : ∀ i stmts n n' ver chs, c.nodes[i]? = some n →
      n.localWrite stmts = .ok (n', some (ver, chs)) → (stepB c op).log = ((n.id, ver), chs) :: c.log →
      ∀ j m, i ≠ j → c.nodes[j]? = some m → P c.log j m (c.R j) → P (((n.id, ver), chs) :: c.log) j m (c.R j))
    (origin : ∀ site ver lo hi, c.log.has site ver = true → Src c.log (originItem c.log site ver lo hi))
    (answer : ∀ i j batches ni nj, op = .syncB i j batches → c.nodes[i]? = some ni → c.nodes[j]? = some nj →
      ∀ it ∈ answers ni nj, Src c.log it)
    (deliver : ∀ i n R batch, P c.log i n R → (∀ it ∈ batch, Src c.log it) →
      P c.log i (n.deliver batch) (mergedByBatch n batch ++ R))
    (kill : ∀ i n, op = .kill i → P c.log i n (c.R i) → P c.log i n.kill (c.R i))
    (restart : ∀ i n, op = .restart i → P c.log i n (c.R i) → P c.log i n.restart (restartMerged n ++ c.R i)) :
    AllNodes k (P (stepB c op).log) (stepB c op) := by
  cases stepBCase c op with
  | same h' => rw [h']; exact h
  | write i stmts n n' ver chs hop hi hw h' =>
    have hlog : (stepB c op).log = ((n.id, ver), chs) :: c.log := by rw [h']; rfl
    rw [h']
    subst hop
    exact h.set hi _ (n', _) (write i stmts n n' ver chs hi hw hlog (opOK_write hok hi) (h.node i n hi))
      (grow i stmts n n' ver chs hi hw hlog)
  | origins i chunks n _ hi h' =>
    rw [h']
    refine h.set hi c.log (_, _) (deliver i n _ _ (h.node i n hi) ?_) (fun _ _ _ _ h => h)
    intro it hit
    obtain ⟨site, ver, lo, hi, hhas, rfl⟩ := mem_originBatch hit
    exact origin site ver lo hi hhas
  | sync i j batches ni nj hop _ hi hj h' =>
    rw [h']
    refine h.set hi c.log _ (deliverB_foldl_inv (P c.log i) _ ni (c.R i) (h.node i ni hi) ?_) (fun _ _ _ _ h => h)
    intro b hb n R hP
    refine deliver i n R b hP ?_
    intro it hit
    obtain ⟨ps, _, rfl⟩ := List.mem_map.mp hb
    rcases mem_pickBatch hit with h1 | ⟨site, ver, lo, hi, hhas, rfl⟩
    · exact answer i j batches ni nj hop hi hj it h1
    · exact origin site ver lo hi hhas
  | kill i n hop hi h' =>
    rw [h']
    exact h.set hi c.log (_, _) (kill i n hop (h.node i n hi)) (fun _ _ _ _ h => h)
  | restart i n hop hi h' =>
    rw [h']
    exact h.set hi c.log (_, _) (restart i n hop (h.node i n hi)) (fun _ _ _ _ h => h)

theorem deliverB_id (n : Node) (batch : List Item) : (n.deliver batch).id = n.id :=
  (deliver_rel (fun n n' => n'.id = n.id) (fun _ => rfl) (fun h1 h2 => h2.trans h1) bumpDbv_id mergeChanges_id bufferChunk_id (fun _ _ => rfl)
    (fun _ _ _ _ => rfl) applyBuffered_id n batch).2

theorem syncB_log (c : Cluster) (i j : Nat) (batches : List (List Pick)) :
    (stepB c (.syncB i j batches)).log = c.log := by
  rw [stepB_syncB]
  split
  · split <;> rfl
  · rfl

end Corro.ClusterSys
