/-
The `query` table as a keyed set: `upsertOne`, `deleteOne` and the per-table `pass` of
`handle_candidates` replace exactly the slice of the candidate keys, and the events they emit carry
the client's copy along.
-/
import Corro.Model.Ivm

namespace Corro.Ivm

/-- a key value of a stored row: not NULL and not the empty string (which `coalesce(pk, "")`
cannot tell from NULL) -/
def CleanVal (v : Val) : Prop := v ≠ .null ∧ v ≠ .text []
/-- a primary key of a stored row: non-empty, every value clean -/
def CleanKey (k : Key) : Prop := k ≠ [] ∧ ∀ v ∈ k, CleanVal v
/-- the key columns of a result row: stored key values or NULLs, never the empty string -/
def Proper (pks : List Key) : Prop := ∀ k ∈ pks, ∀ v ∈ k, v ≠ .text []

theorem map_inj_of_mem {α β} {f : α → β} {P : α → Prop} (hf : ∀ a b, P a → P b → f a = f b → a = b)
    {l l' : List α} (hl : ∀ a ∈ l, P a) (hl' : ∀ a ∈ l', P a) (h : l.map f = l'.map f) : l = l' := by
  induction l generalizing l' with
  | nil => cases l' <;> first | rfl | cases h
  | cons a l ih => cases l' with
    | nil => cases h
    | cons b l' =>
      rw [List.forall_mem_cons] at hl hl'
      rw [List.map_cons, List.map_cons, List.cons.injEq] at h
      rw [hf a b hl.1 hl'.1 h.1, ih hl.2 hl'.2 h.2]

theorem eq_of_pairwise_ne {α β} {f : α → β} {l : List α} (h : l.Pairwise fun a b => f a ≠ f b) {a b : α}
    (ha : a ∈ l) (hb : b ∈ l) (hk : f a = f b) : a = b := by
  induction h with
  | nil => cases ha
  | cons hx _ ih =>
    rcases List.mem_cons.mp ha with rfl | ha' <;> rcases List.mem_cons.mp hb with rfl | hb'
    · rfl
    · exact absurd hk (hx b hb')
    · exact absurd hk.symm (hx a ha')
    · exact ih ha' hb'

theorem coal_inj {a b : Val} (ha : a ≠ .text []) (hb : b ≠ .text []) (h : coal a = coal b) : a = b := by
  -- `coal` only moves NULL to `''`, and neither side is `''`
  unfold coal at h
  split at h <;> split at h <;> simp_all

theorem coalKey_inj {a b : Key} : (∀ v ∈ a, v ≠ .text []) → (∀ v ∈ b, v ≠ .text []) → coalKey a = coalKey b → a = b :=
  map_inj_of_mem fun _ _ => coal_inj

theorem ckey_inj {a b : List Key} : Proper a → Proper b → ckey a = ckey b → a = b :=
  map_inj_of_mem (P := fun k : Key => ∀ v ∈ k, v ≠ Val.text []) fun _ _ => coalKey_inj

theorem coalKey_clean {k : Key} (h : ∀ v ∈ k, CleanVal v) : coalKey k = k :=
  (List.map_congr_left fun v hv => if_neg (h v hv).1).trans (List.map_id k)

/-- structural invariant of the materialised table -/
structure StOk (st : State) : Prop where
  keys : st.rows.Pairwise (fun a b => a.pks ≠ b.pks)
  proper : ∀ m ∈ st.rows, Proper m.pks
  rowids : st.rows.Pairwise (fun a b => a.rowid ≠ b.rowid)
  bound : ∀ m ∈ st.rows, m.rowid < st.nextRowid
  last : st.lastRowid < st.nextRowid

/-- the materialised rows as keyed result rows -/
def State.outs (st : State) : List Out := st.rows.map MRow.out

variable {st : State}

theorem mem_outs {o : Out} : o ∈ st.outs ↔ ∃ m ∈ st.rows, m.out = o := by
  simp [State.outs]

theorem mem_view {v : Nat × List Val} : v ∈ st.view ↔ ∃ m ∈ st.rows, (m.rowid, m.cells) = v := by
  simp [State.view]

theorem StOk.push {st' : State} (h : StOk st) {o : Out} (ho : Proper o.pks) (hnew : ∀ m ∈ st.rows, m.pks ≠ o.pks)
    (hr : st'.rows = st.rows ++ [⟨st.nextRowid, o.pks, o.cells⟩]) (hn : st'.nextRowid = st.nextRowid + 1)
    (hl : st'.lastRowid ≤ st.nextRowid) : StOk st' where
  keys := by
    rw [hr, List.pairwise_append]
    exact ⟨h.keys, List.pairwise_singleton .., fun a ha b hb => List.mem_singleton.mp hb ▸ hnew a ha⟩
  proper := by
    rw [hr, List.forall_mem_append, List.forall_mem_singleton]
    exact ⟨h.proper, ho⟩
  rowids := by
    rw [hr, List.pairwise_append]
    exact ⟨h.rowids, List.pairwise_singleton .., fun a ha b hb => List.mem_singleton.mp hb ▸ Nat.ne_of_lt (h.bound a ha)⟩
  bound := by
    rw [hr, hn, List.forall_mem_append, List.forall_mem_singleton]
    exact ⟨fun m hm => Nat.lt_succ_of_lt (h.bound m hm), Nat.lt_succ_self _⟩
  last := hn ▸ Nat.lt_succ_of_le hl

/-- the change ids of the events are `n, n + 1, …` -/
def Consec : Nat → List Event → Prop
  | _, [] => True
  | n, e :: es => e.id = n ∧ Consec (n + 1) es

theorem consec_append (a b : List Event) (n : Nat) (ha : Consec n a) (hb : Consec (n + a.length) b) : Consec n (a ++ b) := by
  induction a generalizing n with
  | nil => exact hb
  | cons x xs ih => exact ⟨ha.1, ih (n + 1) ha.2 (by rwa [Nat.add_assoc, Nat.add_comm 1])⟩

/-- Only `emit` writes `events` and `nextId`, so whatever the state every piece of `handle_candidates` appends
events numbered consecutively from `nextId`. -/
def Emits (st st' : State) : Prop :=
  ∃ ex, st'.events = st.events ++ ex ∧ Consec st.nextId ex ∧ st'.nextId = st.nextId + ex.length

theorem Emits.of_eq {st' : State} (he : st'.events = st.events) (hn : st'.nextId = st.nextId) : Emits st st' :=
  ⟨[], by rw [he, List.append_nil], trivial, hn⟩

theorem Emits.trans {a b c : State} : Emits a b → Emits b c → Emits a c
  | ⟨x, e1, c1, n1⟩, ⟨y, e2, c2, n2⟩ =>
    ⟨x ++ y, by rw [e2, e1, List.append_assoc], consec_append x y _ c1 (n1 ▸ c2),
      by rw [n2, n1, List.length_append, Nat.add_assoc]⟩

theorem emits_emit {st1 : State} (he : st1.events = st.events) (hn : st1.nextId = st.nextId) (k : Kind) (rid : Nat)
    (cells : List Val) : Emits st (emit st1 k rid cells) :=
  ⟨[⟨k, rid, cells, st.nextId⟩], by simp only [emit, he, hn], ⟨rfl, trivial⟩, by simp only [emit, hn, List.length_singleton]⟩

theorem emits_foldl {β} {f : State → β → State} (h : ∀ s b, Emits s (f s b)) (l : List β) (st : State) :
    Emits st (l.foldl f st) := by
  induction l generalizing st with
  | nil => exact .of_eq rfl rfl
  | cons b r ih => exact (h st b).trans (ih _)

/-- two client views hold the same rows (the order is the client's business) -/
def SameSet (a b : View) : Prop := ∀ x, x ∈ a ↔ x ∈ b

theorem SameSet.rfl' (a : View) : SameSet a a := fun _ => Iff.rfl

theorem mem_applyEvent {v : View} {e : Event} {x : Nat × List Val} : x ∈ applyEvent v e ↔
    (x ∈ v ∧ x.1 ≠ e.rowid) ∨
      (x = (e.rowid, e.cells) ∧ (e.kind = .insert ∨ e.kind = .update ∧ ∃ y ∈ v, y.1 = e.rowid)) := by
  unfold applyEvent
  cases e.kind <;> simp only [List.mem_append, List.mem_filter, List.mem_map, List.mem_singleton, decide_eq_true_eq,
    reduceCtorEq, true_and, false_and, false_or, or_false, and_true, and_false]
  case update =>
    constructor
    · rintro ⟨y, hy, rfl⟩
      by_cases hr : y.1 = e.rowid
      · exact Or.inr ⟨if_pos hr, y, hy, hr⟩
      · exact Or.inl ⟨by rwa [if_neg hr], by rwa [if_neg hr]⟩
    · rintro (⟨hx, hr⟩ | ⟨rfl, y, hy, hr⟩)
      · exact ⟨x, hx, if_neg hr⟩
      · exact ⟨y, hy, if_pos hr⟩

theorem replay_congr (es : List Event) {a b : View} (h : SameSet a b) : SameSet (replay a es) (replay b es) := by
  induction es generalizing a b with
  | nil => exact h
  | cons e es ih => exact ih fun x => by simp only [mem_applyEvent, h _]

/-- `st'` is `st` after a piece of `handle_candidates` that emitted `ex`: the table is still well
formed and the client's view follows.  `rowids` and `mono` are carried for the
end of the batch, where `last_rowid` is set to the largest rowid emitted and has to stay below the
counter (`step_mechanics`). -/
structure Trans (st st' : State) (ex : List Event) : Prop where
  ok : StOk st'
  events : st'.events = st.events ++ ex
  view : SameSet (replay st.view ex) st'.view
  rowids : ∀ e ∈ ex, e.rowid < st'.nextRowid
  mono : st.nextRowid ≤ st'.nextRowid

theorem Trans.refl (h : StOk st) : Trans st st [] :=
  ⟨h, (List.append_nil _).symm, SameSet.rfl' _, nofun, Nat.le_refl _⟩

theorem Trans.trans {a b c : State} {x y : List Event} (h1 : Trans a b x) (h2 : Trans b c y) : Trans a c (x ++ y) where
  ok := h2.ok
  events := by rw [h2.events, h1.events, List.append_assoc]
  view := fun v => by
    rw [replay, List.foldl_append]
    exact (replay_congr y h1.view v).trans (h2.view v)
  rowids := fun e he => (List.mem_append.mp he).elim (fun h => Nat.lt_of_lt_of_le (h1.rowids e h) h2.mono) (h2.rowids e)
  mono := Nat.le_trans h1.mono h2.mono

theorem trans_emit {st1 : State} {k : Kind} {rid : Nat} {cells : List Val} (hok : StOk st1)
    (hev : st1.events = st.events) (hid : st1.nextId = st.nextId)
    (hview : SameSet (applyEvent st.view ⟨k, rid, cells, st.nextId⟩) st1.view)
    (hrid : rid < st1.nextRowid) (hmono : st.nextRowid ≤ st1.nextRowid) :
    Trans st (emit st1 k rid cells) [⟨k, rid, cells, st.nextId⟩] where
  -- `emit` writes the events and the id counter, which no clause of `StOk` reads: each field of `hok` fits
  -- `emit st1 …` by reduction, `hok : StOk st1` as a whole does not
  ok := ⟨hok.keys, hok.proper, hok.rowids, hok.bound, hok.last⟩
  events := by simp only [emit, hev, hid]
  view := hview
  rowids := fun e he => List.mem_singleton.mp he ▸ hrid
  mono := hmono

/-- `o`'s cells on the rows of `o`'s key -/
def setCells (o : Out) (x : MRow) : MRow :=
  if ckey x.pks = ckey o.pks then { x with cells := o.cells } else x

theorem upsertOne_eq (st : State) (o : Out) : upsertOne st o =
    match st.rows.find? (fun m => ckey m.pks = ckey o.pks) with
    | some m =>
      if m.cells = o.cells then st
      else emit { st with rows := st.rows.map (setCells o) }
        (if m.rowid > st.lastRowid then .insert else .update) m.rowid o.cells
    | none =>
      emit { st with rows := st.rows ++ [⟨st.nextRowid, o.pks, o.cells⟩], nextRowid := st.nextRowid + 1 }
        (if st.nextRowid > st.lastRowid then .insert else .update) st.nextRowid o.cells := rfl

theorem emits_upsertOne (st : State) (o : Out) : Emits st (upsertOne st o) := by
  rw [upsertOne_eq]
  split
  · split
    · exact .of_eq rfl rfl
    · exact emits_emit rfl rfl ..
  · exact emits_emit rfl rfl ..

theorem emits_pass (q : Query) (db : Db) (st : State) (i : Nat) (ks : List Key) : Emits st (pass q db st i ks) :=
  (emits_foldl emits_upsertOne _ st).trans
    (emits_foldl (f := deleteOne) (fun s _ => emits_emit (st1 := { s with rows := _ }) rfl rfl ..) _ _)

/-- Putting `o` under rowid `rid`: `st1` is `st` with the row `(rid, o.pks, o.cells)` in place of the rows
of key `o.pks` (`hrows`), `rid` being the rowid of that key where it has one (`hrid`), and the event `k` is
an update only of a rowid the client has (`hk`).  Then emitting `k` is a `Trans` of one event and `o`
replaces the outputs of its key.  The two branches of `upsertOne` are instances. -/
theorem put_spec {st1 : State} {o : Out} {rid : Nat} {k : Kind} (hok : StOk st1)
    (hev : st1.events = st.events) (hid : st1.nextId = st.nextId) (hmono : st.nextRowid ≤ st1.nextRowid)
    (hrows : ∀ y, y ∈ st1.rows ↔ y = ⟨rid, o.pks, o.cells⟩ ∨ (y ∈ st.rows ∧ y.pks ≠ o.pks))
    (hrid : ∀ y ∈ st.rows, y.rowid = rid ↔ y.pks = o.pks)
    (hk : k = .insert ∨ k = .update ∧ ∃ y ∈ st.rows, y.rowid = rid) :
    (∃ ex, Trans st (emit st1 k rid o.cells) ex) ∧
      ∀ x, x ∈ (emit st1 k rid o.cells).outs ↔ x = o ∨ (x ∈ st.outs ∧ x.pks ≠ o.pks) := by
  refine ⟨⟨_, trans_emit hok hev hid (fun v => ?_) ?_ hmono⟩, fun x => ?_⟩
  · have hk' : k = .insert ∨ k = .update ∧ ∃ y ∈ st.view, y.1 = rid :=
      hk.imp_right fun ⟨hu, y, hy, hr⟩ => ⟨hu, _, mem_view.mpr ⟨y, hy, rfl⟩, hr⟩
    simp only [mem_applyEvent, hk', and_true]
    simp only [mem_view, hrows]
    constructor
    · rintro (⟨⟨y, hy, rfl⟩, hr⟩ | rfl)
      · exact ⟨y, Or.inr ⟨hy, fun hp => hr ((hrid y hy).mpr hp)⟩, rfl⟩
      · exact ⟨_, Or.inl rfl, rfl⟩
    · rintro ⟨y, rfl | ⟨hy, hp⟩, rfl⟩
      · exact Or.inr rfl
      · exact Or.inl ⟨⟨y, hy, rfl⟩, fun hr => hp ((hrid y hy).mp hr)⟩
  · exact hok.bound _ ((hrows _).mpr (Or.inl rfl))
  · show x ∈ st1.outs ↔ _
    simp only [mem_outs, hrows]
    constructor
    · rintro ⟨y, rfl | ⟨hy, hp⟩, rfl⟩
      · exact Or.inl rfl
      · exact Or.inr ⟨⟨y, hy, rfl⟩, hp⟩
    · rintro (rfl | ⟨⟨y, hy, rfl⟩, hp⟩)
      · exact ⟨_, Or.inl rfl, rfl⟩
      · exact ⟨y, Or.inr ⟨hy, hp⟩, rfl⟩

theorem upsertOne_spec (h : StOk st) {o : Out} (ho : Proper o.pks) :
    (∃ ex, Trans st (upsertOne st o) ex) ∧
      ∀ x, x ∈ (upsertOne st o).outs ↔ x = o ∨ (x ∈ st.outs ∧ x.pks ≠ o.pks) := by
  rw [upsertOne_eq]
  split
  · rename_i m hf
    have hm : m ∈ st.rows := List.mem_of_find?_eq_some hf
    have hpk : m.pks = o.pks := ckey_inj (h.proper m hm) ho (by simpa using List.find?_some hf)
    have hkey : ∀ y ∈ st.rows, y.pks = o.pks → y = m := fun y hy hp =>
      eq_of_pairwise_ne h.keys hy hm (hp.trans hpk.symm)
    split
    · rename_i hc
      refine ⟨⟨[], Trans.refl h⟩, fun x => ⟨fun hx => ?_, ?_⟩⟩
      · obtain ⟨y, hy, rfl⟩ := mem_outs.mp hx
        by_cases hp : y.pks = o.pks
        · exact Or.inl (by rw [hkey y hy hp, MRow.out, hpk, hc])
        · exact Or.inr ⟨hx, hp⟩
      · rintro (rfl | ⟨hx, _⟩)
        · exact mem_outs.mpr ⟨m, hm, by rw [MRow.out, hpk, hc]⟩
        · exact hx
    · have hfp : ∀ y, (setCells o y).pks = y.pks := fun y => by unfold setCells; split <;> rfl
      have hfr : ∀ y, (setCells o y).rowid = y.rowid := fun y => by unfold setCells; split <;> rfl
      refine put_spec ⟨?_, ?_, ?_, ?_, h.last⟩ rfl rfl (Nat.le_refl _) (fun y' => ?_) (fun y hy => ?_)
        (by
          by_cases hgt : m.rowid > st.lastRowid
          · exact Or.inl (if_pos hgt)
          · exact Or.inr ⟨if_neg hgt, m, hm, rfl⟩)
      · exact List.pairwise_map.mpr (h.keys.imp fun hab => by rwa [hfp, hfp])
      · exact List.forall_mem_map.mpr fun y hy => hfp y ▸ h.proper y hy
      · exact List.pairwise_map.mpr (h.rowids.imp fun hab => by rwa [hfr, hfr])
      · exact List.forall_mem_map.mpr fun y hy => hfr y ▸ h.bound y hy
      · show y' ∈ st.rows.map (setCells o) ↔ _
        rw [List.mem_map]
        constructor
        · rintro ⟨y, hy, rfl⟩
          unfold setCells
          split
          · rename_i hc
            have hp := ckey_inj (h.proper y hy) ho hc
            rw [hkey y hy hp, hpk]
            exact Or.inl rfl
          · rename_i hc
            exact Or.inr ⟨hy, fun hp => hc (by rw [hp])⟩
        · rintro (rfl | ⟨hy, hp⟩)
          · exact ⟨m, hm, by rw [setCells, if_pos (by rw [hpk]), hpk]⟩
          · exact ⟨y', hy, if_neg fun hc => hp (ckey_inj (h.proper y' hy) ho hc)⟩
      · exact ⟨fun hr => eq_of_pairwise_ne h.rowids hy hm hr ▸ hpk, fun hp => hkey y hy hp ▸ rfl⟩
  · rename_i hf
    have hnone : ∀ m ∈ st.rows, m.pks ≠ o.pks := fun m hm he => by
      simpa [he] using List.find?_eq_none.mp hf m hm
    refine put_spec (h.push ho hnone rfl rfl (Nat.le_of_lt h.last)) rfl rfl (Nat.le_succ _) (fun y => ?_) (fun y hy => ?_)
      (Or.inl (if_pos h.last))
    · show y ∈ st.rows ++ [_] ↔ _
      rw [List.mem_append, List.mem_singleton, Or.comm]
      exact or_congr_right ⟨fun hy => ⟨hy, hnone y hy⟩, And.left⟩
    · exact ⟨fun hr => absurd hr (Nat.ne_of_lt (h.bound y hy)), fun hp => absurd hp (hnone y hy)⟩

theorem deleteOne_spec (h : StOk st) {m : MRow} (hm : m ∈ st.rows) :
    Trans st (deleteOne st m) [⟨.delete, m.rowid, m.cells, st.nextId⟩] ∧
      ∀ y, y ∈ (deleteOne st m).rows ↔ y ∈ st.rows ∧ y ≠ m := by
  refine ⟨trans_emit ⟨h.keys.sublist List.filter_sublist, fun y hy => h.proper y (List.mem_filter.mp hy).1,
      h.rowids.sublist List.filter_sublist, fun y hy => h.bound y (List.mem_filter.mp hy).1, h.last⟩
      rfl rfl (fun v => ?_) (h.bound m hm) (Nat.le_refl _), fun y => ?_⟩
  · simp only [mem_applyEvent, reduceCtorEq, false_and, or_false, and_false, mem_view, List.mem_filter, decide_eq_true_eq]
    constructor
    · rintro ⟨⟨y, hy, rfl⟩, hr⟩
      exact ⟨y, ⟨hy, hr⟩, rfl⟩
    · rintro ⟨y, ⟨hy, hr⟩, rfl⟩
      exact ⟨⟨y, hy, rfl⟩, hr⟩
  · simp only [deleteOne, emit, List.mem_filter, decide_eq_true_eq]
    exact and_congr_right fun hy => ⟨fun hr e => hr (e ▸ rfl), fun hne hr => hne (eq_of_pairwise_ne h.rowids hy hm hr)⟩

theorem upsertFold_spec (os : List Out) (h : StOk st) (hp : ∀ o ∈ os, Proper o.pks)
    (hf : ∀ o ∈ os, ∀ o' ∈ os, o.pks = o'.pks → o = o') :
    (∃ ex, Trans st (os.foldl upsertOne st) ex) ∧
      ∀ x, x ∈ (os.foldl upsertOne st).outs ↔ x ∈ os ∨ (x ∈ st.outs ∧ ∀ o ∈ os, x.pks ≠ o.pks) := by
  induction os generalizing st with
  | nil => exact ⟨⟨[], Trans.refl h⟩, by simp⟩
  | cons o rest ih =>
    rw [List.forall_mem_cons] at hp
    obtain ⟨⟨ex1, t1⟩, m1⟩ := upsertOne_spec h hp.1
    obtain ⟨⟨ex2, t2⟩, m2⟩ := ih t1.ok hp.2
      fun a ha b hb => hf a (List.mem_cons_of_mem _ ha) b (List.mem_cons_of_mem _ hb)
    refine ⟨⟨_, t1.trans t2⟩, fun x => ?_⟩
    rw [List.foldl_cons, m2 x, m1 x, List.mem_cons, List.forall_mem_cons]
    constructor
    · rintro (hx | ⟨rfl | ⟨hx, hne⟩, hall⟩)
      · exact Or.inl (Or.inr hx)
      · exact Or.inl (Or.inl rfl)
      · exact Or.inr ⟨hx, hne, hall⟩
    · rintro ((rfl | hx) | ⟨hx, hne, hall⟩)
      · -- `x` itself was written; a later row of `rest` with its key can only be `x` again
        by_cases hdup : ∃ o' ∈ rest, x.pks = o'.pks
        · obtain ⟨o', ho', hpk⟩ := hdup
          exact Or.inl (hf x (List.mem_cons_self ..) o' (List.mem_cons_of_mem _ ho') hpk ▸ ho')
        · exact Or.inr ⟨Or.inl rfl, fun o' ho' hpk => hdup ⟨o', ho', hpk⟩⟩
      · exact Or.inl hx
      · exact Or.inr ⟨Or.inr ⟨hx, hne⟩, hall⟩

theorem deleteFold_spec (D : List MRow) (h : StOk st) (hmem : ∀ m ∈ D, m ∈ st.rows) (hnd : D.Nodup) :
    (∃ ex, Trans st (D.foldl deleteOne st) ex) ∧ ∀ y, y ∈ (D.foldl deleteOne st).rows ↔ y ∈ st.rows ∧ y ∉ D := by
  induction D generalizing st with
  | nil => exact ⟨⟨[], Trans.refl h⟩, by simp⟩
  | cons m rest ih =>
    rw [List.forall_mem_cons] at hmem
    rw [List.nodup_cons] at hnd
    obtain ⟨t1, r1⟩ := deleteOne_spec h hmem.1
    obtain ⟨⟨ex2, t2⟩, r2⟩ := ih t1.ok
      (fun y hy => (r1 y).mpr ⟨hmem.2 y hy, fun e => hnd.1 (e ▸ hy)⟩) hnd.2
    refine ⟨⟨_, t1.trans t2⟩, fun y => ?_⟩
    rw [List.foldl_cons, r2 y, r1 y, List.mem_cons, not_or, and_assoc]

/-- the result row lies in the slice of the candidate keys of FROM position `i` -/
def sliceOut (i : Nat) (ks : List Key) (o : Out) : Prop := coalKey (o.pks.getD i []) ∈ ks.map coalKey

theorem inSlice_iff (i : Nat) (ks : List Key) (m : MRow) : inSlice i ks m = true ↔ sliceOut i ks m.out := by
  simp [inSlice, sliceOut, MRow.out]

/-- `state_results EXCEPT old rows`, for the result `res` of the rewritten statement -/
def fresh (res : List Out) (st : State) (i : Nat) (ks : List Key) : List Out :=
  res.filter fun o => !((st.rows.filter (inSlice i ks)).any fun m => m.out = o)

/-- the rows whose key is in `old rows EXCEPT state_results` -/
def gone (res : List Out) (st : State) (i : Nat) (ks : List Key) : List MRow :=
  st.rows.filter fun m => decide (ckey m.pks ∈
    ((st.rows.filter (inSlice i ks)).filter fun m => !(res.any fun o => m.out = o)).map fun m => ckey m.pks)

/-- `pass` with the result of the rewritten statement made a parameter -/
def passCore (res : List Out) (st : State) (i : Nat) (ks : List Key) : State :=
  let st1 := (fresh res st i ks).foldl upsertOne st
  (gone res st1 i ks).foldl deleteOne st1

variable {res : List Out} {i : Nat} {ks : List Key}

theorem pass_eq (q : Query) (db : Db) (st : State) (i : Nat) (ks : List Key) :
    pass q db st i ks = passCore (evalKeyed (stmtFor q i ks) db) st i ks := rfl

theorem mem_fresh (hs : ∀ o ∈ res, sliceOut i ks o) {o : Out} :
    o ∈ fresh res st i ks ↔ o ∈ res ∧ o ∉ st.outs := by
  simp only [fresh, List.mem_filter, Bool.not_eq_true', List.any_eq_false, decide_eq_true_eq, mem_outs, not_exists, not_and]
  exact and_congr_right fun ho => forall_congr' fun m =>
    ⟨fun hn hm hmo => hn ⟨hm, (inSlice_iff i ks m).mpr (hmo ▸ hs o ho)⟩ hmo, fun hn hm => hn hm.1⟩

theorem mem_gone (h : StOk st) {m : MRow} :
    m ∈ gone res st i ks ↔ m ∈ st.rows ∧ sliceOut i ks m.out ∧ m.out ∉ res := by
  simp only [gone, List.mem_filter, List.mem_map, Bool.not_eq_true', List.any_eq_false, decide_eq_true_eq]
  refine and_congr_right fun hm => ⟨?_, fun ⟨hsl, hn⟩ => ⟨m, ⟨⟨hm, (inSlice_iff i ks m).mpr hsl⟩, fun o ho hmo => hn (hmo ▸ ho)⟩, rfl⟩⟩
  rintro ⟨g, ⟨⟨hg, hsl⟩, hn⟩, hk⟩
  have : g = m := eq_of_pairwise_ne h.keys hg hm (ckey_inj (h.proper g hg) (h.proper m hm) hk)
  exact this ▸ ⟨(inSlice_iff i ks g).mp hsl, fun hin => hn _ hin rfl⟩

theorem passCore_spec (h : StOk st)
    (hp : ∀ o ∈ res, Proper o.pks) (hf : ∀ o ∈ res, ∀ o' ∈ res, o.pks = o'.pks → o = o')
    (hs : ∀ o ∈ res, sliceOut i ks o) :
    (∃ ex, Trans st (passCore res st i ks) ex) ∧
      ∀ x, x ∈ (passCore res st i ks).outs ↔ x ∈ res ∨ (x ∈ st.outs ∧ ¬ sliceOut i ks x) := by
  obtain ⟨⟨ex1, t1⟩, m1⟩ := upsertFold_spec (fresh res st i ks) h (fun o ho => hp o ((mem_fresh hs).mp ho).1)
    fun a ha b hb => hf a ((mem_fresh hs).mp ha).1 b ((mem_fresh hs).mp hb).1
  obtain ⟨⟨ex2, t2⟩, r2⟩ := deleteFold_spec (gone res ((fresh res st i ks).foldl upsertOne st) i ks) t1.ok
    (fun m hm => ((mem_gone t1.ok).mp hm).1) ((t1.ok.keys.imp fun hab e => hab (congrArg MRow.pks e)).sublist List.filter_sublist)
  refine ⟨⟨_, t1.trans t2⟩, fun x => ?_⟩
  -- after the upserts `x` is there iff it is in `res` or was there under a key `res` does not have;
  -- the deletes then keep it iff it is outside the slice or in `res`
  have hx : x ∈ (passCore res st i ks).outs ↔
      (x ∈ fresh res st i ks ∨ (x ∈ st.outs ∧ ∀ o ∈ fresh res st i ks, x.pks ≠ o.pks)) ∧ (sliceOut i ks x → x ∈ res) := by
    rw [← m1 x]
    simp only [passCore, mem_outs, r2, mem_gone t1.ok]
    constructor
    · rintro ⟨y, ⟨hy, hn⟩, rfl⟩
      exact ⟨⟨y, hy, rfl⟩, fun hsl => Classical.byContradiction fun hr => hn ⟨hy, hsl, hr⟩⟩
    · rintro ⟨⟨y, hy, rfl⟩, hk⟩
      exact ⟨y, ⟨hy, fun hg => hg.2.2 (hk hg.2.1)⟩, rfl⟩
  rw [hx]
  constructor
  · rintro ⟨hfr | ⟨hin, _⟩, hk⟩
    · exact Or.inl ((mem_fresh hs).mp hfr).1
    · by_cases hsl : sliceOut i ks x
      · exact Or.inl (hk hsl)
      · exact Or.inr ⟨hin, hsl⟩
  · rintro (hr | ⟨hin, hsl⟩)
    · refine ⟨?_, fun _ => hr⟩
      by_cases hin : x ∈ st.outs
      · exact Or.inr ⟨hin, fun o ho hpk => ((mem_fresh hs).mp ho).2 (hf x hr o ((mem_fresh hs).mp ho).1 hpk ▸ hin)⟩
      · exact Or.inl ((mem_fresh hs).mpr ⟨hr, hin⟩)
    · refine ⟨Or.inr ⟨hin, fun o ho hpk => hsl ?_⟩, fun h => absurd h hsl⟩
      have := hs o ((mem_fresh hs).mp ho).1
      rwa [sliceOut, ← hpk] at this

theorem passCore_noop (h : StOk st)
    (hres : ∀ x, x ∈ res ↔ x ∈ st.outs ∧ sliceOut i ks x) : passCore res st i ks = st := by
  have hfresh : fresh res st i ks = [] := List.eq_nil_iff_forall_not_mem.mpr fun o ho =>
    have ho := (mem_fresh fun o ho => ((hres o).mp ho).2).mp ho
    ho.2 ((hres o).mp ho.1).1
  have hgone : gone res st i ks = [] := List.eq_nil_iff_forall_not_mem.mpr fun m hm =>
    have hm := (mem_gone h).mp hm
    hm.2.2 ((hres _).mpr ⟨mem_outs.mpr ⟨m, hm.1, rfl⟩, hm.2.1⟩)
  simp only [passCore, hfresh, List.foldl_nil, hgone]

end Corro.Ivm
