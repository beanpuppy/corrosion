/-
What `filterChanges` computes, that a run which leaves room in the cache never evicts (the sufficient
condition for the horizon hypothesis of C14), and the pieces of the eviction counterexample for every
capacity.
-/
import Corro.Lemmas.UpdatesInv

namespace Corro.Updates

theorem filter_fold_spec (k : Nat) : ∀ (cs : List Change) (acc : List Cand),
    lookup k (cs.foldl filterOne acc) =
      (lookup k acc).orElse (fun _ => (cs.find? (fun c => c.mine && c.key == k)).map (·.cl)) := by
  intro cs
  induction cs with
  | nil =>
    intro acc
    simp only [List.foldl_nil, List.find?_nil, Option.map_none]
    cases lookup k acc <;> rfl
  | cons c rest ih =>
    intro acc
    simp only [List.foldl_cons, ih, List.find?_cons]
    unfold filterOne
    cases hm : c.mine with
    | false => simp
    | true =>
      simp only [if_true, Bool.true_and]
      by_cases hk : c.key = k
      · subst hk
        simp only [beq_self_eq_true]
        cases hl : lookup c.key acc with
        | some v => simp [hl]
        | none => simp [hl, lookup_append, lookup]
      · have hb : (c.key == k) = false := by simp [hk]
        simp only [hb]
        cases hl : lookup c.key acc with
        | some v => simp
        | none =>
          simp only [Option.isSome_none, Bool.false_eq_true, if_false, lookup_append, lookup, hk, if_false]
          cases lookup k acc <;> simp

theorem filter_fold_nodup : ∀ (cs : List Change) (acc : List Cand),
    (acc.map (·.1)).Nodup → ((cs.foldl filterOne acc).map (·.1)).Nodup := by
  intro cs
  induction cs with
  | nil => intro acc h; exact h
  | cons c rest ih =>
    intro acc h
    simp only [List.foldl_cons]
    apply ih
    unfold filterOne
    split
    · split
      · exact h
      · rename_i hn
        rw [List.map_append, List.nodup_append]
        refine ⟨h, by simp, ?_⟩
        intro a ha b hb
        simp only [List.map_cons, List.map_nil, List.mem_singleton] at hb
        subst hb; intro e; subst e
        exact hn ((lookup_isSome_iff_mem_keys _ _).2 ha)
    · exact h

theorem clsOf_getLast (k : Key) (es : List Event) (m : Nat)
    (h : (clsOf k es).getLast? = some m) : ∃ e, lastEventOf k es = some e ∧ e.cl = m := by
  unfold clsOf at h; unfold lastEventOf
  rw [List.getLast?_map] at h
  cases hl : (es.filter (·.key = k)).getLast? with
  | none => rw [hl] at h; simp at h
  | some e => rw [hl] at h; simp only [Option.map_some, Option.some.injEq] at h; exact ⟨e, rfl, h⟩

theorem folded_length_le (s : St) (x : In) :
    (folded s x).cache.length ≤ s.cache.length + candCount [x] := by
  cases x with
  | tick => exact Nat.le_add_right _ _
  | batch b =>
    simp only [folded, candCount, Nat.add_zero]
    induction b generalizing s with
    | nil => exact Nat.le_refl _
    | cons c rest ih =>
      have h2 : (pushCand s c).cache.length ≤ s.cache.length + 1 := by
        unfold pushCand; split
        · exact Nat.le_add_right _ _
        · exact length_upsert_le _ _ _
      have h1 := ih (pushCand s c)
      simp only [List.foldl_cons, List.length_cons]; omega

theorem keptStep_of_room {p : Params} {k : Nat} {s : St} (x : In)
    (hroom : (folded s x).cache.length ≤ p.cap) : keptStep p k s x := by
  intro h
  obtain ⟨n, _, e, hn⟩ := arm_eq p s x
  rw [cached, step_cache, e, hn hroom]
  exact folded_cached x h

theorem step_cache_length_le (p : Params) (s : St) (x : In) :
    (step p s x).1.cache.length ≤ (folded s x).cache.length := by
  obtain ⟨n, _, e, _⟩ := arm_eq p s x
  rw [step_cache, e]
  exact List.length_drop ▸ Nat.sub_le _ _

theorem kept_of_room (p : Params) (k : Nat) : ∀ (xs : List In) (s : St),
    s.cache.length + candCount xs ≤ p.cap → keptThroughout p k s xs = true := by
  intro xs
  induction xs with
  | nil => intro s _; rfl
  | cons x xs ih =>
    intro s h
    have hx : candCount (x :: xs) = candCount [x] + candCount xs := by
      cases x <;> simp [candCount]
    have hf := folded_length_le s x
    have hs := step_cache_length_le p s x
    have hkept : keptStep p k s x := keptStep_of_room x (by omega)
    simp only [keptThroughout, Bool.and_eq_true]
    refine ⟨?_, ih _ (by omega)⟩
    split
    · rename_i hc
      apply hkept
      simpa using hc
    · rfl

theorem fold_fresh : ∀ (b : List Cand) (s : St),
    (b.map (·.1)).Nodup → (∀ k ∈ b.map (·.1), k ∉ s.cache.map (·.1) ∧ k ∉ s.buf.map (·.1)) →
    b.foldl pushCand s =
      { s with cache := s.cache ++ b, buf := s.buf ++ b, bufCount := s.bufCount + b.length } := by
  intro b
  induction b with
  | nil => intro s _ _; simp
  | cons c rest ih =>
    intro s hn hf
    obtain ⟨hc1, hc2⟩ := hf c.1 List.mem_cons_self
    have hp : pushCand s c =
        { s with cache := s.cache ++ [c], buf := s.buf ++ [c], bufCount := s.bufCount + 1 } := by
      have hst : stale s c = false := by rw [stale, (lookup_eq_none_iff _ _).2 hc1]
      rw [pushCand, hst, upsert_of_not_mem hc1, upsert_of_not_mem hc2]; rfl
    have hn := List.nodup_cons.1 hn
    rw [List.foldl_cons, hp, ih _ hn.2]
    · simp only [List.append_assoc, List.singleton_append, List.length_cons, Nat.add_assoc, Nat.add_comm 1]
    · intro k hk
      have hne : k ≠ c.1 := fun e => hn.1 (show c.1 ∈ _ from e ▸ hk)
      have := hf k (List.mem_cons_of_mem _ hk)
      simp [this.1, this.2, hne]

theorem fill_keys (n : Nat) : (fill n).map (·.1) = (List.range n).map (· + 1) := by
  simp [fill, Function.comp_def]

theorem fill_keys_nodup (n : Nat) : ((fill n).map (·.1)).Nodup := by
  rw [fill_keys]
  rw [List.Nodup, List.pairwise_map]
  exact (List.nodup_range (n := n)).imp (by intro a b h; simpa using h)

theorem zero_not_in_fill (n : Nat) : 0 ∉ (fill n).map (·.1) := by
  rw [fill_keys]; simp

theorem clsOf_zero_fill (n : Nat) : clsOf 0 ((fill n).map toEvent) = [] := by
  rw [clsOf_flush 0 (fill_keys_nodup n), (lookup_eq_none_iff _ _).2 (zero_not_in_fill n)]; rfl

/-- Once the sticky `process` flag is set (and so nothing is left buffered), a batch of distinct keys
that are not cached is notified at once; its keys go to the end of the cache before the eviction. -/
theorem step_fresh_flushing (p : Params) (cache b : List Cand) (hn : (b.map (·.1)).Nodup)
    (hf : ∀ k ∈ b.map (·.1), k ∉ cache.map (·.1)) :
    step p ⟨cache, [], 0, true⟩ (.batch b) = (⟨evict p (cache ++ b), [], 0, true⟩, b.map toEvent) := by
  have hfold := fold_fresh b ⟨cache, [], 0, true⟩ hn fun k hk => ⟨hf k hk, List.not_mem_nil⟩
  simp only [step, arm, hfold, finish]
  split <;> rfl

end Corro.Updates
