/-
The local write path of the cell store model (`applyStmt`, `localTx`): the insertion sort by `seq`
is a permutation, running maxima and minima of a fold, and the case lemmas of a local INSERT
(`applyStmt_ins`, `applyStmt_ins_elim`) and of a local transaction (`localTx_ok`).
-/
import Corro.Lemmas.CrdtLookup

namespace Corro.Crdt

theorem insertBySeq_perm (c : Chg) (l : List Chg) : (insertBySeq c l).Perm (c :: l) := by
  induction l with
  | nil => exact List.Perm.refl _
  | cons x l ih =>
    unfold insertBySeq
    split
    · exact List.Perm.refl _
    · exact (List.Perm.cons x ih).trans (List.Perm.swap c x l)

theorem foldl_insertBySeq_perm (cs acc : List Chg) :
    (cs.foldl (fun acc c => insertBySeq c acc) acc).Perm (cs ++ acc) := by
  induction cs generalizing acc with
  | nil => exact List.Perm.refl _
  | cons c cs ih =>
    exact (ih _).trans ((List.Perm.append_left cs (insertBySeq_perm c acc)).trans List.perm_middle)

theorem sortBySeq_perm (cs : List Chg) : (sortBySeq cs).Perm cs := by
  simpa [sortBySeq] using foldl_insertBySeq_perm cs []

theorem mem_sortBySeq {x : Chg} {cs : List Chg} : x ∈ sortBySeq cs ↔ x ∈ cs :=
  (sortBySeq_perm cs).mem_iff

theorem foldl_max_spec {α : Type} (f : α → Nat) (l : List α) (m : Nat) :
    m ≤ l.foldl (fun m a => Nat.max m (f a)) m ∧
    (∀ a ∈ l, f a ≤ l.foldl (fun m a => Nat.max m (f a)) m) ∧
    (l.foldl (fun m a => Nat.max m (f a)) m = m ∨
      ∃ a ∈ l, l.foldl (fun m a => Nat.max m (f a)) m = f a) := by
  induction l generalizing m with
  | nil => exact ⟨Nat.le_refl _, nofun, Or.inl rfl⟩
  | cons b l ih =>
    obtain ⟨h1, h2, h3⟩ := ih (Nat.max m (f b))
    have hm : m ≤ Nat.max m (f b) := Nat.le_max_left _ _
    have hb : f b ≤ Nat.max m (f b) := Nat.le_max_right _ _
    refine ⟨Nat.le_trans hm h1, ?_, ?_⟩
    · intro a ha
      rcases List.mem_cons.mp ha with rfl | ha
      · exact Nat.le_trans hb h1
      · exact h2 a ha
    · rcases h3 with h | ⟨a, ha, h⟩
      · rw [List.foldl_cons, h]
        rcases Nat.le_total (f b) m with hle | hle
        · exact Or.inl (Nat.max_eq_left hle)
        · exact Or.inr ⟨b, by simp, Nat.max_eq_right hle⟩
      · exact Or.inr ⟨a, by simp [ha], h⟩

theorem foldl_min_spec {α : Type} (f : α → Nat) (l : List α) (m : Nat) :
    l.foldl (fun m a => Nat.min m (f a)) m ≤ m ∧
    (∀ a ∈ l, l.foldl (fun m a => Nat.min m (f a)) m ≤ f a) ∧
    (l.foldl (fun m a => Nat.min m (f a)) m = m ∨
      ∃ a ∈ l, l.foldl (fun m a => Nat.min m (f a)) m = f a) := by
  induction l generalizing m with
  | nil => exact ⟨Nat.le_refl _, nofun, Or.inl rfl⟩
  | cons b l ih =>
    obtain ⟨h1, h2, h3⟩ := ih (Nat.min m (f b))
    have hm : Nat.min m (f b) ≤ m := Nat.min_le_left _ _
    have hb : Nat.min m (f b) ≤ f b := Nat.min_le_right _ _
    refine ⟨Nat.le_trans h1 hm, ?_, ?_⟩
    · intro a ha
      rcases List.mem_cons.mp ha with rfl | ha
      · exact Nat.le_trans h1 hb
      · exact h2 a ha
    · rcases h3 with h | ⟨a, ha, h⟩
      · rw [List.foldl_cons, h]
        rcases Nat.le_total m (f b) with hle | hle
        · exact Or.inl (Nat.min_eq_left hle)
        · exact Or.inr ⟨b, by simp, Nat.min_eq_right hle⟩
      · exact Or.inr ⟨a, by simp [ha], h⟩

theorem le_foldl_max {cs : List Chg} {x : Chg} (h : x ∈ cs) (m : Nat) :
    x.seq ≤ cs.foldl (fun m c => max m c.seq) m :=
  (foldl_max_spec (fun c : Chg => c.seq) cs m).2.1 x h

/-- the column changes of a stored row are live entries of `crsql_changes` -/
theorem mem_changes_of_cell {db : Db} {r : Row} {l : Cell} (hr : r ∈ db.rows) (hl : l ∈ r.cells) :
    (⟨r.tbl, r.pk, l.cid, l.val, l.clk.colv, r.cl, l.clk.site, l.clk.dbv, l.clk.seq⟩ : Chg) ∈
      db.changes := by
  unfold Db.changes
  rw [List.mem_flatMap]
  refine ⟨r, hr, ?_⟩
  rw [List.mem_append]
  right
  exact List.mem_map.mpr ⟨l, hl, rfl⟩

/-- the row a local INSERT writes: causal length `ncl`, a sentinel entry if `P`, and one cell of
column version 1 per non-key column, numbered from the statement counter `k` -/
def insRow (s ver k : Nat) (tbl pk : String) (ncl : Nat) (P : Prop) [Decidable P]
    (val : String × Nat → Val) (cols : List String) : Row :=
  { tbl := tbl, pk := pk, cl := ncl,
    sent := if P then some ⟨ncl, s, ver, k⟩ else none,
    cells := List.map (fun x => ⟨x.fst, val x, ⟨1, s, ver, (if P then k + 1 else k) + x.snd⟩⟩)
      cols.zipIdx }

/-- INSERT is rejected on a live row; otherwise it starts the next incarnation with `insRow` -/
theorem applyStmt_ins {db : Db} {ver seq : Nat} {tbl pk : String} {assigns : List (String × Val)}
    {cols : List String} (hc : tableCols tbl = some cols) :
    applyStmt db ver seq (.ins tbl pk assigns) =
      if lclOf (db.findRow tbl pk) % 2 = 1 then .error .constraint else
      let ncl := if lclOf (db.findRow tbl pk) = 0 then 1 else lclOf (db.findRow tbl pk) + 1
      .ok (db.setRow (insRow db.site ver seq tbl pk ncl (ncl > 1 ∨ cols.isEmpty)
          (fun x => match assigns.find? (·.1 = x.1) with | some (_, v) => v | none => Val.null) cols),
        (if ncl > 1 ∨ cols.isEmpty then seq + 1 else seq) + cols.length) := by
  simp only [applyStmt, hc]
  cases db.findRow tbl pk <;> rfl

/-- what the proofs about a successful INSERT use of it: the new causal length is odd -/
theorem applyStmt_ins_elim {Q : Db → Nat → Prop} {db : Db} {ver seq : Nat} {tbl pk : String}
    {assigns : List (String × Val)} {cols : List String} {db' : Db} {seq' : Nat}
    (hc : tableCols tbl = some cols)
    (hQ : ∀ (ncl : Nat) (P : Prop) [Decidable P] (val : String × Nat → Val), ncl % 2 = 1 →
      Q (db.setRow (insRow db.site ver seq tbl pk ncl P val cols))
        ((if P then seq + 1 else seq) + cols.length))
    (h : applyStmt db ver seq (.ins tbl pk assigns) = .ok (db', seq')) : Q db' seq' := by
  rw [applyStmt_ins hc] at h
  by_cases hodd : lclOf (db.findRow tbl pk) % 2 = 1
  · rw [if_pos hodd] at h; cases h
  · rw [if_neg hodd] at h
    cases h
    refine hQ _ _ _ ?_
    split
    · rfl
    · rw [Nat.add_mod, Nat.mod_two_ne_one.mp hodd]

theorem applyStmt_ins_row {db : Db} {ver seq : Nat} {tbl pk : String} {assigns : List (String × Val)}
    {cols : List String} {db' : Db} {seq' : Nat} (hc : tableCols tbl = some cols)
    (h : applyStmt db ver seq (.ins tbl pk assigns) = .ok (db', seq')) :
    ∃ r, db'.findRow tbl pk = some r ∧ r.tbl = tbl ∧ r.pk = pk ∧ r.cl % 2 = 1 ∧ db'.site = db.site ∧
      ∀ col ∈ cols, ∃ l ∈ r.cells, l.cid = col ∧ l.clk.colv = 1 ∧ l.clk.site = db.site ∧
        l.clk.dbv = ver := by
  refine applyStmt_ins_elim (Q := fun db' _ => ∃ r, db'.findRow tbl pk = some r ∧ r.tbl = tbl ∧
    r.pk = pk ∧ r.cl % 2 = 1 ∧ db'.site = db.site ∧ ∀ col ∈ cols, ∃ l ∈ r.cells, l.cid = col ∧
      l.clk.colv = 1 ∧ l.clk.site = db.site ∧ l.clk.dbv = ver) hc (fun ncl P _ val hodd => ?_) h
  refine ⟨_, findRow_setRow_same db (insRow db.site ver seq tbl pk ncl P val cols), rfl, rfl, hodd,
    setRow_site _ _, fun col hcol => ?_⟩
  obtain ⟨i, hi⟩ := List.mem_iff_getElem?.mp hcol
  exact ⟨_, List.mem_map.mpr ⟨(col, i), List.mem_zipIdx_iff_getElem?.mpr hi, rfl⟩, rfl, rfl, rfl, rfl⟩

/-- the two successful outcomes of a local transaction: no live entry of the new version and the
old store, or the new store with the version's entries by seq -/
theorem localTx_ok {db : Db} {stmts : List Stmt} {d : Db} {o : Option (Nat × List Chg)}
    (h : localTx db stmts = .ok (d, o)) :
    ∃ db1 k1, applyStmts db (db.dbv + 1) 0 stmts = .ok (db1, k1) ∧
      ∃ chs, chs = sortBySeq (db1.changesOf db.site (db.dbv + 1) 0
        (db1.changes.foldl (fun m c => max m c.seq) 0)) ∧
      ((chs = [] ∧ d = db ∧ o = none) ∨
       (chs ≠ [] ∧ d = { db1 with dbv := db.dbv + 1 } ∧ o = some (db.dbv + 1, chs))) := by
  unfold localTx at h
  dsimp only at h
  cases ha : applyStmts db (db.dbv + 1) 0 stmts with
  | error e => rw [ha] at h; cases h
  | ok r =>
    rw [ha] at h
    refine ⟨r.1, r.2, rfl, _, rfl, ?_⟩
    dsimp only at h
    split at h <;> cases h
    · exact Or.inl ⟨List.isEmpty_iff.mp ‹_›, rfl, rfl⟩
    · exact Or.inr ⟨fun e => ‹¬ _› (List.isEmpty_iff.mpr e), rfl, rfl⟩

theorem localTx_ver {db : Db} {stmts : List Stmt} {db' : Db} {ver : Nat} {chs : List Chg}
    (h : localTx db stmts = .ok (db', some (ver, chs))) : ver = db.dbv + 1 ∧ db'.dbv = ver := by
  obtain ⟨_, _, _, _, _, ⟨_, _, ho⟩ | ⟨_, rfl, ho⟩⟩ := localTx_ok h <;> cases ho
  exact ⟨rfl, rfl⟩

theorem localTx_none {db : Db} {stmts : List Stmt} {db' : Db}
    (h : localTx db stmts = .ok (db', none)) : db' = db := by
  obtain ⟨_, _, _, _, _, ⟨_, hd, _⟩ | ⟨_, _, ho⟩⟩ := localTx_ok h
  · exact hd
  · cases ho

theorem localTx_error {db : Db} {stmts : List Stmt} {e : WErr} :
    localTx db stmts = .error e ↔ applyStmts db (db.dbv + 1) 0 stmts = .error e := by
  unfold localTx
  dsimp only
  cases applyStmts db (db.dbv + 1) 0 stmts with
  | error e' => exact ⟨fun h => by cases h; rfl, fun h => by cases h; rfl⟩
  | ok r =>
    dsimp only
    split <;> exact ⟨nofun, nofun⟩

end Corro.Crdt
