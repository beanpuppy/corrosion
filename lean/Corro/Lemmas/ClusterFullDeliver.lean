/-
C01, protocol level, BATCHES AND CRASHES — `Node.deliver batch` for an ARBITRARY batch of changesets
that satisfy `ChunkOK`, delivered to ANY node — dead or alive — with no apply pending, preserves `GI` with
no clear job pending, with the ghost list extended by what the batch merged (`deliver_gi`): the fold over
the actors (its state: `FoldG`), the clear jobs, the applies (alive nodes only — on a dead node `Node.deliver` does not run
them, and the versions completed by the batch stay COMPLETE BUT UNAPPLIED).  Hence the crash-tolerant
node invariant `Crash.KInv` is preserved (`kinv_deliverB`), and an alive node with nothing pending is left
with nothing pending (`ainv_deliverB`).
-/
import Corro.Lemmas.ClusterFullTx

namespace Corro.ClusterSys.Full
open Corro.Crdt Corro.Node

/-- the state of the fold over the actors of a batch delivered to node `n`: `GI` with the clear jobs and
applies scheduled so far pending, `alive` as on `n`, the book sorted, the db-version rows below the heads -/
structure DG (D : Prop) (L : Log) (n : Node) (R : List Chg)
    (acc : (Node × List (Nat × Nat) × List (Nat × Nat × Nat)) × List Chg) : Prop where
  gi : GI D L acc.1.1.booked acc.1.1.seqRows acc.1.1.buf (acc.2 ++ R) acc.1.2.2 acc.1.2.1
  alive : acc.1.1.alive = n.alive
  sorted : acc.1.1.book.Pairwise (fun x y => x.1 < y.1)
  dbv : ∀ a, dbvOf acc.1.1 a ≤ (acc.1.1.booked a).max

/-- the state of the fold over the actors of a batch delivered to node `n` (ghost list `R`): the
invariant holds with the clear jobs and applies scheduled so far pending; the db-version rows are
below the heads if they were on `n` (`DG` without that proviso) -/
structure FoldG (D : Prop) (L : Log) (n : Node) (R : List Chg)
    (acc : (Node × List (Nat × Nat) × List (Nat × Nat × Nat)) × List Chg) : Prop where
  gi : GI D L acc.1.1.booked acc.1.1.seqRows acc.1.1.buf (acc.2 ++ R) acc.1.2.2 acc.1.2.1
  sorted : acc.1.1.book.Pairwise (fun x y => x.1 < y.1)
  dbv : DbvLe n → DbvLe acc.1.1

theorem FoldG.init {D : Prop} {L : Log} {n : Node} {R : List Chg}
    (hG : GI D L n.booked n.seqRows n.buf R [] []) (hs : n.book.Pairwise (fun x y => x.1 < y.1)) :
    FoldG D L n R ((n, [], []), []) :=
  ⟨hG, hs, id⟩

theorem FoldG.step {D : Prop} {L : Log} {n : Node} {R : List Chg} (hL : LogOK L) (batch : List Item)
    (hck : ∀ it ∈ batch, ChunkOK L it)
    {acc : (Node × List (Nat × Nat) × List (Nat × Nat × Nat)) × List Chg} (hacc : FoldG D L n R acc) (s : Nat) :
    FoldG D L n R (actorStepG (unknownB n batch) acc s) := by
  obtain ⟨h1, h3, h4⟩ := processActor_gi hacc.gi hL (unknownFor n batch s)
    (fun it hit => ⟨hck it (mem_unknownFor hit).1, (mem_unknownFor hit).2⟩) hacc.sorted
  unfold actorStepG
  refine ⟨?_, h3, fun h0 => h4 (hacc.dbv h0)⟩
  apply h1.congr_R hL
  intro e
  show _ ↔ e ∈ (acc.2 ++ txMerged acc.1.1 s (unknownFor n batch s)) ++ R
  simp only [List.mem_append, or_assoc, or_left_comm]

theorem deliverFoldG_gi {D : Prop} {L : Log} {n : Node} {R : List Chg}
    (hG : GI D L n.booked n.seqRows n.buf R [] []) (hs : n.book.Pairwise (fun x y => x.1 < y.1))
    (hL : LogOK L) (batch : List Item) (hck : ∀ it ∈ batch, ChunkOK L it) :
    FoldG D L n R (deliverFoldG n batch) := by
  unfold deliverFoldG
  apply foldl_inv (FoldG D L n R)
  · exact FoldG.init hG hs
  · intro acc s _ hacc
    exact hacc.step hL batch hck s

theorem clearAll_gi {D : Prop} {L : Log} {R : List Chg} {A : List (Nat × Nat)} (hL : LogOK L)
    (C : List (Nat × Nat × Nat)) (N : Node) (hG : GI D L N.booked N.seqRows N.buf R C A) :
    GI D L (clearAll N C).booked (clearAll N C).seqRows (clearAll N C).buf R [] A := by
  induction C generalizing N with
  | nil => exact hG
  | cons c C ih =>
    show GI D L (clearAll (N.clearMeta c.1 c.2.1 c.2.2) C).booked _ _ R [] A
    apply ih
    have hb : (N.clearMeta c.1 c.2.1 c.2.2).booked = N.booked := rfl
    rw [hb]
    refine gi_clear hG hL (fun r => mem_clearMeta_rows) (fun x => mem_clearMeta_buf) ?_ ?_ ?_ (fun _ h => Or.inr h)
    · intro v h1 h2
      exact Or.inl ((inClears_cons c C c.1 v).mpr (Or.inl ⟨rfl, h1, h2⟩))
    · intro a v h
      rcases (inClears_cons c C a v).mp h with ⟨h1, h2⟩ | h
      · exact Or.inr ⟨h1.symm, h2⟩
      · exact Or.inl h
    · intro a v h
      exact (inClears_cons c C a v).mpr (Or.inr h)

/-- the node after the transactions and the clear jobs of a batch, before the applies: `GI` with the
applies pending, the book sorted, the db-version rows below the heads -/
theorem deliverCleared_gi {D : Prop} {L : Log} {n : Node} {R : List Chg} {batch : List Item}
    (hG : GI D L n.booked n.seqRows n.buf R [] []) (hs : n.book.Pairwise (fun x y => x.1 < y.1))
    (hL : LogOK L) (hck : ∀ it ∈ batch, ChunkOK L it) :
    GI D L (clearAll (deliverFold n batch).1 (deliverFold n batch).2.2).booked
      (clearAll (deliverFold n batch).1 (deliverFold n batch).2.2).seqRows
      (clearAll (deliverFold n batch).1 (deliverFold n batch).2.2).buf ((deliverFoldG n batch).2 ++ R) []
      (deliverFold n batch).2.1 ∧
    (clearAll (deliverFold n batch).1 (deliverFold n batch).2.2).book.Pairwise (fun x y => x.1 < y.1) ∧
    (DbvLe n → DbvLe (clearAll (deliverFold n batch).1 (deliverFold n batch).2.2)) := by
  have hfold := deliverFoldG_gi hG hs hL batch hck
  have hgi := hfold.gi
  have hsorted := hfold.sorted
  have hdbv := hfold.dbv
  rw [deliverFoldG_fst] at hgi hsorted hdbv
  refine ⟨clearAll_gi hL _ _ hgi, by rw [clearAll_book]; exact hsorted, ?_⟩
  intro h0 a
  rw [dbvOf_congr (clearAll_dbv _ _) a, booked_of_book (clearAll_book _ _) a]
  exact hdbv h0 a

/-- a batch does not change `alive`: before the applies, and at the end -/
theorem deliver_alive (n : Node) (batch : List Item) :
    (clearAll (deliverFold n batch).1 (deliverFold n batch).2.2).alive = n.alive ∧
    (n.deliver batch).alive = n.alive :=
  deliver_rel (fun n n' => n'.alive = n.alive) (fun _ => rfl) (fun h1 h2 => h2.trans h1) bumpDbv_alive mergeChanges_alive
    bufferChunk_alive (fun _ _ => rfl) (fun _ _ _ _ => rfl) applyBuffered_alive n batch

theorem deliverB_alive (n : Node) (batch : List Item) : (n.deliver batch).alive = n.alive :=
  (deliver_alive n batch).2

/-- **one batch, any node**: ANY batch of changesets that satisfy `ChunkOK` — several changesets of several
actors, duplicates, chunks of the same version, `Empty` ranges, in any order — preserves `GI` with no clear
job pending; the ghost list grows by what the batch merged.  On a dead node the applies it schedules stay
pending: the versions it completed are complete but unapplied (`D`).  With it: the book stays sorted, and
the db-version rows stay below the heads -/
theorem deliver_gi {D : Prop} {L : Log} {n : Node} {R : List Chg} {batch : List Item}
    (hG : GI D L n.booked n.seqRows n.buf R [] []) (hs : n.book.Pairwise (fun x y => x.1 < y.1))
    (hD : n.alive = true → ¬ D) (hL : LogOK L) (hck : ∀ it ∈ batch, ChunkOK L it) :
    GI D L (n.deliver batch).booked (n.deliver batch).seqRows (n.deliver batch).buf (mergedByBatch n batch ++ R) []
      (if n.alive then [] else (deliverFold n batch).2.1) ∧
    (n.deliver batch).book.Pairwise (fun x y => x.1 < y.1) ∧ (DbvLe n → DbvLe (n.deliver batch)) := by
  obtain ⟨hcl, hsorted, hdbv⟩ := deliverCleared_gi hG hs hL hck
  rw [deliver_eq', mergedByBatch_eq]
  unfold finish
  rw [(deliver_alive n batch).1]
  cases hal : n.alive with
  | true =>
    simp only [if_true]
    obtain ⟨h1, h2⟩ := applyAll_gi hL (hD hal) _ _ _ hcl
    exact ⟨h1, applyAll_sorted hsorted _, fun h0 => h2 (hdbv h0)⟩
  | false =>
    simp only [Bool.false_eq_true, if_false]
    exact ⟨hcl, hsorted, hdbv⟩

/-- **one BATCH, any node**: a batch delivered to a node that is dead or alive, with or
without complete-but-unapplied versions, preserves the crash-tolerant node invariant.  On a dead node
the versions the batch completed stay complete but unapplied (not `Held`) until a restart. -/
theorem kinv_deliverB {L : Log} {n : Node} {R : List Chg} {batch : List Item} (hN : NInv L n R)
    (hI : Crash.KInv L n R) (hL : LogOK L) (hck : ∀ it ∈ batch, ChunkOK L it) :
    Crash.KInv L (n.deliver batch) (mergedByBatch n batch ++ R) := by
  obtain ⟨h1, h3, h4⟩ := deliver_gi (gi_of_cinv hN hI (fun _ _ h => h)) hI.sorted
    (fun hal hd => by rw [hal] at hd; cases hd) hL hck
  refine (cinv_of_gi h1 (fun hd => ?_) h3 (h4 hI.dbv_le)).mono (fun _ _ h => by rw [deliverB_alive]; exact h)
  cases hal : n.alive with
  | true => rfl
  | false => exact absurd hal hd

/-- a batch to an ALIVE node with nothing pending leaves nothing pending -/
theorem ainv_deliverB {L : Log} {n : Node} {R : List Chg} {batch : List Item} (hN : NInv L n R)
    (hI : Crash.CInv Crash.NoneP L n R) (hal : n.alive = true) (hL : LogOK L)
    (hck : ∀ it ∈ batch, ChunkOK L it) :
    Crash.CInv Crash.NoneP L (n.deliver batch) (mergedByBatch n batch ++ R) :=
  (kinv_deliverB hN (hI.mono (fun _ _ h' => absurd h' id)) hL hck).mono (fun _ _ h' => by
    rw [deliverB_alive, hal] at h'; cases h')

end Corro.ClusterSys.Full
