/-
The planner of `apply_schema` (`planSteps`): what its statements can be (`Action.Additive`), what an
accepted plan says about the two schemas, which of its statements concern one table, and when there is
nothing to do.
-/
import Corro.Lemmas.SchemaAList

namespace Corro.Schema
open AList

theorem andThen_ok_iff (a b : Steps) : (Steps.andThen a b).2 = none ↔ a.2 = none ∧ b.2 = none := by
  unfold Steps.andThen
  cases a.2 <;> simp

theorem andThen_acts {a b : Steps} (h : a.2 = none) : (Steps.andThen a b).1 = a.1 ++ b.1 := by
  unfold Steps.andThen; rw [h]

theorem mem_andThen {x : Action} {a b : Steps} (h : x ∈ (Steps.andThen a b).1) : x ∈ a.1 ∨ x ∈ b.1 := by
  unfold Steps.andThen at h
  cases h2 : a.2 with
  | none => rw [h2] at h; exact List.mem_append.mp h
  | some e => rw [h2] at h; exact Or.inl h

theorem addColSteps_cons (tbl n : Name) (c : Column) (r : AList Column) :
    addColSteps tbl ((n, c) :: r) =
      if c.pk then ([], some .addPk)
      else if c.notNull && c.dflt.isNone then ([], some .notNullNeedsDefault)
      else (.addColumn tbl n c :: (addColSteps tbl r).1, (addColSteps tbl r).2) := rfl

theorem mem_addColSteps {tbl : Name} {l : AList Column} {x : Action} (h : x ∈ (addColSteps tbl l).1) :
    ∃ n c, (n, c) ∈ l ∧ x = .addColumn tbl n c ∧ c.pk = false := by
  induction l with
  | nil => cases h
  | cons e r ih =>
    obtain ⟨n, c⟩ := e
    rw [addColSteps_cons] at h
    split at h
    · cases h
    · split at h
      · cases h
      · rcases List.mem_cons.mp h with h1 | h1
        · exact ⟨n, c, List.mem_cons_self, h1, Bool.eq_false_iff.mpr ‹_›⟩
        · obtain ⟨n', c', hm, hx⟩ := ih h1
          exact ⟨n', c', List.mem_cons_of_mem _ hm, hx⟩

theorem addColSteps_ok {tbl : Name} {l : AList Column} (h : (addColSteps tbl l).2 = none) :
    (addColSteps tbl l).1 = l.map (fun e => Action.addColumn tbl e.1 e.2) := by
  induction l with
  | nil => rfl
  | cons e r ih =>
    obtain ⟨n, c⟩ := e
    rw [addColSteps_cons] at h ⊢
    split at h
    · cases h
    · split at h
      · cases h
      · rw [if_neg ‹_›, if_neg ‹_›, List.map_cons, ← ih h]

theorem mem_newCols {t nt : Table} {n : Name} {c : Column} (h : (n, c) ∈ newCols t nt) :
    (n, c) ∈ nt.cols ∧ lookup n t.cols = none := by
  simpa [newCols] using h

theorem mem_indexActions {tbl : Name} {o n : AList Index} {x : Action} (h : x ∈ indexActions tbl o n) :
    (∃ i ix, x = .createIndex tbl i ix) ∨ (∃ i, x = .dropIndex tbl i) := by
  unfold indexActions at h
  simp only [List.mem_append, List.mem_filterMap, List.mem_map, List.mem_flatten, Option.map_eq_some_iff] at h
  rcases h with (⟨k, _, i, _, rfl⟩ | ⟨k, _, rfl⟩) | ⟨l, ⟨k, _, i, _, rfl⟩, hx⟩
  · exact Or.inl ⟨k, i, rfl⟩
  · exact Or.inr ⟨k, rfl⟩
  · rcases List.mem_cons.mp hx with rfl | hx
    · exact Or.inr ⟨k, rfl⟩
    · exact Or.inl ⟨k, i, List.mem_singleton.mp hx⟩

theorem tableSteps_cases (name : Name) (t nt : Table) :
    ((tableSteps name t nt).1 = [] ∧ (tableSteps name t nt).2 ≠ none) ∨
    ((∀ c ∈ keys t.cols, lookup c nt.cols = lookup c t.cols) ∧ t.pk = nt.pk ∧
      tableSteps name t nt =
        Steps.andThen (addColSteps name (newCols t nt)) (indexActions name t.idx nt.idx, none)) := by
  unfold tableSteps
  by_cases h1 : (keys t.cols).any (fun c => !contains c nt.cols) = true
  · rw [if_pos h1]; exact Or.inl ⟨rfl, nofun⟩
  by_cases h2 : (keys t.cols).any (colChanged t nt) = true
  · rw [if_neg h1, if_pos h2]; exact Or.inl ⟨rfl, nofun⟩
  by_cases h3 : t.pk ≠ nt.pk
  · rw [if_neg h1, if_neg h2, if_pos h3]; exact Or.inl ⟨rfl, nofun⟩
  rw [if_neg h1, if_neg h2, if_neg h3]
  refine Or.inr ⟨fun c hc => ?_, Classical.not_not.mp h3, rfl⟩
  have a := fun h => h1 (List.any_eq_true.mpr ⟨c, hc, h⟩)
  have b := fun h => h2 (List.any_eq_true.mpr ⟨c, hc, h⟩)
  unfold colChanged at b
  cases hl : lookup c nt.cols with
  | none => simp [hl] at a
  | some c' => simp [hl] at b; exact b.symm

theorem mem_tableSteps {name : Name} {t nt : Table} {x : Action} (h : x ∈ (tableSteps name t nt).1) :
    (∃ n c, x = .addColumn name n c ∧ lookup n t.cols = none ∧ c.pk = false) ∨
    (∃ i ix, x = .createIndex name i ix) ∨ (∃ i, x = .dropIndex name i) := by
  rcases tableSteps_cases name t nt with ⟨h1, _⟩ | ⟨_, _, h1⟩
  · rw [h1] at h; cases h
  · rw [h1] at h
    rcases mem_andThen h with h2 | h2
    · obtain ⟨n, c, hm, hx, hp⟩ := mem_addColSteps h2
      exact Or.inl ⟨n, c, hx, (mem_newCols hm).2, hp⟩
    · exact Or.inr (mem_indexActions h2)

theorem tableSteps_ok {name : Name} {t nt : Table} (h : (tableSteps name t nt).2 = none) :
    (∀ c ∈ keys t.cols, lookup c nt.cols = lookup c t.cols) ∧ t.pk = nt.pk ∧
    (tableSteps name t nt).1 =
      (newCols t nt).map (fun e => Action.addColumn name e.1 e.2) ++ indexActions name t.idx nt.idx := by
  rcases tableSteps_cases name t nt with ⟨_, h1⟩ | ⟨hc, hp, h1⟩
  · exact absurd h h1
  · rw [h1] at h ⊢
    have h2 := ((andThen_ok_iff _ _).mp h).1
    exact ⟨hc, hp, by rw [andThen_acts h2, addColSteps_ok h2]⟩

theorem newCols_nil {a b : Table} (hc : ∀ c, lookup c a.cols = lookup c b.cols) : newCols a b = [] :=
  List.filter_eq_nil_iff.mpr fun e he => by
    simpa [hc] using mem_keys_iff.mp (List.mem_map_of_mem (f := (·.1)) he)

theorem indexActions_self (tbl : Name) (o : AList Index) : indexActions tbl o o = [] := by
  have h1 : (keys o).filter (fun k => !contains k o) = [] :=
    List.filter_eq_nil_iff.mpr fun k hk => by simpa using mem_keys_iff.mp hk
  have h2 : ∀ k, changedIndex o o k = none := fun k => by
    unfold changedIndex; cases lookup k o <;> simp
  simp [indexActions, h1, h2]

theorem tableSteps_same (n : Name) {a b : Table} (hpk : a.pk = b.pk) (hc : ∀ c, lookup c a.cols = lookup c b.cols)
    (hi : a.idx = b.idx) : tableSteps n a b = ([], none) := by
  have c1 : (keys a.cols).any (fun c => !contains c b.cols) = false :=
    List.any_eq_false.mpr fun c h => by simpa [← hc] using mem_keys_iff.mp h
  have c2 : (keys a.cols).any (colChanged a b) = false :=
    List.any_eq_false.mpr fun c _ => by unfold colChanged; rw [hc]; cases lookup c b.cols <;> simp
  simp [tableSteps, c1, c2, hpk, hi, newCols_nil hc, indexActions_self, addColSteps, Steps.andThen]

variable {old new : Schema}

/-- the statements for table `n`, if it is in both schemas -/
def tableAt (old new : Schema) (n : Name) : Steps :=
  match lookup n old, lookup n new with
  | some t, some nt => tableSteps n t nt
  | _, _ => ([], none)

theorem tableAt_eq {n : Name} {t nt : Table} (ho : lookup n old = some t)
    (hn : lookup n new = some nt) : tableAt old new n = tableSteps n t nt := by
  unfold tableAt; rw [ho, hn]

theorem mem_tableAt {n : Name} {x : Action} (h : x ∈ (tableAt old new n).1) :
    ∃ t nt, lookup n old = some t ∧ lookup n new = some nt ∧ x ∈ (tableSteps n t nt).1 := by
  unfold tableAt at h
  split at h
  · exact ⟨_, _, ‹_›, ‹_›, h⟩
  · cases h

theorem interSteps_cons (old new : Schema) (n : Name) (r : List Name) :
    interSteps old new (n :: r) = Steps.andThen (tableAt old new n) (interSteps old new r) := by
  unfold tableAt
  rw [interSteps]
  cases lookup n old <;> cases lookup n new <;> rfl

theorem mem_interSteps {L : List Name} {x : Action} (h : x ∈ (interSteps old new L).1) :
    ∃ n ∈ L, x ∈ (tableAt old new n).1 := by
  induction L with
  | nil => cases h
  | cons n r ih =>
    rw [interSteps_cons] at h
    rcases mem_andThen h with h1 | h1
    · exact ⟨n, List.mem_cons_self, h1⟩
    · obtain ⟨m, hm, hx⟩ := ih h1
      exact ⟨m, List.mem_cons_of_mem _ hm, hx⟩

theorem interSteps_ok {L : List Name} (h : (interSteps old new L).2 = none) :
    ∀ n ∈ L, (tableAt old new n).2 = none := by
  induction L with
  | nil => nofun
  | cons n r ih =>
    rw [interSteps_cons, andThen_ok_iff] at h
    intro m hm
    rcases List.mem_cons.mp hm with rfl | hm
    · exact h.1
    · exact ih h.2 m hm

theorem mem_newTableActions {x : Action} (h : x ∈ newTableActions old new) :
    ∃ n t, x = .createTable n t ∧ lookup n old = none ∧ (n, t) ∈ new := by
  simp only [newTableActions, List.mem_map, List.mem_filter] at h
  obtain ⟨⟨k, t⟩, ⟨hm, hk⟩, hx⟩ := h
  exact ⟨k, t, hx.symm, by simpa using hk, hm⟩

theorem mem_planSteps {x : Action} (h : x ∈ (planSteps old new).1) :
    x ∈ newTableActions old new ∨ x ∈ (interSteps old new (keys new)).1 := by
  unfold planSteps at h
  split at h
  · cases h
  · exact mem_andThen h

theorem planSteps_ok (h : (planSteps old new).2 = none) :
    (∀ k, lookup k new = none → lookup k old = none) ∧
    (planSteps old new).1 = newTableActions old new ++ (interSteps old new (keys new)).1 ∧
    (interSteps old new (keys new)).2 = none := by
  unfold planSteps at h ⊢
  split at h
  · cases h
  · rename_i h1
    rw [if_neg h1]
    refine ⟨fun k hk => ?_, andThen_acts rfl, ((andThen_ok_iff _ _).mp h).2⟩
    apply Classical.byContradiction
    intro hc
    exact h1 (List.any_eq_true.mpr ⟨k, mem_keys_iff.mpr hc, by simpa using hk⟩)

theorem planSteps_ok_table (h : (planSteps old new).2 = none) {n : Name} {t nt : Table}
    (ho : lookup n old = some t) (hn : lookup n new = some nt) : (tableSteps n t nt).2 = none := by
  rw [← tableAt_eq ho hn]
  exact interSteps_ok (planSteps_ok h).2.2 n (mem_keys_of_lookup hn)

/-- what a statement of the plan may be: a table that did not exist, a column that did not exist and is
not part of the key, or an index statement on a table that exists -/
def Action.Additive (old new : Schema) : Action → Prop
  | .createTable n t => lookup n old = none ∧ (n, t) ∈ new
  | .addColumn tbl col c => ∃ t, lookup tbl old = some t ∧ lookup col t.cols = none ∧ c.pk = false
  | .createIndex tbl _ _ => contains tbl old = true
  | .dropIndex tbl _ => contains tbl old = true

theorem planSteps_additive (old new : Schema) : ∀ a ∈ (planSteps old new).1, a.Additive old new := by
  intro a ha
  rcases mem_planSteps ha with h | h
  · obtain ⟨n, t, rfl, h1⟩ := mem_newTableActions h
    exact h1
  · obtain ⟨n, _, hx⟩ := mem_interSteps h
    obtain ⟨t, nt, ho, _, hx⟩ := mem_tableAt hx
    rcases mem_tableSteps hx with ⟨c, col, rfl, h1⟩ | ⟨i, ix, rfl⟩ | ⟨i, rfl⟩
    · exact ⟨t, ho, h1⟩
    · exact contains_of_lookup ho
    · exact contains_of_lookup ho

theorem tableAt_table {n : Name} {x : Action} (h : x ∈ (tableAt old new n).1) :
    x.table = n ∧ ∀ k t, x ≠ .createTable k t := by
  obtain ⟨t, nt, _, _, hx⟩ := mem_tableAt h
  rcases mem_tableSteps hx with ⟨c, col, rfl, _⟩ | ⟨i, ix, rfl⟩ | ⟨i, rfl⟩ <;> exact ⟨rfl, nofun⟩

theorem interSteps_filter {L : List Name} (hn : L.Nodup) (hok : (interSteps old new L).2 = none)
    (n : Name) :
    (interSteps old new L).1.filter (fun a => decide (a.table = n)) = if n ∈ L then (tableAt old new n).1 else [] := by
  induction L with
  | nil => rfl
  | cons k r ih =>
    obtain ⟨hk, hr⟩ := List.nodup_cons.mp hn
    rw [interSteps_cons] at hok ⊢
    obtain ⟨h1, h2⟩ := (andThen_ok_iff _ _).mp hok
    rw [andThen_acts h1, List.filter_append, ih hr h2]
    by_cases h : k = n
    · subst h
      rw [List.filter_eq_self.mpr fun a ha => by simp [(tableAt_table ha).1]]
      simp [hk]
    · rw [List.filter_eq_nil_iff.mpr fun a ha => by simp [(tableAt_table ha).1, h]]
      have h' : ¬ n = k := fun h2 => h h2.symm
      simp [h']

theorem interSteps_noop (ht : ∀ n, tableAt old new n = ([], none)) (L : List Name) :
    interSteps old new L = ([], none) := by
  induction L with
  | nil => rfl
  | cons n r ih => rw [interSteps_cons, ht, ih]; rfl

theorem planSteps_noop (hk : keys old = keys new) (ht : ∀ n, tableAt old new n = ([], none)) :
    planSteps old new = ([], none) := by
  have c1 : (keys old).any (fun k => !contains k new) = false :=
    List.any_eq_false.mpr fun k h => by simpa using mem_keys_iff.mp (hk ▸ h)
  have c2 : newTableActions old new = [] :=
    List.map_eq_nil_iff.mpr <| List.filter_eq_nil_iff.mpr fun e he => by
      simpa using mem_keys_iff.mp (hk ▸ List.mem_map_of_mem (f := (·.1)) he)
  simp [planSteps, c1, c2, interSteps_noop ht, Steps.andThen]

end Corro.Schema
