/-
Around a crash.  A restart and the applies leave the advertised sync state alone (`restart_syncState`,
`applyAll_syncState`); `deliver` on a killed node is `deliver` without its applies (`kill_deliver`); every
apply a batch schedules is for a version of the batch (`deliverFold_apps_from`); and once a version has
been applied, applying it again cannot change the store (`Inert`, `applyAll_same_db`).
-/
import Corro.Lemmas.NodeRoundtrip
import Corro.Lemmas.NodeSync
namespace Corro.Node
open Corro.Crdt

variable {L : Nat → Nat → Nat} {n : Node}

/-- pending applies included: applying a fully buffered version does not change what is advertised -/
theorem restart_syncState (hc : Consistent L n) :
    (n.restart).syncState = n.syncState := by
  have hrc := restart_consistent' hc
  apply syncState_congr (restart_id n) hrc.sorted hc.sorted (fun a => (hrc.actor a).keys)
    (fun a => (hc.actor a).keys)
  intro a
  rw [restart_booked hc]
  obtain ⟨h1, h2, h3, h4, _, _⟩ := reloaded_spec hc a
  refine ⟨h1, h2, ?_⟩
  intro v
  by_cases hr : HasRows n a v
  · rw [h3 v hr]
  · rw [h4 v hr]
    cases hp : (n.booked a).partial? v with
    | none => rfl
    | some q =>
      have := (hc.actor a).norows_part v q hp hr
      simp [gP, this]

theorem applyAll_syncState (hc : Consistent L n) (ap : List (Nat × Nat)) :
    (applyAll n ap).syncState = n.syncState := by
  have hac := applyAll_consistent hc ap
  apply syncState_congr (applyAll_id n ap) hac.sorted hc.sorted (fun a => (hac.actor a).keys)
    (fun a => (hc.actor a).keys)
  intro a
  rw [applyAll_booked hc]
  exact BookEqv.refl _

theorem bumpDbv_kill (n : Node) (s v : Nat) : (n.kill).bumpDbv s v = (n.bumpDbv s v).kill := by
  unfold Node.bumpDbv Node.kill
  split <;> rfl

theorem mergeChanges_kill (n : Node) (cs : List Chg) : (n.kill).mergeChanges cs = (n.mergeChanges cs).kill :=
  List.foldl_hom Node.kill (fun n c => by rw [bumpDbv_kill]; rfl)

theorem setBooked_kill (n : Node) (a : Nat) (b : Booked) : (n.kill).setBooked a b = (n.setBooked a b).kill := by
  unfold Node.setBooked Node.kill
  split <;> rfl

theorem bufferChunk_kill (n : Node) (s v lo hi last : Nat) (cs : List Chg) :
    (n.kill).bufferChunk s v lo hi last cs =
      ((n.bufferChunk s v lo hi last cs).1.kill, (n.bufferChunk s v lo hi last cs).2) := rfl

def TxSt.kill (st : TxSt) : TxSt := { st with node := st.node.kill }

theorem stCleared_kill (b0 : Booked) (st : TxSt) (s lo hi : Nat) :
    stCleared b0 st.kill s lo hi = (stCleared b0 st s lo hi).kill := by
  unfold stCleared TxSt.kill
  simp only
  split
  · rw [bumpDbv_kill]; rfl
  · rfl

theorem stComplete_kill (st : TxSt) (s v : Nat) (cs : List Chg) :
    stComplete st.kill s v cs = (stComplete st s v cs).kill := by
  unfold stComplete TxSt.kill
  simp only
  rw [mergeChanges_kill]; rfl

/-- no branch of `processOne` looks at the liveness flag: with `kill` pushed through the steps the
two sides are the same chain of tests -/
theorem processOne_kill (b0 : Booked) (st : TxSt) (it : Item) :
    processOne b0 st.kill it = (processOne b0 st it).kill := by
  cases it with
  | empty s vlo vhi => simp only [processOne_empty, apply_ite TxSt.kill, stCleared_kill]; rfl
  | full s ver lo hi last cs =>
    simp only [processOne_full, apply_ite TxSt.kill, stCleared_kill, stComplete_kill]; rfl

theorem txFold_kill (n : Node) (site : Nat) (items : List Item) :
    txFold n.kill site items = (txFold n site items).kill :=
  List.foldl_hom (init := { node := n, seen := [], processed := [], clears := [] }) TxSt.kill
    (processOne_kill (n.booked site))

theorem processActor_kill (n : Node) (site : Nat) (items : List Item) :
    processActor n.kill site items =
      ((processActor n site items).1.kill, (processActor n site items).2) := by
  rw [processActor_node, processActor_node, txFold_kill]
  show (if (txFold n site items).processed.isEmpty = true then _ else
    ((txFold n site items).node.kill.setBooked site (committed n site (txFold n site items)).1, _, _)) = _
  rw [setBooked_kill]
  split <;> rfl

theorem deliverFold_kill (n : Node) (batch : List Item) :
    deliverFold n.kill batch = ((deliverFold n batch).1.kill, (deliverFold n batch).2) :=
  List.foldl_hom (init := (n, [], [])) (g₁ := actorStep (unknownOf n batch))
    (fun (acc : Node × List (Nat × Nat) × List (Nat × Nat × Nat)) => (acc.1.kill, acc.2))
    (fun acc s => by unfold actorStep; rw [processActor_kill]; rfl)

theorem clearAll_kill (n : Node) (cl : List (Nat × Nat × Nat)) : clearAll n.kill cl = (clearAll n cl).kill :=
  List.foldl_hom Node.kill (fun _ _ => rfl)

theorem kill_deliver (n : Node) (batch : List Item) : (n.kill).deliver batch = (preApply n batch).kill := by
  have hpre : preApply n.kill batch = (preApply n batch).kill := by
    unfold preApply
    rw [deliverFold_kill, clearAll_kill]
  rw [deliver_eq_preApply, hpre]
  rfl

theorem kill_syncState (n : Node) : (n.kill).syncState = n.syncState := rfl

theorem deliverFold_apps_from (n : Node) (batch : List Item) :
    ∀ t ∈ (deliverFold n batch).2.1, ∃ it ∈ batch, it.site = t.1 ∧ it.versions.1 = t.2 := by
  unfold deliverFold
  refine foldl_inv (fun (acc : Node × List (Nat × Nat) × List (Nat × Nat × Nat)) =>
    ∀ t ∈ acc.2.1, ∃ it ∈ batch, it.site = t.1 ∧ it.versions.1 = t.2) _ _ _ (fun t ht => by cases ht) ?_
  intro acc s _ hacc t ht
  rcases List.mem_append.mp ht with h | h
  · exact hacc t h
  · rw [(processActor_obs _ _ _).2.2.2.1] at h
    obtain ⟨e, he, rfl⟩ := commit_apps_from s _ _ t h
    obtain ⟨it, hit, hv⟩ := txFold_processed_from _ s _ e he
    have := List.mem_filter.mp hit
    exact ⟨it, mem_unknownOf this.1, of_decide_eq_true this.2, by rw [hv]⟩

theorem bufOf_filter_self (buf : List Chg) (s v : Nat) :
    bufOf (buf.filter (fun c => !decide (c.site = s ∧ c.dbv = v))) s v = [] := by
  unfold bufOf
  rw [List.filter_filter]
  apply List.filter_eq_nil_iff.mpr
  intro c _
  by_cases h : c.site = s ∧ c.dbv = v <;> simp [h]

/-- an apply of `(s, v)` cannot change the store: the partial is missing or incomplete (the apply is
skipped), or no row of the version is buffered (it merges nothing) -/
def Inert (Y : Node) (s v : Nat) : Prop :=
  (∀ p, (Y.booked s).partial? v = some p → p.complete = false) ∨ bufOf Y.buf s v = []

theorem Inert.db {Y : Node} {s v : Nat} (h : Inert Y s v) : (Y.applyBuffered s v).db = Y.db := by
  rcases applyBuffered_cases Y s v with ⟨h1, _⟩ | ⟨p, hp, hcomp, h1⟩ <;> rw [h1]
  rcases h with h | h
  · exact absurd ((h p hp).symm.trans hcomp) Bool.false_ne_true
  · rw [clearMeta_db, applyCore_db, h]; rfl

theorem inert_applyBuffered (Y : Node) (s v : Nat) : Inert (Y.applyBuffered s v) s v := by
  rcases applyBuffered_cases Y s v with ⟨h1, h⟩ | ⟨_, _, _, h1⟩ <;> rw [h1]
  · exact Or.inl h
  · rw [Inert, clearMeta_buf_single, applyCore_buf]; exact Or.inr (bufOf_filter_self _ _ _)

theorem Inert.applyAll_db {Y : Node} {s v : Nat} (h : Inert Y s v) (ap : List (Nat × Nat))
    (hap : ∀ t ∈ ap, t = (s, v)) : (applyAll Y ap).db = Y.db := by
  induction ap generalizing Y with
  | nil => rfl
  | cons t ap ih =>
    obtain rfl := hap t List.mem_cons_self
    exact (ih (inert_applyBuffered Y s v) (fun t' ht' => hap t' (List.mem_cons_of_mem _ ht'))).trans h.db

theorem applyAll_same_db (Y : Node) (s v : Nat) {ap : List (Nat × Nat)} (hap : ∀ t ∈ ap, t = (s, v))
    (hne : ap ≠ []) : (applyAll Y ap).db = (Y.applyBuffered s v).db := by
  cases ap with
  | nil => exact absurd rfl hne
  | cons t ap =>
    obtain rfl := hap t List.mem_cons_self
    exact (inert_applyBuffered Y s v).applyAll_db ap (fun t' ht' => hap t' (List.mem_cons_of_mem _ ht'))

end Corro.Node
