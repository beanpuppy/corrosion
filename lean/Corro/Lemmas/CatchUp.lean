/-
C12: the invariant of `catch_up_sub` and of `forward_sub_to_sender` after it, and
its preservation by every step of the transition system `Corro.CatchUp`.
-/
import Corro.Lemmas.CatchUpStep

namespace Corro.CatchUp

/-- no `error` / `closed` in the output -/
def NoTerm (out : List Item) : Prop := ∀ x ∈ out, x ≠ Item.error ∧ x ≠ Item.closed

/-- `error` is followed by `closed` only, `closed` by nothing -/
def TermOk : List Item → Prop
  | [] => True
  | .closed :: r => r = []
  | .error :: r => r = [.closed]
  | _ :: r => TermOk r

theorem NoTerm.nil : NoTerm [] := by intro x h; cases h

theorem NoTerm.append {a b : List Item} (ha : NoTerm a) (hb : NoTerm b) : NoTerm (a ++ b) := by
  intro x hx
  rcases List.mem_append.mp hx with h | h
  · exact ha x h
  · exact hb x h

theorem NoTerm.map_change (l : List Nat) : NoTerm (l.map Item.change) := by
  intro x hx
  obtain ⟨k, _, rfl⟩ := List.mem_map.mp hx
  exact ⟨nofun, nofun⟩

theorem NoTerm.snoc {a : List Item} {x : Item} (ha : NoTerm a) (hx : x ≠ .error ∧ x ≠ .closed) :
    NoTerm (a ++ [x]) :=
  ha.append fun _ hy => List.mem_singleton.mp hy ▸ hx

theorem TermOk.of_noTerm_append {a : List Item} (h : NoTerm a) {t : List Item} (ht : TermOk t) :
    TermOk (a ++ t) := by
  induction a with
  | nil => exact ht
  | cons x r ih =>
    have hx := h x (List.mem_cons_self ..)
    have hr : TermOk (r ++ t) := ih fun y hy => h y (List.mem_cons_of_mem _ hy)
    cases x
    case error => exact absurd rfl hx.1
    case closed => exact absurd rfl hx.2
    all_goals exact hr

theorem TermOk.of_noTerm {a : List Item} (h : NoTerm a) : TermOk a :=
  List.append_nil a ▸ TermOk.of_noTerm_append h (t := []) trivial

theorem termOk_err : TermOk [Item.error, Item.closed] := rfl
theorem termOk_closed : TermOk [Item.closed] := rfl

/-- matcher / pipe / log sanity: sent before committed, published after sent, the purge never
deletes the newest entry -/
def EnvOk (e : Env) : Prop := e.committed ≤ e.sent ∧ e.published ≤ e.sent ∧ e.pruned ≤ e.committed

theorem envOk_step (cfg : Cfg) (e : Env) (a : Act) (h : EnvOk e) : EnvOk (stepEnv cfg e a) := by
  cases a
  case emit => exact ⟨Nat.le_succ_of_le h.1, Nat.le_succ_of_le h.2.1, h.2.2⟩
  case commit => exact ⟨Nat.le_refl _, h.2.1, Nat.le_trans h.2.2 h.1⟩
  case publish => exact iteInduction (fun hlt => ⟨h.1, hlt, h.2.2⟩) fun _ => h
  case prune =>
    exact ⟨h.1, h.2.1, Nat.max_le.mpr ⟨h.2.2, Nat.le_trans (Nat.sub_le _ _) (Nat.sub_le _ _)⟩⟩
  all_goals exact h

theorem published_mono (cfg : Cfg) (e : Env) (a : Act) : e.published ≤ (stepEnv cfg e a).published := by
  cases a
  case publish =>
    exact iteInduction (motive := fun x : Env => e.published ≤ x.published) (fun _ => Nat.le_succ _)
      fun _ => Nat.le_refl _
  all_goals exact Nat.le_refl _

theorem run_envOk (cfg : Cfg) (acts : List Act) : ∀ st : State, EnvOk st.1 → EnvOk (run cfg st acts).1 := by
  induction acts with
  | nil => exact fun _ h => h
  | cons a as ih => exact fun st h => ih _ (step_fst cfg st a ▸ envOk_step cfg _ a h)

/-- the log read about to be made by the main task (if any) starts inside the retained log -/
def ReadOk (e : Env) (s : Sub) : Prop :=
  match s.pc with
  | .start => match s.mode with | .since n => e.pruned ≤ n | _ => True
  | .loop _ => e.pruned ≤ s.last
  | _ => True

section
variable {cfg : Cfg} {e : Env} {s : Sub}

theorem ReadOk.since {n : Nat} (h : ReadOk e s) (hpc : s.pc = .start) (hm : s.mode = .since n) :
    e.pruned ≤ n := by
  rw [ReadOk, hpc, hm] at h
  exact h

theorem ReadOk.loop {i : Nat} (h : ReadOk e s) (hpc : s.pc = .loop i) : e.pruned ≤ s.last := by
  rw [ReadOk, hpc] at h
  exact h

theorem logRead_ok {since : Nat} (h : e.pruned ≤ since) :
    logRead e since = ((idsFrom since e.committed).map Item.change, max since e.committed) := by
  simp [logRead, Nat.max_eq_left h]

theorem le_logRead {n : Nat} : n ≤ (logRead e n).2 := Nat.le_max_left ..

theorem noTerm_logRead {n : Nat} : NoTerm (logRead e n).1 := NoTerm.map_change _

theorem chg_logRead {n : Nat} (h : e.pruned ≤ n) : chg (logRead e n).1 = idsFrom n (logRead e n).2 := by
  rw [logRead_ok h, chg_map_change, idsFrom_max]

/-- the changes delivered so far are exactly `base+1 ..= last` -/
def Pre (base : Option Nat) (last : Nat) (out : List Item) : Prop :=
  ∃ b, base = some b ∧ b ≤ last ∧ chg out = idsFrom b last

section
variable {base : Option Nat} {l : Nat} {out : List Item}

theorem Pre.first {b : Nat} (ho : chg out = []) : Pre (some b) b out :=
  ⟨b, rfl, Nat.le_refl b, ho.trans (idsFrom_self b).symm⟩

theorem Pre.silent {x : List Item} (h : Pre base l out) (hx : chg x = []) : Pre base l (out ++ x) := by
  obtain ⟨b, hb, hle, hc⟩ := h
  exact ⟨b, hb, hle, by rw [chg_append, hx, List.append_nil, hc]⟩

theorem Pre.read (h : Pre base l out) (hr : e.pruned ≤ l) :
    Pre base (logRead e l).2 (out ++ (logRead e l).1) := by
  obtain ⟨b, hb, hle, hc⟩ := h
  exact ⟨b, hb, Nat.le_trans hle le_logRead,
    by rw [chg_append, hc, chg_logRead hr, idsFrom_append hle le_logRead]⟩

theorem Pre.push (h : Pre base l out) : Pre base (l + 1) (out ++ [.change (l + 1)]) := by
  obtain ⟨b, hb, hle, hc⟩ := h
  exact ⟨b, hb, Nat.le_succ_of_le hle, by rw [chg_append, hc]; exact idsFrom_succ hle⟩

theorem Pre.ne_none (h : Pre base l out) : base ≠ none := by
  obtain ⟨_, hb, _⟩ := h
  rw [hb]
  nofun

theorem Pre.ids {b : Nat} (h : Pre base l out) (hb : base = some b) :
    chg out = idsFrom b (b + (chg out).length) := by
  obtain ⟨b', hb', hle, hc⟩ := h
  cases hb'.symm.trans hb
  rw [hc, idsFrom_length, Nat.add_sub_of_le hle]

end

/-- `error` and `closed` are sent only by the step that ends the main task -/
def Term : Pc → List Item → Prop
  | .done, out => TermOk out
  | _, out => NoTerm out

theorem Term.termOk {pc : Pc} {out : List Item} (h : Term pc out) : TermOk out := by
  cases pc
  case done => exact h
  all_goals exact .of_noTerm h

/-- The buffering task up to the hand-over: the queue holds `qHead ..< qTail`, all read by the
receiver; and (`cfg.fixed`: the code since cb48448) the task never swallows a lag, and while it runs or after it
stopped everything it read is in the queue. -/
def QOk (cfg : Cfg) (s : Sub) : Prop :=
  s.qHead ≤ s.qTail ∧ s.qTail ≤ s.cur ∧
    (cfg.fixed = true → s.qt ≠ .stuck ∧ ((s.qt = .running ∨ s.qt = .stopped) → s.qTail = s.cur))

/-- What holds at each program point.  Up to the hand-over: every id below the queue's head has
been delivered or is about to be re-read (`qHead ≤ last + 1`, in the reconcile loop `≤ target + 1`).
After it (`cfg.fixed`): the receiver's next id is at most `last + 1`, nothing was skipped. -/
@[reducible] def PcInv (cfg : Cfg) (s : Sub) : Pc → Prop
  | .start | .readEoq _ => s.handed = false ∧ s.base = none ∧ chg s.out = []
  | .tryRecv => s.handed = false ∧ Pre s.base s.last s.out
  | .loop _ | .afterLoop => s.handed = false ∧ Pre s.base s.last s.out ∧ s.minId ≤ s.last + 1 ∧
      ∃ t, s.target = some t ∧ s.qHead ≤ t + 1 ∧ ∀ p, s.pending = some p → p ≤ t
  | .sendPending => s.handed = false ∧ Pre s.base s.last s.out ∧ s.qHead ≤ s.last + 1 ∧
      ∀ p, s.pending = some p → p ≤ s.last
  | .cancel | .drain => s.handed = false ∧ Pre s.base s.last s.out ∧ s.qHead ≤ s.last + 1
  | .join => s.handed = false ∧ Pre s.base s.last s.out ∧ s.qTail ≤ s.last + 1 ∧
      (s.qt = .stopped ∨ s.qt = .failed)
  | .live => s.handed = true ∧ s.qt ≠ .running ∧
      (cfg.fixed = true → Pre s.base s.last s.out ∧ s.cur ≤ s.last + 1)
  | .done => s.handed = false ∨ cfg.fixed = true → Pre s.base s.last s.out

/-- Invariant of a subscriber along every schedule whose reads are inside the log: with
`cfg.fixed` through all phases, without it up to the hand-over. -/
structure Inv (cfg : Cfg) (e : Env) (s : Sub) : Prop where
  cur : s.cur ≤ e.published + 1
  term : Term s.pc s.out
  q : s.handed = false → QOk cfg s
  pcs : PcInv cfg s s.pc

theorem Inv.at {pc : Pc} (h : Inv cfg e s) (hpc : s.pc = pc) : Term pc s.out ∧ PcInv cfg s pc :=
  hpc ▸ ⟨h.term, h.pcs⟩

theorem PcInv.of_running {pc : Pc} (h : PcInv cfg s pc) (hr : s.qt = .running) (qt : QTask) (cur qTail : Nat) :
    PcInv cfg { s with qt := qt, cur := cur, qTail := qTail } pc := by
  cases pc
  case join => obtain ⟨_, _, _, hq | hq⟩ := h <;> cases hr.symm.trans hq
  case live => exact absurd hr h.2.1
  all_goals exact h

theorem PcInv.stopped {pc : Pc} (h : PcInv cfg s pc) : PcInv cfg { s with qt := .stopped } pc := by
  cases pc
  case join => exact ⟨h.1, h.2.1, h.2.2.1, .inl rfl⟩
  case live => exact ⟨h.1, nofun, h.2.2⟩
  all_goals exact h

theorem PcInv.pre {pc : Pc} (h : PcInv cfg s pc) (hok : s.handed = false ∨ cfg.fixed = true) :
    (s.base = none ∧ chg s.out = []) ∨ Pre s.base s.last s.out := by
  cases pc
  case start => exact .inl h.2
  case readEoq => exact .inl h.2
  case live => exact .inr (h.2.2 (hok.resolve_left (by rw [h.1]; nofun))).1
  case done => exact .inr (h hok)
  case tryRecv => exact .inr h.2
  all_goals exact .inr h.2.1

theorem Inv.ids (h : Inv cfg e s) (hok : s.handed = false ∨ cfg.fixed = true) :
    (∀ b, s.base = some b → chg s.out = idsFrom b (b + (chg s.out).length)) ∧
    (s.base = none → chg s.out = []) ∧ TermOk s.out := by
  rcases h.pcs.pre hok with ⟨hn, ho⟩ | hp
  · exact ⟨fun _ hb => (nomatch hn.symm.trans hb), fun _ => ho, h.term.termOk⟩
  · exact ⟨fun _ => hp.ids, fun hn => absurd hn hp.ne_none, h.term.termOk⟩

theorem inv_attach (cfg : Cfg) (e : Env) (m : Mode) : Inv cfg e (attach e m) :=
  ⟨Nat.le_refl _, NoTerm.nil, fun _ => ⟨Nat.le_refl _, Nat.le_refl _, fun _ => ⟨nofun, fun _ => rfl⟩⟩, rfl, rfl, rfl⟩

theorem inv_stepEnv (a : Act) (h : Inv cfg e s) : Inv cfg (stepEnv cfg e a) s :=
  ⟨Nat.le_trans h.cur (Nat.succ_le_succ (published_mono cfg e a)), h.term, h.q, h.pcs⟩

theorem inv_qcancel (h : Inv cfg e s) : Inv cfg e (stepQCancel s) := by
  unfold stepQCancel
  refine iteInduction (fun hc => ⟨h.cur, h.term, fun nh => ?_, h.pcs.stopped⟩) fun _ => h
  obtain ⟨q1, q2, qi⟩ := h.q nh
  exact ⟨q1, q2, fun hf => ⟨nofun, fun _ => (qi hf).2 (.inl (hc.2.resolve_right (qi hf).1))⟩⟩

theorem inv_qrecv (h : Inv cfg e s) : Inv cfg e (stepQRecv cfg e s) := by
  unfold stepQRecv
  refine iteInduction (fun hr => ?_) fun _ => h
  have failed : Inv cfg e { s with qt := .failed } :=
    ⟨h.cur, h.term, fun nh => ⟨(h.q nh).1, (h.q nh).2.1, fun _ => ⟨nofun, nofun⟩⟩, h.pcs.of_running hr ..⟩
  refine iteInduction (fun hl => iteInduction (fun _ => failed) fun hnf => ?_) fun _ =>
    iteInduction (fun hc => iteInduction (fun _ => failed) fun _ => ?_) fun _ => h
  · have hl : cfg.bcap < e.published + 1 - s.cur := of_decide_eq_true hl
    refine ⟨Nat.sub_le _ _, h.term, fun nh => ⟨(h.q nh).1, ?_, fun hf => absurd hf hnf⟩, h.pcs.of_running hr ..⟩
    have := (h.q nh).2.1
    show s.qTail ≤ e.published + 1 - cfg.bcap
    omega
  · refine ⟨Nat.succ_le_succ hc, h.term, fun nh => ⟨?_, Nat.le_refl _, fun _ => ⟨by rw [hr]; nofun, fun _ => rfl⟩⟩,
      h.pcs.of_running hr ..⟩
    exact Nat.le_succ_of_le (Nat.le_trans (h.q nh).1 (h.q nh).2.1)

theorem inv_main (he : EnvOk e) (h : Inv cfg e s) (hr : ReadOk e s) : Inv cfg e (stepMain cfg e s) := by
  have hs := Main.of cfg e s
  generalize stepMain cfg e s = s' at hs
  generalize hpc : s.pc = pc at hs
  obtain ⟨nt, hi⟩ := h.at hpc
  have q {s' : Sub} (hh : s.handed = true) : s.handed = false → QOk cfg s' :=
    fun hn => nomatch hh.symm.trans hn
  -- what is in the queue has been published, hence sent
  have hqs (nh : s.handed = false) : s.qHead ≤ e.sent + 1 :=
    Nat.le_trans (h.q nh).1 (Nat.le_trans (h.q nh).2.1 (Nat.le_trans h.cur (Nat.succ_le_succ he.2.1)))
  cases hs with
  -- the start and the initial query: nothing with an id has been sent; a resume reads the log from its point
  | startAnew => exact ⟨h.cur, NoTerm.snoc nt ⟨nofun, nofun⟩, h.q, hi.1, hi.2.1, chg_append_silent hi.2.2 rfl⟩
  | startSkip => exact ⟨h.cur, nt, h.q, hi.1, .first hi.2.2⟩
  | startSince hm =>
    exact ⟨h.cur, NoTerm.append nt noTerm_logRead, h.q, hi.1, (Pre.first hi.2.2).read (hr.since hpc hm)⟩
  | readEoq => exact ⟨h.cur, NoTerm.snoc nt ⟨nofun, nofun⟩, h.q, hi.1, .first (chg_append_silent hi.2.2 rfl)⟩
  -- `try_recv` fixes the target of the reconcile loop: the id it took off the queue, or `sent`; either way
  -- the queue's head is at most `target + 1` (`hqs`), and caught up means `qHead ≤ sent + 1 ≤ last + 1`
  | recvQueued hq =>
    obtain ⟨_, q2, qi⟩ := h.q hi.1
    exact ⟨h.cur, nt, fun _ => ⟨hq, q2, qi⟩, hi.1, hi.2, Nat.le_refl _, _, rfl, Nat.le_refl _,
      fun _ hp => Nat.le_of_eq (Option.some.inj hp).symm⟩
  | recvClosed => exact ⟨h.cur, .of_noTerm_append nt termOk_err, h.q, fun _ => hi.2.silent rfl⟩
  | recvCaughtUp _ _ hs => exact ⟨h.cur, nt, h.q, hi.1, hi.2, Nat.le_trans (hqs hi.1) (Nat.succ_le_succ hs), nofun⟩
  | recvBehind => exact ⟨h.cur, nt, h.q, hi.1, hi.2, Nat.le_refl _, _, rfl, hqs hi.1, nofun⟩
  -- the reconcile loop: `Pre` follows each log read, the target and its bounds stay
  | loopNone ht => obtain ⟨_, _, _, t, ht', _⟩ := hi; exact nomatch ht.symm.trans ht'
  | loopRead =>
    obtain ⟨nh, hp, _, tq⟩ := hi
    exact ⟨h.cur, NoTerm.append nt noTerm_logRead, h.q, nh, hp.read (hr.loop hpc), Nat.succ_le_succ le_logRead,
      tq⟩
  | loopReached => exact ⟨h.cur, nt, h.q, hi.1, hi.2.1, Nat.le_refl _, hi.2.2.2⟩
  | loopSpent => exact ⟨h.cur, nt, h.q, hi⟩
  -- after the loop the target is reached (`t ≤ last`), so what was bounded by the target is bounded by `last`
  | afterNone ht => obtain ⟨_, _, _, t, ht', _⟩ := hi; exact nomatch ht.symm.trans ht'
  | afterShort => exact ⟨h.cur, .of_noTerm_append nt termOk_err, h.q, fun _ => hi.2.1.silent rfl⟩
  | @afterOk t ht hlt =>
    obtain ⟨nh, hp, hm, t', ht', hqt, hpt⟩ := hi
    cases ht.symm.trans ht'
    have : t ≤ s.last := by omega
    exact ⟨h.cur, nt, h.q, nh, hp, Nat.le_trans hqt (Nat.succ_le_succ this),
      fun p hp' => Nat.le_trans (hpt p hp') this⟩
  | pendNone | pendSkip => exact ⟨h.cur, nt, h.q, hi.1, hi.2.1, hi.2.2.1⟩
  | pendSend hc hlt =>
    -- the reconcile loop has read up to the pending event: it is not sent again
    exact absurd (hi.2.2.2 _ hc) (Nat.not_le_of_lt hlt)
  | cancel => exact ⟨h.cur, nt, h.q, hi⟩
  -- draining the queue: with `qHead ≤ last + 1` an id that is not skipped is `last + 1`, so `Pre` grows by one
  | drainSend hne hlt =>
    obtain ⟨nh, hp, hq⟩ := hi
    obtain ⟨_, q2, qi⟩ := h.q nh
    have heq : s.qHead = s.last + 1 := Nat.le_antisymm hq hlt
    exact ⟨h.cur, NoTerm.snoc nt ⟨nofun, nofun⟩, fun _ => ⟨hne, q2, qi⟩, nh, by rw [heq]; exact hp.push,
      Nat.le_refl _⟩
  | drainSkip hne hge =>
    obtain ⟨_, q2, qi⟩ := h.q hi.1
    exact ⟨h.cur, nt, fun _ => ⟨hne, q2, qi⟩, hi.1, hi.2.1, Nat.succ_le_succ (Nat.le_of_not_lt hge)⟩
  | drainEnd he hst => exact ⟨h.cur, nt, h.q, hi.1, hi.2.1, Nat.le_trans (Nat.le_of_not_lt he) hi.2.2, hst⟩
  | joinFailed => exact ⟨h.cur, .of_noTerm_append nt termOk_err, h.q, fun _ => hi.2.1.silent rfl⟩
  | handOver hnf =>
    -- the hand-over: the buffering task has stopped, so the receiver stands at the queue's tail
    obtain ⟨nh, hp, hq, hst⟩ := hi
    have hs := hst.resolve_right hnf
    exact ⟨h.cur, nt, nofun, rfl, by rw [hs]; nofun, fun hf => ⟨hp, ((h.q nh).2.2 hf).2 (.inr hs) ▸ hq⟩⟩
  -- live, with `cfg.fixed`: the draining argument with the receiver's `cur` in place of the queue's head
  | liveLagged =>
    exact ⟨h.cur, .of_noTerm_append nt termOk_closed, q hi.1,
      fun hok => (hi.2.2 (hok.resolve_left (by rw [hi.1]; nofun))).1.silent rfl⟩
  | liveSkip hc hf hsk =>
    exact ⟨Nat.succ_le_succ hc, nt, q hi.1, hi.1, hi.2.1, fun _ => ⟨(hi.2.2 hf).1, Nat.succ_le_succ hsk⟩⟩
  | liveSend hc hf hsk =>
    obtain ⟨hp, hcl⟩ := hi.2.2 hf
    have heq : s.cur = s.last + 1 := Nat.le_antisymm hcl (Nat.lt_of_not_le hsk)
    exact ⟨Nat.succ_le_succ hc, NoTerm.snoc nt ⟨nofun, nofun⟩, q hi.1, hi.1, hi.2.1,
      fun _ => ⟨by rw [heq]; exact hp.push, Nat.le_refl _⟩⟩
  | liveUnfiltered hc hnf =>
    exact ⟨Nat.succ_le_succ hc, NoTerm.snoc nt ⟨nofun, nofun⟩, q hi.1, hi.1, hi.2.1, fun hf => absurd hf hnf⟩
  | drainWait | liveWait | done => exact h

end

/-- every log read of the schedule starts inside the retained log (the property's quantifier:
"every resume point within the retained change log") -/
def SchedOk (cfg : Cfg) : State → List Act → Prop
  | _, [] => True
  | st, a :: as => (a = .main → ReadOk st.1 st.2) ∧ SchedOk cfg (step cfg st a) as

instance (e : Env) (s : Sub) : Decidable (ReadOk e s) := by
  unfold ReadOk
  split
  · split <;> infer_instance
  · infer_instance
  · infer_instance

instance SchedOk.dec (cfg : Cfg) : ∀ (st : State) (acts : List Act), Decidable (SchedOk cfg st acts)
  | _, [] => isTrue trivial
  | st, a :: as =>
    have := SchedOk.dec cfg (step cfg st a) as
    inferInstanceAs (Decidable ((a = .main → ReadOk st.1 st.2) ∧ SchedOk cfg (step cfg st a) as))

theorem run_inv (cfg : Cfg) (acts : List Act) : ∀ st : State, EnvOk st.1 → Inv cfg st.1 st.2 →
    SchedOk cfg st acts → Inv cfg (run cfg st acts).1 (run cfg st acts).2 := by
  induction acts with
  | nil => exact fun _ _ h _ => h
  | cons a as ih =>
    intro st he h ⟨hr, hs⟩
    exact ih _ (step_fst cfg st a ▸ envOk_step cfg _ a he)
      (step_cases (P := fun x => Inv cfg x.1 x.2) cfg st a (fun ha => inv_main he h (hr ha)) (inv_qrecv h)
        (inv_qcancel h) (inv_stepEnv a h))
      hs

end Corro.CatchUp
