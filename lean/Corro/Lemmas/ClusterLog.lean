/-
C01, protocol level — the global log of acknowledged transactions (`ClusterSys.Log`, newest first):
well-formedness `LogOK` (every transaction of site `a` carries the next version of `a`; its changes
are attributed to it, satisfy `ChgOK`, and are strictly sorted by seq) and the lookups.
-/
import Corro.Model.ClusterSys
import Corro.Lemmas.ClusterCrdt

namespace Corro.ClusterSys
open Corro.Crdt

/-- one acknowledged transaction: its changes are attributed to `(site, version)`, are changes of
a history without re-insertion, and are strictly sorted by seq -/
def EntryOK (e : (Nat × Nat) × List Chg) : Prop :=
  (∀ c ∈ e.2, c.site = e.1.1 ∧ c.dbv = e.1.2 ∧ ChgOK c) ∧ e.2.Pairwise (fun x y => x.seq < y.seq)

instance (e : (Nat × Nat) × List Chg) : Decidable (EntryOK e) := by unfold EntryOK; exact inferInstance

/-- **well-formed log**: the transactions of every site carry the versions `1, 2, 3, …` in the order
they were acknowledged, and every transaction is `EntryOK` -/
def LogOK : Log → Prop
  | [] => True
  | e :: L => LogOK L ∧ e.1.2 = Log.head L e.1.1 + 1 ∧ EntryOK e

instance : (L : Log) → Decidable (LogOK L)
  | [] => isTrue trivial
  | e :: L =>
    have := instDecidableLogOK L
    by unfold LogOK; exact inferInstance

theorem LogOK.tail {e : (Nat × Nat) × List Chg} {L : Log} (h : LogOK (e :: L)) : LogOK L := h.1

theorem LogOK.ver_head {e : (Nat × Nat) × List Chg} {L : Log} (h : LogOK (e :: L)) :
    e.1.2 = Log.head L e.1.1 + 1 := h.2.1

theorem LogOK.head_entry {e : (Nat × Nat) × List Chg} {L : Log} (h : LogOK (e :: L)) : EntryOK e := h.2.2

theorem head_cons (e : (Nat × Nat) × List Chg) (L : Log) (a : Nat) :
    Log.head (e :: L) a = if e.1.1 = a then Log.head L a + 1 else Log.head L a := by
  unfold Log.head
  by_cases h : e.1.1 = a
  · rw [List.filter_cons_of_pos (by simpa using h), if_pos h]; rfl
  · rw [List.filter_cons_of_neg (by simpa using h), if_neg h]

theorem head_le_cons (e : (Nat × Nat) × List Chg) (L : Log) (a : Nat) :
    Log.head L a ≤ Log.head (e :: L) a := by
  rw [head_cons]; split <;> omega

theorem get_cons (e : (Nat × Nat) × List Chg) (L : Log) (a v : Nat) :
    Log.get (e :: L) a v = if e.1.1 = a ∧ e.1.2 = v then e.2 else Log.get L a v := by
  unfold Log.get
  by_cases h : e.1.1 = a ∧ e.1.2 = v
  · rw [List.find?_cons_of_pos (by simpa using h), if_pos h]; rfl
  · rw [List.find?_cons_of_neg (by simpa using h), if_neg h]

theorem all_cons (e : (Nat × Nat) × List Chg) (L : Log) : Log.all (e :: L) = e.2 ++ Log.all L := by
  unfold Log.all; rfl

theorem mem_all_cons {e : (Nat × Nat) × List Chg} {L : Log} {c : Chg} (h : c ∈ Log.all L) :
    c ∈ Log.all (e :: L) := by
  rw [all_cons]; exact List.mem_append_right _ h

theorem LogOK.ver_le {L : Log} (h : LogOK L) : ∀ e ∈ L, 1 ≤ e.1.2 ∧ e.1.2 ≤ Log.head L e.1.1 := by
  induction L with
  | nil => intro e he; cases he
  | cons f L ih =>
    intro e he
    obtain ⟨h1, h2, _⟩ := h
    rw [head_cons]
    rcases List.mem_cons.mp he with rfl | he
    · rw [if_pos rfl]; omega
    · have := ih h1 e he
      split <;> omega

theorem LogOK.get_beyond {L : Log} (h : LogOK L) {a v : Nat} (hv : Log.head L a < v) :
    Log.get L a v = [] := by
  unfold Log.get
  cases hf : L.find? (fun e => e.1.1 = a ∧ e.1.2 = v) with
  | none => rfl
  | some e =>
    exfalso
    have hm := List.mem_of_find?_eq_some hf
    have hp := List.find?_some hf
    simp only [decide_eq_true_eq] at hp
    have := (h.ver_le e hm).2
    rw [hp.1, hp.2] at this
    omega

theorem LogOK.get_cons_old {e : (Nat × Nat) × List Chg} {L : Log} (h : LogOK (e :: L)) {a v : Nat}
    (hv : v ≤ Log.head L a) : Log.get (e :: L) a v = Log.get L a v := by
  rw [get_cons, if_neg]
  rintro ⟨h1, h2⟩
  have := h.ver_head
  rw [h1, h2] at this
  omega

theorem LogOK.get_cons_new {e : (Nat × Nat) × List Chg} {L : Log} :
    Log.get (e :: L) e.1.1 e.1.2 = e.2 := by
  rw [get_cons, if_pos ⟨rfl, rfl⟩]

theorem LogOK.get_cons_other {e : (Nat × Nat) × List Chg} {L : Log} {a v : Nat}
    (hne : ¬ (e.1.1 = a ∧ e.1.2 = v)) : Log.get (e :: L) a v = Log.get L a v := by
  rw [get_cons, if_neg hne]

theorem LogOK.mem_get {L : Log} (h : LogOK L) {a v : Nat} {c : Chg} (hc : c ∈ Log.get L a v) :
    c ∈ Log.all L ∧ c.site = a ∧ c.dbv = v ∧ ChgOK c := by
  induction L with
  | nil => cases hc
  | cons e L ih =>
    rw [get_cons] at hc
    split at hc
    · rename_i hk
      have := h.head_entry.1 c hc
      exact ⟨by rw [all_cons]; exact List.mem_append_left _ hc, this.1.trans hk.1, this.2.1.trans hk.2,
        this.2.2⟩
    · have := ih h.1 hc
      exact ⟨mem_all_cons this.1, this.2⟩

theorem LogOK.get_of_mem_all {L : Log} (h : LogOK L) {c : Chg} (hc : c ∈ Log.all L) :
    c ∈ Log.get L c.site c.dbv := by
  induction L with
  | nil => cases hc
  | cons e L ih =>
    rw [all_cons] at hc
    rcases List.mem_append.mp hc with hc | hc
    · have := h.head_entry.1 c hc
      rw [get_cons, if_pos ⟨this.1.symm, this.2.1.symm⟩]
      exact hc
    · have hin := ih h.1 hc
      rw [get_cons, if_neg]
      · exact hin
      · rintro ⟨h1, h2⟩
        have hb : Log.get L c.site c.dbv = [] := by
          apply h.1.get_beyond
          have := h.ver_head
          rw [h1, h2] at this
          omega
        rw [hb] at hin
        cases hin

theorem LogOK.chgOK {L : Log} (h : LogOK L) {c : Chg} (hc : c ∈ Log.all L) : ChgOK c :=
  (h.mem_get (h.get_of_mem_all hc)).2.2.2

theorem LogOK.get_sorted {L : Log} (h : LogOK L) (a v : Nat) :
    (Log.get L a v).Pairwise (fun x y => x.seq < y.seq) := by
  induction L with
  | nil => exact List.Pairwise.nil
  | cons e L ih =>
    rw [get_cons]
    split
    · exact h.head_entry.2
    · exact ih h.1

theorem pairwise_lt_inj {l : List Chg} (h : l.Pairwise (fun x y => x.seq < y.seq)) {x y : Chg}
    (hx : x ∈ l) (hy : y ∈ l) (hs : x.seq = y.seq) : x = y := by
  induction l with
  | nil => cases hx
  | cons a l ih =>
    rw [List.pairwise_cons] at h
    rcases List.mem_cons.mp hx with hxa | hx <;> rcases List.mem_cons.mp hy with hya | hy
    · rw [hxa, hya]
    · have := h.1 y hy; rw [← hxa] at this; omega
    · have := h.1 x hx; rw [← hya] at this; omega
    · exact ih h.2 hx hy

theorem LogOK.attr_unique {L : Log} (h : LogOK L) {c d : Chg} (hc : c ∈ Log.all L) (hd : d ∈ Log.all L)
    (h1 : c.site = d.site) (h2 : c.dbv = d.dbv) (h3 : c.seq = d.seq) : c = d := by
  have hc' := h.get_of_mem_all hc
  have hd' := h.get_of_mem_all hd
  rw [h1, h2] at hc'
  exact pairwise_lt_inj (h.get_sorted d.site d.dbv) hc' hd' h3

theorem LogOK.has_iff {L : Log} (h : LogOK L) (a v : Nat) :
    Log.has L a v = true ↔ 1 ≤ v ∧ v ≤ Log.head L a := by
  induction L with
  | nil => simp [Log.has, Log.head]; omega
  | cons e L ih =>
    have := ih h.1
    have hv := h.ver_head
    unfold Log.has at this ⊢
    rw [List.any_cons, Bool.or_eq_true, this, head_cons]
    simp only [decide_eq_true_eq]
    constructor
    · rintro (⟨h1, h2⟩ | h1)
      · rw [if_pos h1]; rw [h1] at hv; omega
      · split <;> omega
    · intro h1
      by_cases he : e.1.1 = a
      · rw [if_pos he] at h1
        rw [he] at hv
        by_cases hv2 : v = Log.head L a + 1
        · left; exact ⟨he, by omega⟩
        · right; omega
      · rw [if_neg he] at h1
        right; exact h1

theorem LogOK.entry {L : Log} (h : LogOK L) {e : (Nat × Nat) × List Chg} (he : e ∈ L) : EntryOK e := by
  induction L with
  | nil => cases he
  | cons f L ih =>
    rcases List.mem_cons.mp he with rfl | he
    · exact h.head_entry
    · exact ih h.1 he

theorem LogOK.entry_of_mem_all {L : Log} (h : LogOK L) {c : Chg} (hc : c ∈ Log.all L) :
    ∃ e ∈ L, e.1.1 = c.site ∧ e.1.2 = c.dbv := by
  unfold Log.all at hc
  obtain ⟨e, he, hce⟩ := List.mem_flatMap.mp hc
  have := (h.entry he).1 c hce
  exact ⟨e, he, this.1.symm, this.2.1.symm⟩

end Corro.ClusterSys
