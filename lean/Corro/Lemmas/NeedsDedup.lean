/-
For C04: the client-side request de-duplication of `parallel_sync` (model: `dedupStep`/`sendAll`).
A need asks for points of one *cell* of its actor: versions (`kind = none`) or seqs of one version
`v` (`kind = some v`); `req_full` / `req_partials` hold one interval set per actor and cell, so a
`Full` and a `Partial` item go through the same step (`dedupStep_eq`) and everything is said once.
-/
import Corro.Lemmas.Needs

namespace Corro.Needs
open Corro.RSet

namespace Need

/-- what a need ranges over: versions of its actor (`none`) or seqs of its version `v` (`some v`) -/
def kind : Need → Option Nat
  | .full _ _ => none
  | .part v _ => some v

def pts : Need → RSet
  | .full lo hi => [(lo, hi)]
  | .part _ sq => sq

/-- every range of the request (version range, or seq ranges) is forward -/
def Forward (n : Need) : Prop := ∀ r ∈ n.pts, r.1 ≤ r.2

end Need

/-- `n` asks for no more than `n0` does: same kind, (same version,) contained range / seq set. -/
def Need.SubOf : Need → Need → Prop
  | .full lo hi, .full lo' hi' => lo' ≤ lo ∧ lo ≤ hi ∧ hi ≤ hi'
  | .part v sq, .part v' sq' => v = v' ∧ ∀ s, Mem sq s → Mem sq' s
  | _, _ => False

theorem withinAdvertised_forward {peer : SyncState} {a : Actor} {n : Need}
    (h : n.WithinAdvertised peer a) : n.Forward := by
  cases n with
  | full => exact fun r hr => List.mem_singleton.mp hr ▸ h.2.1
  | part => exact h.2.2.1

theorem subOf_trans {n c n0 : Need} (h1 : n.SubOf c) (h2 : c.SubOf n0) : n.SubOf n0 := by
  cases n with
  | full =>
    cases c with
    | part => exact h1.elim
    | full =>
      cases n0 with
      | part => exact h2.elim
      | full => exact ⟨Nat.le_trans h2.1 h1.1, h1.2.1, Nat.le_trans h1.2.2 h2.2.2⟩
  | part =>
    cases c with
    | full => exact h1.elim
    | part =>
      cases n0 with
      | full => exact h2.elim
      | part => exact ⟨h1.1.trans h2.1, fun s hs => h2.2 s (h1.2 s hs)⟩

/-- from (kind, point) back to requests: a `none` point is a version in the range of a `Full` request … -/
theorem exists_kind_none {P : Need → Prop} {x : Nat} :
    (∃ n, P n ∧ n.kind = none ∧ Mem n.pts x) ↔ ∃ lo hi, P (.full lo hi) ∧ lo ≤ x ∧ x ≤ hi := by
  constructor
  · rintro ⟨n, hp, hk, hx⟩
    cases n with
    | full lo hi => exact ⟨lo, hi, hp, mem_singleton.mp hx⟩
    | part => cases hk
  · rintro ⟨lo, hi, hp, hx⟩
    exact ⟨_, hp, rfl, mem_singleton.mpr hx⟩

/-- … and a `some v` point is a seq in the seq set of a `Partial` request for `v` -/
theorem exists_kind_some {P : Need → Prop} {v s : Nat} :
    (∃ n, P n ∧ n.kind = some v ∧ Mem n.pts s) ↔ ∃ sq, P (.part v sq) ∧ Mem sq s := by
  constructor
  · rintro ⟨n, hp, hk, hx⟩
    cases n with
    | full => cases hk
    | part v' sq => cases hk; exact ⟨sq, hp, hx⟩
  · rintro ⟨sq, hp, hx⟩
    exact ⟨_, hp, rfl, hx⟩

/-- point `x` of cell `c` of actor `a` is covered by a need of the list (needs put on the wire, or
items of a queue, with their server) -/
def Sent (sent : List (Actor × Actor × Need)) (a : Actor) (c : Option Nat) (x : Nat) : Prop :=
  ∃ srv n, (srv, a, n) ∈ sent ∧ n.kind = c ∧ Mem n.pts x

theorem sent_nil {a : Actor} {c : Option Nat} {x : Nat} : ¬ Sent [] a c x :=
  fun ⟨_, _, h, _⟩ => List.not_mem_nil h

theorem sent_append (s1 s2 : List (Actor × Actor × Need)) (a : Actor) (c : Option Nat) (x : Nat) :
    Sent (s1 ++ s2) a c x ↔ Sent s1 a c x ∨ Sent s2 a c x := by
  simp only [Sent, List.mem_append, or_and_right, exists_or]

theorem sent_singleton (srv a0 : Actor) (n : Need) (a : Actor) (c : Option Nat) (x : Nat) :
    Sent [(srv, a0, n)] a c x ↔ (a = a0 ∧ c = n.kind) ∧ Mem n.pts x := by
  simp only [Sent, List.mem_singleton, Prod.mk.injEq]
  constructor
  · rintro ⟨_, _, ⟨_, rfl, rfl⟩, rfl, hx⟩
    exact ⟨⟨rfl, rfl⟩, hx⟩
  · rintro ⟨⟨rfl, rfl⟩, hx⟩
    exact ⟨srv, n, ⟨rfl, rfl, rfl⟩, rfl, hx⟩

/-- the part of `seqs` not yet in `R`, the way the code computes it: `new_seqs` of a `Partial`
item, and (for `seqs = [(lo, hi)]`) `new_versions` of a `Full` one -/
def fresh (R : RSet) (seqs : List (Nat × Nat)) : RSet :=
  seqs.foldl (fun n s => removeAll n (overlapping R s)) (ofList seqs)

theorem fresh_eq (R : RSet) (seqs : List (Nat × Nat)) :
    fresh R seqs = removeAll (ofList seqs) (seqs.flatMap (overlapping R)) := by
  simp only [fresh, removeAll, List.flatMap, List.foldl_flatten, List.foldl_map]

theorem fresh_spec {R : RSet} (hR : WF R) {seqs : List (Nat × Nat)} (hs : ∀ r ∈ seqs, r.1 ≤ r.2) :
    WF (fresh R seqs) ∧ ∀ x, Mem (fresh R seqs) x ↔ Mem seqs x ∧ ¬ Mem R x := by
  have hfw : ∀ p ∈ seqs.flatMap (overlapping R), p.1 ≤ p.2 := fun p hp =>
    let ⟨s, _, hps⟩ := List.mem_flatMap.mp hp
    wf_forward hR p ((mem_overlapping _ _ _).mp hps).1
  rw [fresh_eq]
  refine ⟨removeAll_wf _ _ (ofList_wf hs) hfw, fun x => ?_⟩
  rw [mem_removeAll _ _ (ofList_wf hs) hfw, mem_ofList hs]
  -- an interval of `R` that holds `x` overlaps the range of `seqs` that holds `x`
  refine and_congr_right fun ⟨r, hr, hx⟩ => not_congr ⟨?_, ?_⟩
  · rintro ⟨p, hp, hpx⟩
    obtain ⟨s, _, hps⟩ := List.mem_flatMap.mp hp
    exact ⟨p, ((mem_overlapping _ _ _).mp hps).1, hpx⟩
  · rintro ⟨p, hp, hpx⟩
    exact ⟨p, List.mem_flatMap.mpr ⟨r, hr, (mem_overlapping _ _ _).mpr
      ⟨hp, Nat.le_trans hpx.1 hx.2, Nat.le_trans hx.1 hpx.2⟩⟩, hpx⟩

namespace DState

/-- `req_full[a]` (`c = none`) or `req_partials[(a, v)]` (`c = some v`), empty when absent -/
def req (st : DState) (a : Actor) : Option Nat → RSet
  | none => (aget a st.reqFull).getD []
  | some v => (aget (a, v) st.reqPartials).getD []

def push (st : DState) (a : Actor) (c : Option Nat) (R : RSet)
    (out : List (Actor × Actor × Need)) : DState :=
  match c with
  | none => { st with reqFull := aset a R st.reqFull, sent := st.sent ++ out }
  | some v => { st with reqPartials := aset (a, v) R st.reqPartials, sent := st.sent ++ out }

end DState

/-- how the new pieces go on the wire: one `Full` need per interval, one `Partial` need for all -/
def emit (srv a : Actor) : Need → RSet → List (Actor × Actor × Need)
  | .full _ _, new => new.map (fun v => (srv, a, Need.full v.1 v.2))
  | .part v _, new => [(srv, a, Need.part v new)]

theorem dedupStep_eq (st : DState) (srv a : Actor) (n : Need) :
    dedupStep st srv (a, n) =
      if (fresh (st.req a n.kind) n.pts).isEmpty then st
      else st.push a n.kind (insertAll (st.req a n.kind) (fresh (st.req a n.kind) n.pts))
        (emit srv a n (fresh (st.req a n.kind) n.pts)) := by
  cases n <;> rfl

theorem push_sent (st : DState) (a : Actor) (c : Option Nat) (R : RSet)
    (out : List (Actor × Actor × Need)) : (st.push a c R out).sent = st.sent ++ out := by
  cases c <;> rfl

theorem push_req_same (st : DState) (a : Actor) (c : Option Nat) (R : RSet)
    (out : List (Actor × Actor × Need)) : (st.push a c R out).req a c = R := by
  cases c <;> simp only [DState.push, DState.req, aget_aset_same, Option.getD_some]

theorem push_req_other (st : DState) {a a' : Actor} {c c' : Option Nat} (R : RSet)
    (out : List (Actor × Actor × Need)) (h : (a', c') ≠ (a, c)) :
    (st.push a c R out).req a' c' = st.req a' c' := by
  cases c with
  | none =>
    cases c' with
    | none => exact congrArg (·.getD []) (aget_aset_other a a' R _ fun e => h (e ▸ rfl))
    | some v' => rfl
  | some v =>
    cases c' with
    | none => rfl
    | some v' =>
      exact congrArg (·.getD [])
        (aget_aset_other (a, v) (a', v') R _ fun e => h (by cases e; rfl))

theorem sent_emit (srv a0 : Actor) (n : Need) (new : RSet) (a : Actor) (c : Option Nat) (x : Nat) :
    Sent (emit srv a0 n new) a c x ↔ (a = a0 ∧ c = n.kind) ∧ Mem new x := by
  cases n with
  | part v sq => exact sent_singleton srv a0 (.part v new) a c x
  | full lo hi =>
    simp only [Sent, emit, List.mem_map]
    constructor
    · rintro ⟨_, _, ⟨v, hv, heq⟩, rfl, hx⟩
      cases heq
      exact ⟨⟨rfl, rfl⟩, v, hv, mem_singleton.mp hx⟩
    · rintro ⟨⟨rfl, rfl⟩, v, hv, hx⟩
      exact ⟨srv, _, ⟨v, hv, rfl⟩, rfl, mem_singleton.mpr hx⟩

theorem emit_subOf (srv a0 : Actor) (n : Need) {new : RSet} (hw : WF new)
    (hsub : ∀ x, Mem new x → Mem n.pts x) :
    ∀ e ∈ emit srv a0 n new, ∃ m, e = (srv, a0, m) ∧ m.SubOf n := by
  intro e he
  cases n with
  | part v sq => exact ⟨_, List.mem_singleton.mp he, rfl, hsub⟩
  | full lo hi =>
    obtain ⟨v, hv, rfl⟩ := List.mem_map.mp he
    have hvf := wf_forward hw v hv
    exact ⟨_, rfl, (mem_singleton.mp (hsub v.1 ⟨v, hv, Nat.le_refl _, hvf⟩)).1, hvf,
      (mem_singleton.mp (hsub v.2 ⟨v, hv, hvf, Nat.le_refl _⟩)).2⟩

/-- two wire entries `(server, actor, need)` do not ask for the same thing: if they concern the
same actor, two `Full` ranges share no version and two `Partial` needs of the same version share
no seq (whichever servers they were sent to). -/
def DisjointReq (e1 e2 : Actor × Actor × Need) : Prop :=
  e1.2.1 = e2.2.1 →
    match e1.2.2, e2.2.2 with
    | .full l1 h1, .full l2 h2 => ∀ x, ¬ ((l1 ≤ x ∧ x ≤ h1) ∧ (l2 ≤ x ∧ x ≤ h2))
    | .part v1 s1, .part v2 s2 => v1 = v2 → ∀ s, ¬ (Mem s1 s ∧ Mem s2 s)
    | _, _ => True

theorem disjointReq_of {e1 e2 : Actor × Actor × Need}
    (h : e1.2.1 = e2.2.1 → e1.2.2.kind = e2.2.2.kind →
      ∀ x, ¬ (Mem e1.2.2.pts x ∧ Mem e2.2.2.pts x)) : DisjointReq e1 e2 := by
  obtain ⟨s1, a1, n1⟩ := e1
  obtain ⟨s2, a2, n2⟩ := e2
  intro ha
  cases n1 <;> cases n2
  · exact fun x hx => h ha rfl x ⟨mem_singleton.mpr hx.1, mem_singleton.mpr hx.2⟩
  · trivial
  · trivial
  · exact fun hv => h ha (congrArg some hv)

theorem emit_pairwise (srv a : Actor) (n : Need) {new : RSet} (hw : WF new) :
    (emit srv a n new).Pairwise DisjointReq := by
  cases n with
  | part => exact List.pairwise_singleton _ _
  | full =>
    refine List.pairwise_map.mpr ((wf_nodup hw).imp_of_mem fun hp hq hne _ x hx => ?_)
    have := wf_pairwise hw hp hq hne
    omega

/-- `req_full` / `req_partials` are canonical interval sets and describe exactly what has been put
on the wire so far, and nothing has been put there twice. -/
def Inv (st : DState) : Prop :=
  (∀ a c, WF (st.req a c) ∧ ∀ x, Mem (st.req a c) x ↔ Sent st.sent a c x) ∧
    st.sent.Pairwise DisjointReq

theorem inv_empty : Inv DState.empty := ⟨fun a c => by
  cases c <;> exact ⟨wf_nil, fun x => ⟨fun h => (mem_nil x h).elim, fun h => (sent_nil h).elim⟩⟩,
  List.Pairwise.nil⟩

/-- One popped item: the wire afterwards covers what it covered before and the item; what is added
to the wire goes to the item's server and lies inside the item. -/
theorem dedupStep_spec (st : DState) (hinv : Inv st) (srv a0 : Actor) (n : Need) (hf : n.Forward) :
    Inv (dedupStep st srv (a0, n)) ∧
    (∀ a c x, Sent (dedupStep st srv (a0, n)).sent a c x ↔
      Sent st.sent a c x ∨ Sent [(srv, a0, n)] a c x) ∧
    (∀ e ∈ (dedupStep st srv (a0, n)).sent, e ∈ st.sent ∨ ∃ m, e = (srv, a0, m) ∧ m.SubOf n) := by
  obtain ⟨hreq, hpw⟩ := hinv
  obtain ⟨hnwf, hnew⟩ := fresh_spec (hreq a0 n.kind).1 hf
  rw [dedupStep_eq]
  generalize fresh (st.req a0 n.kind) n.pts = new at hnwf hnew ⊢
  -- the new pieces and what was requested before make up the item
  have hcov : ∀ a c x, Sent st.sent a c x ∨ ((a = a0 ∧ c = n.kind) ∧ Mem new x) ↔
      Sent st.sent a c x ∨ Sent [(srv, a0, n)] a c x := by
    intro a c x
    rw [sent_singleton, hnew]
    constructor
    · exact Or.imp_right fun h => ⟨h.1, h.2.1⟩
    · rintro (h | ⟨⟨rfl, rfl⟩, hx⟩)
      · exact .inl h
      · exact (Decidable.em (Mem (st.req a n.kind) x)).imp ((hreq _ _).2 x).mp
          fun hm => ⟨⟨rfl, rfl⟩, hx, hm⟩
  by_cases hemp : new = []
  · rw [if_pos (List.isEmpty_iff.mpr hemp)]
    refine ⟨⟨hreq, hpw⟩, fun a c x => ?_, fun e he => .inl he⟩
    rw [← hcov, hemp]
    exact (or_iff_left fun h => mem_nil x h.2).symm
  · rw [if_neg (mt List.isEmpty_iff.mp hemp)]
    refine ⟨⟨fun a c => ?_, ?_⟩, fun a c x => ?_, fun e he => ?_⟩
    · by_cases h : (a, c) = (a0, n.kind)
      · cases h
        rw [push_req_same]
        refine ⟨insertAll_wf _ _ (hreq _ _).1 (wf_forward hnwf), fun x => ?_⟩
        rw [push_sent, sent_append, sent_emit, mem_insertAll _ _ (wf_forward hnwf), (hreq _ _).2]
        exact or_congr_right (and_iff_right ⟨rfl, rfl⟩).symm
      · rw [push_req_other _ _ _ h]
        refine ⟨(hreq a c).1, fun x => ?_⟩
        rw [push_sent, sent_append, sent_emit, (hreq a c).2]
        exact (or_iff_left fun h' => h (by rw [h'.1.1, h'.1.2])).symm
    · rw [push_sent, List.pairwise_append]
      refine ⟨hpw, emit_pairwise srv a0 n hnwf, fun e1 he1 e2 he2 =>
        disjointReq_of fun ha hk x hx => ?_⟩
      -- a point of the new entry `e2` is new; one of the old entry `e1` is in the set subtracted
      obtain ⟨s1, a1, n1⟩ := e1
      obtain ⟨s2, a2, n2⟩ := e2
      obtain ⟨⟨rfl, hk2⟩, hnx⟩ := (sent_emit srv a0 n _ a2 n2.kind x).mp ⟨s2, n2, he2, rfl, hx.2⟩
      cases ha
      exact ((hnew x).mp hnx).2 (((hreq _ _).2 x).mpr ⟨s1, n1, he1, hk.trans hk2, hx.1⟩)
    · rw [push_sent, sent_append, sent_emit]
      exact hcov a c x
    · rw [push_sent] at he
      exact (List.mem_append.mp he).imp_right
        (emit_subOf srv a0 n hnwf (fun x hx => ((hnew x).mp hx).1) e)

/-- the whole session, for ANY popping order `items`. -/
theorem sendAll_spec (items : List (Actor × Item)) (hfw : ∀ si ∈ items, si.2.2.Forward)
    (st : DState) (hinv : Inv st) :
    Inv (sendAll st items) ∧
    (∀ a c x, Sent (sendAll st items).sent a c x ↔ Sent st.sent a c x ∨ Sent items a c x) ∧
    (∀ e ∈ (sendAll st items).sent,
      e ∈ st.sent ∨ ∃ n0, (e.1, e.2.1, n0) ∈ items ∧ e.2.2.SubOf n0) := by
  induction items generalizing st with
  | nil =>
    exact ⟨hinv, fun a c x => ⟨.inl, fun h => h.elim id fun h => (sent_nil h).elim⟩,
      fun e he => .inl he⟩
  | cons si items ih =>
    obtain ⟨srv, a0, n0⟩ := si
    obtain ⟨i1, i2, i3⟩ := dedupStep_spec st hinv srv a0 n0 (hfw _ List.mem_cons_self)
    obtain ⟨j1, j2, j3⟩ := ih (fun si h => hfw si (List.mem_cons_of_mem _ h)) _ i1
    refine ⟨j1, fun a c x => ?_, fun e he => ?_⟩
    · exact (j2 a c x).trans <| (or_congr_left (i2 a c x)).trans <|
        or_assoc.trans (or_congr_right (sent_append [(srv, a0, n0)] items a c x).symm)
    · rcases j3 e he with h | ⟨n1, h1, h2⟩
      · rcases i3 e h with h | ⟨m, rfl, h3⟩
        · exact .inl h
        · exact .inr ⟨n0, List.mem_cons_self, h3⟩
      · exact .inr ⟨n1, List.mem_cons_of_mem _ h1, h2⟩

end Corro.Needs
