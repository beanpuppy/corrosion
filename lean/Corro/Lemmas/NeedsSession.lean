/-
For C04: the popping order of a `parallel_sync` session (`roundStep`, `schedule`)
visits every queued item, chunking preserves coverage, and the composition `syncSession`.
-/
import Corro.Lemmas.NeedsDedup
import Corro.Props.C08

namespace Corro.Needs
open Corro.RSet

def Queued (servers : List (Actor × List Item)) (s : Actor) (it : Item) : Prop :=
  ∃ q, (s, q) ∈ servers ∧ it ∈ q

theorem queued_cons (s0 : Actor) (q0 : List Item) (rest : List (Actor × List Item)) (s : Actor)
    (it : Item) : Queued ((s0, q0) :: rest) s it ↔ (s = s0 ∧ it ∈ q0) ∨ Queued rest s it := by
  simp only [Queued, List.mem_cons, Prod.mk.injEq, or_and_right, exists_or]
  exact or_congr_left ⟨fun ⟨_, ⟨h, rfl⟩, hi⟩ => ⟨h, hi⟩, fun ⟨h, hi⟩ => ⟨_, ⟨h, rfl⟩, hi⟩⟩

theorem queued_keep (s0 : Actor) (q0 : List Item) (rest : List (Actor × List Item)) (s : Actor)
    (it : Item) :
    Queued (if q0.isEmpty then rest else (s0, q0) :: rest) s it ↔
      (s = s0 ∧ it ∈ q0) ∨ Queued rest s it := by
  cases q0 with
  | nil => exact ⟨.inr, fun h => h.elim (fun h => (List.not_mem_nil h.2).elim) id⟩
  | cons => exact queued_cons ..

theorem mem_split_back {α : Type} (q : List α) (d : Nat) (x : α) :
    x ∈ q ↔ x ∈ q.reverse.take d ∨ x ∈ q.take (q.length - d) := by
  rw [List.take_reverse, List.mem_reverse]
  conv => lhs; rw [← List.take_append_drop (q.length - d) q]
  rw [List.mem_append]; exact Or.comm

/-- the test for an empty queue only saves work: popping from an empty queue pops nothing. -/
theorem roundStep_cons (d : Nat) (s : Actor) (q : List Item) (rest : List (Actor × List Item)) :
    roundStep d ((s, q) :: rest) =
      ((q.reverse.take d).map (fun it => (s, it)) ++ (roundStep d rest).1,
        if (q.take (q.length - d)).isEmpty then (roundStep d rest).2
        else (s, q.take (q.length - d)) :: (roundStep d rest).2) := by
  cases q with
  | nil => simp [roundStep]
  | cons => rfl

theorem roundStep_mem (d : Nat) (servers : List (Actor × List Item)) (s : Actor) (it : Item) :
    (s, it) ∈ (roundStep d servers).1 ∨ Queued (roundStep d servers).2 s it ↔
      Queued servers s it := by
  induction servers with
  | nil => exact ⟨fun h => h.elim (fun h => nomatch h) id, .inr⟩
  | cons sq rest ih =>
    obtain ⟨s0, q0⟩ := sq
    have hpop : (s, it) ∈ (q0.reverse.take d).map (fun it => (s0, it)) ↔
        s = s0 ∧ it ∈ q0.reverse.take d := by
      simp only [List.mem_map, Prod.mk.injEq]
      exact ⟨fun ⟨_, h, h1, h2⟩ => ⟨h1.symm, h2 ▸ h⟩, fun ⟨h1, h⟩ => ⟨_, h, h1.symm, rfl⟩⟩
    rw [roundStep_cons, queued_keep, queued_cons, ← ih, mem_split_back q0 d it, List.mem_append,
      hpop, and_or_left]
    exact or_or_or_comm

theorem totalLen_cons (s : Actor) (q : List Item) (rest : List (Actor × List Item)) :
    totalLen ((s, q) :: rest) = q.length + totalLen rest := by
  simp [totalLen]

theorem roundStep_progress (d : Nat) (hd : 1 ≤ d) (servers : List (Actor × List Item)) :
    (roundStep d servers).2 = [] ∨ totalLen (roundStep d servers).2 < totalLen servers := by
  induction servers with
  | nil => exact .inl rfl
  | cons sq rest ih =>
    obtain ⟨s0, q0⟩ := sq
    have ih' : totalLen (roundStep d rest).2 ≤ totalLen rest :=
      ih.elim (fun h => h ▸ Nat.zero_le _) Nat.le_of_lt
    rw [roundStep_cons, totalLen_cons]
    split
    · exact ih.imp id (fun h => Nat.lt_of_lt_of_le h (Nat.le_add_left _ _))
    · -- a non-empty remainder is what is left of `q0` after `d ≥ 1` pops
      rename_i hrem
      have hdl : d < q0.length := Nat.lt_of_sub_ne_zero fun h => hrem (by rw [h]; rfl)
      rw [totalLen_cons, List.length_take]
      exact .inr (Nat.add_lt_add_of_lt_of_le (Nat.lt_of_le_of_lt (Nat.min_le_left _ _)
        (Nat.sub_lt (Nat.zero_lt_of_lt hdl) hd)) ih')

theorem schedule_nil (d f : Nat) : schedule d f [] = [] := by
  cases f <;> rfl

/-- `f` is the fuel of `schedule`; a round takes at least one item off a non-empty list of queues
(`roundStep_progress`), so any `f` above the number of items waiting is enough -/
theorem mem_schedule (d : Nat) (hd : 1 ≤ d) (f : Nat) (servers : List (Actor × List Item))
    (hf : totalLen servers < f) (s : Actor) (it : Item) :
    (s, it) ∈ schedule d f servers ↔ Queued servers s it := by
  induction f generalizing servers with
  | zero => exact absurd hf (Nat.not_lt_zero _)
  | succ f ih =>
    cases servers with
    | nil => exact ⟨(nomatch ·), fun ⟨_, h, _⟩ => nomatch h⟩
    | cons sq rest =>
      rw [← roundStep_mem d (sq :: rest) s it]
      refine List.mem_append.trans (or_congr_right ?_)
      rcases roundStep_progress d hd (sq :: rest) with h | h
      · rw [h, schedule_nil]
        exact ⟨(nomatch ·), fun ⟨_, h, _⟩ => nomatch h⟩
      · exact ih _ (Nat.lt_of_lt_of_le h (Nat.le_of_lt_succ hf))

theorem chunkNeed_spec (k : Nat) (hk : 1 ≤ k) (n : Need) (hn : n.Forward) :
    (∀ c ∈ chunkNeed k n, c.Forward ∧ c.SubOf n) ∧
    (∀ κ x, (∃ c ∈ chunkNeed k n, c.kind = κ ∧ Mem c.pts x) ↔ n.kind = κ ∧ Mem n.pts x) := by
  cases n with
  | full lo hi =>
    obtain ⟨h1, h2⟩ := Corro.Chunker.chunkRange_union lo hi k hk
    simp only [chunkNeed, List.mem_map]
    constructor
    · rintro c ⟨b, hb, rfl⟩
      exact ⟨fun r hr => List.mem_singleton.mp hr ▸ (h1 b hb).2.1, h1 b hb⟩
    · intro κ x
      constructor
      · rintro ⟨_, ⟨b, hb, rfl⟩, hκ, hx⟩
        exact ⟨hκ, mem_singleton.mpr ((h2 x).mp ⟨b, hb, mem_singleton.mp hx⟩)⟩
      · rintro ⟨hκ, hx⟩
        obtain ⟨b, hb, hbx⟩ := (h2 x).mpr (mem_singleton.mp hx)
        exact ⟨_, ⟨b, hb, rfl⟩, hκ, mem_singleton.mpr hbx⟩
  | part v sq =>
    simp only [chunkNeed, List.mem_singleton]
    constructor
    · rintro c rfl
      exact ⟨hn, rfl, fun _ hs => hs⟩
    · exact fun κ x => ⟨fun ⟨_, hc, h⟩ => hc ▸ h, fun h => ⟨_, rfl, h⟩⟩

theorem mem_queueOf (k : Nat) (needs : List (Actor × List Need)) (a : Actor) (c : Need) :
    (a, c) ∈ queueOf k needs ↔ ∃ ns, (a, ns) ∈ needs ∧ ∃ n ∈ ns, c ∈ chunkNeed k n := by
  simp only [queueOf, List.mem_flatMap, List.mem_map, Prod.mk.injEq]
  constructor
  · rintro ⟨⟨a', ns⟩, h1, c', ⟨n, hn, hc⟩, rfl, rfl⟩
    exact ⟨ns, h1, n, hn, hc⟩
  · rintro ⟨ns, h1, n, hn, hc⟩
    exact ⟨(a, ns), h1, c, ⟨n, hn, hc⟩, rfl, rfl⟩

theorem mem_serversOf (k : Nat) (us : SyncState) (peers : List SyncState) (srv : Actor)
    (q : List Item) :
    (srv, q) ∈ serversOf k us peers ↔
      ∃ p ∈ peers, p.actor = srv ∧ computeAvailableNeeds us p ≠ [] ∧
        q = queueOf k (computeAvailableNeeds us p) := by
  unfold serversOf
  rw [List.mem_filterMap]
  refine exists_congr fun p => and_congr_right fun _ => ?_
  by_cases he : computeAvailableNeeds us p = []
  · rw [if_pos (List.isEmpty_iff.mpr he)]
    exact ⟨(nomatch ·), fun h => (h.2.1 he).elim⟩
  · rw [if_neg (mt List.isEmpty_iff.mp he), Option.some.injEq, Prod.mk.injEq]
    exact ⟨fun ⟨h1, h2⟩ => ⟨h1, he, h2.symm⟩, fun ⟨h1, _, h2⟩ => ⟨h1, h2.symm⟩⟩

theorem mem_session_schedule (k d : Nat) (hd : 1 ≤ d) (us : SyncState) (peers : List SyncState)
    (srv a : Actor) (c : Need) :
    (srv, (a, c)) ∈ schedule d (totalLen (serversOf k us peers) + 1) (serversOf k us peers) ↔
      ∃ p ∈ peers, p.actor = srv ∧ ∃ ns, (a, ns) ∈ computeAvailableNeeds us p ∧
        ∃ n ∈ ns, c ∈ chunkNeed k n := by
  rw [mem_schedule d hd _ _ (Nat.lt_succ_self _) srv (a, c)]
  constructor
  · rintro ⟨q, hq, hc⟩
    obtain ⟨p, hp, hsrv, _, rfl⟩ := (mem_serversOf k us peers srv q).mp hq
    exact ⟨p, hp, hsrv, (mem_queueOf k _ a c).mp hc⟩
  · rintro ⟨p, hp, hsrv, ns, hns, h⟩
    exact ⟨_, (mem_serversOf k us peers srv _).mpr ⟨p, hp, hsrv, List.ne_nil_of_mem hns, rfl⟩,
      (mem_queueOf k _ a c).mpr ⟨ns, hns, h⟩⟩

theorem session_items_forward (k d : Nat) (hk : 1 ≤ k) (hd : 1 ≤ d) (us : SyncState)
    (peers : List SyncState)
    (hfw : ∀ p ∈ peers, ∀ a ns, (a, ns) ∈ computeAvailableNeeds us p → ∀ n ∈ ns, n.Forward) :
    ∀ si ∈ schedule d (totalLen (serversOf k us peers) + 1) (serversOf k us peers),
      si.2.2.Forward := by
  rintro ⟨srv, a, c⟩ hsi
  obtain ⟨p, hp, _, ns, hns, n, hn, hc⟩ := (mem_session_schedule k d hd us peers srv a c).mp hsi
  exact ((chunkNeed_spec k hk n (hfw p hp a ns hns n hn)).1 c hc).1

/-- The session in terms of the computed needs: the wire covers, cell by cell, exactly what was
computed for some peer; each server is asked only for parts of what was computed for it; nothing is
asked for twice.  `hwa` holds for well-formed states; only that the ranges are forward is used. -/
theorem session_spec (k d : Nat) (hk : 1 ≤ k) (hd : 1 ≤ d) (us : SyncState) (peers : List SyncState)
    (hwa : ∀ p ∈ peers, ∀ a ns, (a, ns) ∈ computeAvailableNeeds us p → ∀ n ∈ ns, n.WithinAdvertised p a) :
    (∀ a c x, Sent (syncSession k d us peers) a c x ↔
        ∃ p ∈ peers, ∃ ns, (a, ns) ∈ computeAvailableNeeds us p ∧
          ∃ n ∈ ns, n.kind = c ∧ Mem n.pts x) ∧
    (∀ srv a n, (srv, a, n) ∈ syncSession k d us peers →
        ∃ p ∈ peers, p.actor = srv ∧ ∃ ns n0, (a, ns) ∈ computeAvailableNeeds us p ∧ n0 ∈ ns ∧
          n.SubOf n0) ∧
    (syncSession k d us peers).Pairwise DisjointReq := by
  have hsched := mem_session_schedule k d hd us peers
  have hfw := fun p hp a ns hns n hn => withinAdvertised_forward (hwa p hp a ns hns n hn)
  have hchunk : ∀ p ∈ peers, ∀ a ns, (a, ns) ∈ computeAvailableNeeds us p → ∀ n ∈ ns, _ :=
    fun p hp a ns hns n hn => chunkNeed_spec k hk n (hfw p hp a ns hns n hn)
  obtain ⟨j1, j2, j3⟩ :=
    sendAll_spec _ (session_items_forward k d hk hd us peers hfw) DState.empty inv_empty
  refine ⟨?_, ?_, j1.2⟩
  · intro a c x
    refine (j2 a c x).trans ((or_iff_right sent_nil).trans ⟨?_, ?_⟩)
    · rintro ⟨srv, ch, hm, hκ, hx⟩
      obtain ⟨p, hp, _, ns, hns, n, hn, hc⟩ := (hsched srv a ch).mp hm
      exact ⟨p, hp, ns, hns, n, hn, ((hchunk p hp a ns hns n hn).2 c x).mp ⟨ch, hc, hκ, hx⟩⟩
    · rintro ⟨p, hp, ns, hns, n, hn, h⟩
      obtain ⟨ch, hc, hκ, hx⟩ := ((hchunk p hp a ns hns n hn).2 c x).mpr h
      exact ⟨p.actor, ch, (hsched p.actor a ch).mpr ⟨p, hp, rfl, ns, hns, n, hn, hc⟩, hκ, hx⟩
  · intro srv a n hm
    obtain ⟨c, h2, h3⟩ := (j3 (srv, a, n) hm).resolve_left List.not_mem_nil
    obtain ⟨p, hp, hsrv, ns, hns, n0, hn0, hc⟩ := (hsched srv a c).mp h2
    exact ⟨p, hp, hsrv, ns, n0, hns, hn0, subOf_trans h3 ((hchunk p hp a ns hns n0 hn0).1 c hc).2⟩

end Corro.Needs
