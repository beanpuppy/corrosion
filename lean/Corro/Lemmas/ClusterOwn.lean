/-
C01 with crashes — every node knows its own versions.  `Crash.OwnAt`: node `i` sits at its id, knows
every version it has produced with NO partial at all (`OwnB`), and its own db-version row has reached
its own head.  This survives a local write and the log growing under the node (`OwnAt.write`,
`OwnAt.cons_log`); a restart keeps `OwnB` of the versions up to the db-version row, from which it rebuilds
the head (`restart_keeps`), and the db-version rows only grow (`dbvOf_*_ge`), which is what a delivery
(`Full.dbvOf_deliverB_ge` of `ClusterFullEffect.lean`, beside `Full.deliverB_keeps`) and a restart need
for the last clause; `Full.reachF_all` (`ClusterReachInv.lean`) puts these together.
-/
import Corro.Lemmas.ClusterRestart
import Corro.Lemmas.ClusterWrite

namespace Corro.ClusterSys.Crash
open Corro.Crdt Corro.Node Corro.ClusterSys

theorem _root_.Corro.Node.OwnB.held {n : Node} {a v : Nat} (h : OwnB (n.booked a) v) : Held n a v :=
  ⟨h.1, fun p hp => by rw [h.2] at hp; cases hp⟩

theorem le_ite_max (f : Nat → Nat) (v : Nat) {a s : Nat} : f a ≤ if a = s then Nat.max (f s) v else f a := by
  split
  · rename_i h; rw [h]; exact Nat.le_max_left _ _
  · exact Nat.le_refl _

theorem dbvOf_mergeChanges_ge (n : Node) (cs : List Chg) (a : Nat) :
    dbvOf n a ≤ dbvOf (n.mergeChanges cs) a := by
  induction cs generalizing n with
  | nil => exact Nat.le_refl _
  | cons c cs ih =>
    rw [mergeChanges_cons]
    refine Nat.le_trans ?_ (ih _)
    show _ ≤ dbvOf (n.bumpDbv c.site c.dbv) a
    rw [dbvOf_bumpDbv]
    exact le_ite_max _ _

theorem dbvOf_applyBuffered_ge (m : Node) (a0 v0 a : Nat) : dbvOf m a ≤ dbvOf (m.applyBuffered a0 v0) a := by
  rcases applyBuffered_cases m a0 v0 with ⟨hX, _⟩ | ⟨p, _, _, hX⟩
  · rw [hX]; exact Nat.le_refl _
  · rw [hX, dbvOf_congr (clearMeta_dbv _ _ _ _), dbvOf_applyCore]
    exact le_ite_max _ _

theorem dbvOf_applyAll_ge (m : Node) (T : List (Nat × Nat)) (a : Nat) : dbvOf m a ≤ dbvOf (applyAll m T) a := by
  induction T generalizing m with
  | nil => exact Nat.le_refl _
  | cons t T ih =>
    show _ ≤ dbvOf (applyAll (m.applyBuffered t.1 t.2) T) a
    exact Nat.le_trans (dbvOf_applyBuffered_ge m t.1 t.2 a) (ih _)

theorem dbvOf_restart_ge (n : Node) (a : Nat) : dbvOf n a ≤ dbvOf n.restart a := by
  rw [restart_eq']
  exact dbvOf_applyAll_ge (reloaded n) _ a

theorem dbvOf_bump_ge (n : Node) (a0 v0 a : Nat) : dbvOf n a ≤ dbvOf (n.bumpDbv a0 v0) a := by
  rw [dbvOf_bumpDbv]; exact le_ite_max _ _

theorem restart_keeps {P : Nat → Nat → Prop} {L : Log} {n : Node} {R : List Chg} (hN : NInv L n R)
    (hI : CInv P L n R) (hL : LogOK L) {a v : Nat} (h : OwnB (n.booked a) v) (hv : v ≤ dbvOf n a) :
    OwnB (n.restart.booked a) v := by
  have hnr : ¬ HasRows n a v := by
    rintro ⟨r, hr, h1, h2⟩
    obtain ⟨p, hp⟩ := hI.rows_part r hr
    rw [h1, h2, h.2] at hp
    cases hp
  have hp0 : ((reloaded n).booked a).partial? v = none := by
    cases hp : ((reloaded n).booked a).partial? v with
    | none => rfl
    | some p =>
      exact absurd ((reloaded_partial_isSome hI a v).mp (by rw [hp]; rfl)) hnr
  have hh : Held (reloaded n) a v := by
    refine ⟨(containsVersion_iff _ _).mpr ⟨?_, ?_⟩, fun p hp => by rw [hp0] at hp; cases hp⟩
    · rw [reloaded_needed]; exact ((containsVersion_iff _ _).mp h.1).1
    · have := (reloaded_max hI a).1
      omega
  refine ⟨((cinv_restart hN hI hL).2.2 a v hh).1, ?_⟩
  rw [restart_eq', partial?_applyAll]
  exact hp0

/-- node `i` of a cluster of `k` nodes with log `L` sits at its id, the log only mentions nodes of the
cluster, the node knows every version it has produced with no partial, and its own db-version row has
reached its own head -/
structure OwnAt (k : Nat) (L : Log) (i : Nat) (n : Node) : Prop where
  lt : i < k
  id : n.id = i
  sites : ∀ e ∈ L, e.1.1 < k
  own : ∀ v, 1 ≤ v → v ≤ L.head i → OwnB (n.booked i) v
  own_dbv : L.head i ≤ dbvOf n i

theorem ownAt_fresh {k i : Nat} (hi : i < k) : OwnAt k [] i (Node.fresh i) :=
  ⟨hi, rfl, fun _ he => absurd he List.not_mem_nil,
    fun _ h1 h2 => absurd (Nat.le_trans h1 h2) (Nat.not_succ_le_zero 0), Nat.zero_le _⟩

theorem OwnAt.cons_log {k : Nat} {L : Log} {i : Nat} {n : Node} (h : OwnAt k L i n)
    {e : (Nat × Nat) × List Chg} (hk : e.1.1 < k) (hne : e.1.1 ≠ i) : OwnAt k (e :: L) i n := by
  have hhd : Log.head (e :: L) i = L.head i := by rw [head_cons, if_neg hne]
  refine ⟨h.lt, h.id, ?_, ?_, ?_⟩
  · intro f hf
    rcases List.mem_cons.mp hf with rfl | hf
    · exact hk
    · exact h.sites f hf
  · rw [hhd]; exact h.own
  · rw [hhd]; exact h.own_dbv

theorem OwnAt.write {k : Nat} {L : Log} {i : Nat} {n n' : Node} {R : List Chg} {stmts : List Stmt}
    {ver : Nat} {chs : List Chg} (h : OwnAt k L i n) (hF : FullK L n R)
    (hw : n.localWrite stmts = .ok (n', some (ver, chs))) (hL : LogOK (((n.id, ver), chs) :: L)) :
    OwnAt k (((n.id, ver), chs) :: L) i n' := by
  obtain ⟨_, hheld, hpart, hid, _, _, hdbver⟩ := cinv_write hF.1 hF.2 hw hL
  have hni := h.id
  have hver : ver = L.head i + 1 := by rw [← hni]; exact hL.2.1
  have hhd : Log.head (((n.id, ver), chs) :: L) i = ver := by rw [head_cons, if_pos hni, hver]
  refine ⟨h.lt, hid.trans hni, ?_, ?_, ?_⟩
  · intro e he
    rcases List.mem_cons.mp he with rfl | he
    · show n.id < k
      rw [hni]; exact h.lt
    · exact h.sites e he
  · intro v h1 h2
    rw [hhd] at h2
    by_cases hv : v = ver
    · refine ⟨((hheld i v).mpr (Or.inl ⟨hni.symm, Nat.le_of_eq hv.symm, Nat.le_of_eq hv⟩)).1, ?_⟩
      -- the new version is beyond the old head: no partial
      rw [hpart]
      cases hp : (n.booked i).partial? v with
      | none => rfl
      | some p =>
        have h3 := Nat.le_trans ((containsVersion_iff _ _).mp (hF.2.part_known i v p hp)).2 (hF.2.head_le i)
        rw [hv, hver] at h3
        exact absurd h3 (Nat.not_succ_le_self _)
    · rw [hver] at h2 hv
      have ho := h.own v h1 (Nat.le_of_lt_succ (Nat.lt_of_le_of_ne h2 hv))
      exact ⟨((hheld i v).mpr (Or.inr ho.held)).1, by rw [hpart]; exact ho.2⟩
  · rw [hhd, ← hni]; exact hdbver

end Corro.ClusterSys.Crash
