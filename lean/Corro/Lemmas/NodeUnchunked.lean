/-
For `apply_eq_unchunked` of C03: the chunks of one version, delivered one per batch in any order
with duplicates and overlaps, to an alive node that does not know the version.  The node is in a
`Before` state (store untouched, received chunks buffered) until the covering chunk, and in an
`After` state from then on.
-/
import Corro.Lemmas.NodeDeliverCons
import Corro.Lemmas.NodeOne
namespace Corro.Node
open Corro.Crdt

/-- the change list of the version: strictly sorted by seq, attributed to `(site, ver)`, seqs within
`0..=last` -/
structure CsOK (site ver last : Nat) (cs : List Chg) : Prop where
  sorted : cs.Pairwise (fun x y => x.seq < y.seq)
  own : ∀ c ∈ cs, c.site = site ∧ c.dbv = ver ∧ c.seq ≤ last

/-- the changes of the chunk with seq range `r` -/
def chunkOf (cs : List Chg) (r : Nat × Nat) : List Chg := cs.filter (fun c => r.1 ≤ c.seq ∧ c.seq ≤ r.2)

def chunkItem (site ver last : Nat) (cs : List Chg) (r : Nat × Nat) : Item :=
  Item.full site ver r.1 r.2 last (chunkOf cs r)

theorem cs_inj {site ver last : Nat} {cs : List Chg} (h : CsOK site ver last cs) {x y : Chg}
    (hx : x ∈ cs) (hy : y ∈ cs) (hs : x.seq = y.seq) : x = y :=
  Classical.byContradiction fun hne =>
    pairwise_of_ne (R := fun a b : Chg => a.seq ≠ b.seq) Ne.symm (h.sorted.imp Nat.ne_of_lt) hx hy hne hs

theorem chunkOf_all {site ver last : Nat} {cs : List Chg} (h : CsOK site ver last cs) :
    chunkOf cs (0, last) = cs := by
  unfold chunkOf
  apply List.filter_eq_self.mpr
  intro c hc
  have := (h.own c hc).2.2
  simp only [decide_eq_true_eq]
  omega

theorem chunkItem_wf {L : Nat → Nat → Nat} {site ver last : Nat} {cs : List Chg} (h : CsOK site ver last cs)
    (hL : L site ver = last) (r : Nat × Nat) (hr : r.2 ≤ last) : ItemWF L (chunkItem site ver last cs r) := by
  refine ⟨hL.symm, hr, ?_⟩
  intro c hc
  have hc' := List.mem_filter.mp hc
  have := h.own c hc'.1
  simp only [decide_eq_true_eq] at hc'
  exact ⟨this.1, this.2.1, hc'.2.1, hc'.2.2⟩

/-- the version is not applied yet -/
structure Before (L : Nat → Nat → Nat) (site ver : Nat) (cs : List Chg) (db0 : Db) (m : Node) : Prop where
  cons : Consistent L m
  alive : m.alive = true
  np : NoPending m
  keys : BufKeysUnique m.buf
  db : m.db = db0
  buf_sub : ∀ c ∈ m.buf, c.site = site → c.dbv = ver → c ∈ cs
  buf_sup : ∀ c ∈ cs, SeqMem m.seqRows site ver c.seq → c ∈ m.buf
  part : ((m.booked site).partial? ver = none ∧ (m.booked site).containsVersion ver = false) ∨
    ∃ q, (m.booked site).partial? ver = some q ∧ q.complete = false

/-- the version has been applied: the store is the old store with the whole change list merged, and
every further chunk of the version is known -/
structure After (site ver last : Nat) (cs : List Chg) (db0 : Db) (m : Node) : Prop where
  db : m.db = mergeAll db0 cs
  known : ∀ lo hi, hi ≤ last → (m.booked site).containsAll ver ver (some (lo, hi)) = true

theorem After.step {site ver last : Nat} {cs : List Chg} {db0 : Db} {m : Node} (h : After site ver last cs db0 m)
    (r : Nat × Nat) (hr : r.2 ≤ last) : (m.deliver [chunkItem site ver last cs r]) = m :=
  deliver_single_skip m _ (h.known r.1 r.2 hr)

theorem sortBySeq_bufOf_eq {site ver last : Nat} {cs : List Chg} (hcs : CsOK site ver last cs) (buf : List Chg)
    (hk : BufKeysUnique buf) (hsub : ∀ c ∈ buf, c.site = site → c.dbv = ver → c ∈ cs)
    (hsup : ∀ c ∈ cs, c ∈ buf) : sortBySeq (bufOf buf site ver) = cs := by
  have hmem : ∀ c, c ∈ bufOf buf site ver ↔ c ∈ cs := by
    intro c
    unfold bufOf
    rw [List.mem_filter]
    simp only [decide_eq_true_eq]
    constructor
    · rintro ⟨h1, h2, h3⟩; exact hsub c h1 h2 h3
    · intro h; have := hcs.own c h; exact ⟨hsup c h, this.1, this.2.1⟩
  -- two buffered rows of the version differ in their key, hence in their seq
  have hnd : (bufOf buf site ver).Pairwise (fun x y => x.seq ≠ y.seq) := by
    refine List.Pairwise.imp_of_mem ?_ (List.Pairwise.sublist List.filter_sublist hk)
    intro x y hx hy hk' hs
    have hx' := of_decide_eq_true (List.mem_filter.mp hx).2
    have hy' := of_decide_eq_true (List.mem_filter.mp hy).2
    exact of_decide_eq_false hk' ⟨hy'.1.trans hx'.1.symm, hy'.2.trans hx'.2.symm, hs.symm⟩
  apply eq_of_sorted_perm (fun (c : Chg) => c.seq) (sortBySeq_strict hnd) hcs.sorted
  intro c
  rw [mem_sortBySeq, hmem]

section
variable {L : Nat → Nat → Nat} {site ver last : Nat} {cs : List Chg} {db0 : Db} {m : Node}

theorem Before.step_complete (h : Before L site ver cs db0 m) (hcs : CsOK site ver last cs)
    (hL : L site ver = last) :
    After site ver last cs db0 (m.deliver [chunkItem site ver last cs (0, last)]) := by
  have hca := h.cons.actor site
  have hitem : chunkItem site ver last cs (0, last) = Item.full site ver 0 last last cs := by
    unfold chunkItem; rw [chunkOf_all hcs]
  have hnc : (m.booked site).containsAll ver ver (some (0, last)) = false := by
    rw [containsAll_single, contains_some_eq]
    rcases h.part with ⟨h1, h2⟩ | ⟨q, hq, hinc⟩
    · rw [h2]; rfl
    · rw [hq]
      simp only
      have hql : q.last = last := by rw [hca.part_last ver q hq, hL]
      have : (RSet.gaps q.seqs (0, last)).isEmpty = false := by
        rw [← hql]; exact hinc
      rw [this, Bool.and_false]
  have hknown : ∀ (N : Node), N.booked site = ((m.booked site).insertDb [(ver, ver)]).dropPartials ver ver →
      ∀ lo hi, (N.booked site).containsAll ver ver (some (lo, hi)) = true := by
    intro N hN lo hi
    rw [containsAll_single, contains_some_eq, hN, partial?_dropPartials,
      if_pos ⟨Nat.le_refl _, Nat.le_refl _⟩, containsVersion_dropPartials,
      (containsVersion_insertDb hca.needed_wf (Nat.le_refl ver) ver).mpr (Or.inl ⟨Nat.le_refl _, Nat.le_refl _⟩)]
    rfl
  rw [hitem]
  -- the whole version is not known and is no incomplete chunk: it settles `ver..=ver`
  rcases deliver_one m (.full site ver 0 last last cs) with ⟨_, h1 | ⟨_, _, _, _, _, _, h1, h2⟩⟩ |
      ⟨a, vlo, vhi, cs', hs, _, _, hd⟩ | ⟨_, _, _, _, _, _, h1, _, _, h2, _⟩
  · exact absurd (hnc.symm.trans h1) Bool.false_ne_true
  · cases h1; exact absurd h2 (Nat.not_lt_zero _)
  · obtain ⟨h1, -⟩ | ⟨_, h1, rfl⟩ := hs <;> cases h1
    rw [hd]
    exact ⟨by rw [clearedNode_db, dataNode_db, h.db], fun lo hi _ => hknown _ (clearedNode_booked_same ..) lo hi⟩
  · cases h1; exact absurd ⟨rfl, rfl⟩ h2

theorem Before.step_skip (h : Before L site ver cs db0 m) (r : Nat × Nat)
    (hct : (m.booked site).containsAll ver ver (some r) = true) :
    m.deliver [chunkItem site ver last cs r] = m ∧ ∀ x, r.1 ≤ x ∧ x ≤ r.2 → SeqMem m.seqRows site ver x := by
  refine ⟨deliver_single_skip m _ hct, ?_⟩
  intro x hx
  have hca := h.cons.actor site
  rw [containsAll_single, contains_some_eq] at hct
  rcases h.part with ⟨h1, h2⟩ | ⟨q, hq, hinc⟩
  · rw [h2] at hct; cases hct
  · rw [hq] at hct
    simp only [Bool.and_eq_true] at hct
    have hmem := mem_of_gaps_empty (hca.pwf.of_partial? hq) hct.2 hx
    obtain ⟨q', hq', hm⟩ := hca.partial_of_rows (hca.rows_of_incomplete hq hinc)
    rw [hq] at hq'; cases hq'
    exact (hm x).mp hmem

theorem Before.step_buffer (h : Before L site ver cs db0 m) (hcs : CsOK site ver last cs)
    (hL : L site ver = last) (r : Nat × Nat) (hlh : r.1 ≤ r.2) (hr : r.2 ≤ last)
    (hinc : ¬ (r.1 = 0 ∧ r.2 = last))
    (hnc : (m.booked site).containsAll ver ver (some r) = false) :
    (Before L site ver cs db0 (m.deliver [chunkItem site ver last cs r]) ∧
      ∀ x, (SeqMem m.seqRows site ver x ∨ (r.1 ≤ x ∧ x ≤ r.2)) →
        SeqMem (m.deliver [chunkItem site ver last cs r]).seqRows site ver x) ∨
    After site ver last cs db0 (m.deliver [chunkItem site ver last cs r]) := by
  have hwf : ∀ it ∈ [chunkItem site ver last cs r], ItemWF L it := by
    intro it hit
    simp only [List.mem_singleton] at hit
    subst hit
    exact chunkItem_wf hcs hL r hr
  have hm'c := deliver_consistent' h.cons _ hwf
  have hm'np := deliver_noPending' h.cons _ hwf h.alive h.np
  -- name the pre-apply node `X` and the partial stored for the version `got`; the rest is about `X`
  obtain ⟨hfold, hdel⟩ : deliverFold m [chunkItem site ver last cs r] =
        (bufNode m site ver r.1 r.2 last (chunkOf cs r),
          (if (bufPartial m site ver r.1 r.2 last (chunkOf cs r)).complete then [(site, ver)] else []), []) ∧
      m.deliver [chunkItem site ver last cs r] =
        if (bufPartial m site ver r.1 r.2 last (chunkOf cs r)).complete && m.alive then
          (bufNode m site ver r.1 r.2 last (chunkOf cs r)).applyBuffered site ver
        else bufNode m site ver r.1 r.2 last (chunkOf cs r) := by
    rcases deliver_one m (chunkItem site ver last cs r) with ⟨_, h1 | ⟨_, _, _, _, _, _, h1, h2⟩⟩ |
        ⟨_, _, _, _, hs, _⟩ | ⟨_, _, _, _, _, _, h1, _, _, _, h2⟩
    · exact absurd (hnc.symm.trans h1) Bool.false_ne_true
    · cases h1; exact absurd hlh (Nat.not_le_of_lt h2)
    · obtain ⟨h1, -⟩ | ⟨_, h1, _⟩ := hs
      · cases h1
      · simp only [chunkItem, Item.full.injEq] at h1
        exact absurd ⟨h1.2.2.1, h1.2.2.2.1.trans h1.2.2.2.2.1.symm⟩ hinc
    · cases h1; exact h2
  rw [h.alive, Bool.and_true] at hdel
  have hXpart := bufNode_partial m site ver r.1 r.2 last (chunkOf cs r)
  have hXalive : (bufNode m site ver r.1 r.2 last (chunkOf cs r)).alive = true := by
    unfold bufNode; rw [setBooked_alive, bufferChunk_alive]; exact h.alive
  have hXbuf : (bufNode m site ver r.1 r.2 last (chunkOf cs r)).buf = bufAdd m.buf (chunkOf cs r) :=
    bufNode_buf ..
  have hXdb := (bufNode_db m site ver r.1 r.2 last (chunkOf cs r)).trans h.db
  have hsm := seqMem_bufNode_same (a := site) (v := ver) (last := last) (cs := chunkOf cs r)
    (fun r' hr' => ((h.cons.actor r'.site).rows_fwd r' hr' rfl).1) hlh
  have hXhr := hasRows_bufNode_same m site ver r.1 r.2 last (chunkOf cs r)
  generalize bufNode m site ver r.1 r.2 last (chunkOf cs r) = X at *
  generalize bufPartial m site ver r.1 r.2 last (chunkOf cs r) = got at hfold hdel hXpart
  have hpre : preApply m [chunkItem site ver last cs r] = X := by
    unfold preApply; rw [hfold]; rfl
  have hXc : Consistent L X := by rw [← hpre]; exact preApply_consistent h.cons _ hwf
  have hXa := hXc.actor site
  have hsub : ∀ c ∈ X.buf, c.site = site → c.dbv = ver → c ∈ cs := by
    intro c hc h1 h2
    rw [hXbuf] at hc
    rcases mem_bufAdd hc with h3 | h3
    · exact h.buf_sub c h3 h1 h2
    · exact (List.mem_filter.mp h3).1
  have hsup : ∀ c ∈ cs, SeqMem X.seqRows site ver c.seq → c ∈ X.buf := by
    intro c hc hm
    rw [hXbuf]
    rcases (hsm c.seq).mp hm with h1 | h1
    · exact (bufAdd_prefix m.buf _).subset (h.buf_sup c hc h1)
    · have hcc : c ∈ chunkOf cs r := List.mem_filter.mpr ⟨hc, by simpa using h1⟩
      obtain ⟨x, hx, k1, k2, k3⟩ := bufAdd_has_key m.buf (chunkOf cs r) hcc
      have hco := hcs.own c hc
      have hxcs : x ∈ cs := hsub x (by rw [hXbuf]; exact hx) (by rw [k1, hco.1]) (by rw [k2, hco.2.1])
      rw [← cs_inj hcs hxcs hc k3]; exact hx
  have hkeys : BufKeysUnique X.buf := by rw [hXbuf]; exact bufAdd_keysUnique _ _ h.keys
  rw [hdel] at hm'c hm'np ⊢
  cases hgc : got.complete with
  | false =>
    left
    rw [hgc] at hm'c hm'np
    simp only [Bool.false_eq_true, if_false] at hm'c hm'np ⊢
    exact ⟨⟨hXc, hXalive, hm'np, hkeys, hXdb, hsub, hsup, Or.inr ⟨got, hXpart, hgc⟩⟩,
      fun x hx => (hsm x).mpr hx⟩
  | true =>
    right
    rw [hgc] at hm'c hm'np
    simp only [if_true] at hm'c hm'np ⊢
    have hgl : got.last = last := by rw [hXa.part_last ver got hXpart, hL]
    have hgw := hXa.pwf.of_partial? hXpart
    have hall : ∀ c ∈ cs, c ∈ X.buf := by
      intro c hc
      apply hsup c hc
      obtain ⟨q', hq', hm⟩ := hXa.partial_of_rows hXhr
      rw [hXpart] at hq'; cases hq'
      exact (hm c.seq).mp ((complete_iff hgw).mp hgc c.seq (by rw [hgl]; exact (hcs.own c hc).2.2))
    refine ⟨?_, ?_⟩
    · rw [applyBuffered_complete X site ver got hXpart hgc, clearMeta_db, applyCore_db, hXdb,
        sortBySeq_bufOf_eq hcs X.buf hkeys hsub hall]
    · intro lo hi hhi
      rw [containsAll_single]
      have hp' : ((X.applyBuffered site ver).booked site).partial? ver = some got := by
        rw [partial?_applyBuffered]; exact hXpart
      exact contains_of_complete ((hm'c.actor site).pwf.of_partial? hp') hp' hgc (by rw [hgl]; exact hhi)
        ((hm'c.actor site).part_known ver got hp')

theorem Before.step (h : Before L site ver cs db0 m) (hcs : CsOK site ver last cs)
    (hL : L site ver = last) (r : Nat × Nat) (hlh : r.1 ≤ r.2) (hr : r.2 ≤ last) :
    (Before L site ver cs db0 (m.deliver [chunkItem site ver last cs r]) ∧
      ∀ x, (SeqMem m.seqRows site ver x ∨ (r.1 ≤ x ∧ x ≤ r.2)) →
        SeqMem (m.deliver [chunkItem site ver last cs r]).seqRows site ver x) ∨
    After site ver last cs db0 (m.deliver [chunkItem site ver last cs r]) := by
  by_cases hcomp : r.1 = 0 ∧ r.2 = last
  · right
    have : r = (0, last) := Prod.ext hcomp.1 hcomp.2
    rw [this]; exact h.step_complete hcs hL
  · cases hct : (m.booked site).containsAll ver ver (some r) with
    | true =>
      left
      obtain ⟨h1, h2⟩ := h.step_skip (last := last) r hct
      rw [h1]
      refine ⟨h, ?_⟩
      rintro x (hx | hx)
      · exact hx
      · exact h2 x hx
    | false => exact h.step_buffer hcs hL r hlh hr hcomp hct

theorem Before.init {n : Node} (hc : Consistent L n) (hal : n.alive = true) (hnp : NoPending n)
    (hk : BufKeysUnique n.buf) (hpn : (n.booked site).partial? ver = none)
    (hcv : (n.booked site).containsVersion ver = false) : Before L site ver cs n.db n := by
  have hnr : ¬ HasRows n site ver := (hc.actor site).no_rows_of_no_partial hpn
  refine ⟨hc, hal, hnp, hk, rfl, ?_, ?_, Or.inl ⟨hpn, hcv⟩⟩
  · intro c hcm h1 h2
    exfalso
    obtain ⟨r, hr1, hr2, hr3, _⟩ := (hc.actor site).buf_cov c hcm h1
    exact hnr ⟨r, hr1, hr2, by rw [hr3, h2]⟩
  · intro c _ hm
    exact absurd (hasRows_of_seqMem hm) hnr

theorem chunks_inv {n : Node} (h0 : Before L site ver cs db0 n) (hcs : CsOK site ver last cs)
    (hL : L site ver = last) (chunks : List (Nat × Nat)) (hch : ∀ r ∈ chunks, r.1 ≤ r.2 ∧ r.2 ≤ last) :
    (Before L site ver cs db0 (chunks.foldl (fun m r => m.deliver [chunkItem site ver last cs r]) n) ∧
      ∀ r ∈ chunks, ∀ x, r.1 ≤ x ∧ x ≤ r.2 →
        SeqMem (chunks.foldl (fun m r => m.deliver [chunkItem site ver last cs r]) n).seqRows site ver x) ∨
    After site ver last cs db0 (chunks.foldl (fun m r => m.deliver [chunkItem site ver last cs r]) n) := by
  refine foldl_inv_prefix chunks (fun m r => m.deliver [chunkItem site ver last cs r]) n
    (fun done m => (Before L site ver cs db0 m ∧
      ∀ r ∈ done, ∀ x, r.1 ≤ x ∧ x ≤ r.2 → SeqMem m.seqRows site ver x) ∨ After site ver last cs db0 m)
    (Or.inl ⟨h0, fun r hr => nomatch hr⟩) ?_
  intro done r rest m hl hm
  have hrr := hch r (by rw [hl]; simp)
  rcases hm with ⟨hb, hrec⟩ | ha
  · rcases hb.step hcs hL r hrr.1 hrr.2 with ⟨hb', hmono⟩ | ha'
    · refine Or.inl ⟨hb', fun r' hr' x hx => ?_⟩
      rcases List.mem_append.mp hr' with h1 | h1
      · exact hmono x (Or.inl (hrec r' h1 x hx))
      · exact hmono x (Or.inr (List.mem_singleton.mp h1 ▸ hx))
    · exact Or.inr ha'
  · exact Or.inr (by rw [ha.step r hrr.2]; exact ha)

theorem chunks_apply {n : Node} (h0 : Before L site ver cs db0 n) (hcs : CsOK site ver last cs)
    (hL : L site ver = last) (chunks : List (Nat × Nat)) (hch : ∀ r ∈ chunks, r.1 ≤ r.2 ∧ r.2 ≤ last)
    (hcov : ∀ x, x ≤ last → ∃ r ∈ chunks, r.1 ≤ x ∧ x ≤ r.2) :
    (chunks.foldl (fun m r => m.deliver [chunkItem site ver last cs r]) n).db = mergeAll db0 cs := by
  rcases chunks_inv h0 hcs hL chunks hch with ⟨hb, hrec⟩ | ha
  · -- everything is received, so the partial is complete: not a `Before` state
    exfalso
    generalize chunks.foldl (fun m r => m.deliver [chunkItem site ver last cs r]) n = m at hb hrec
    have hca := hb.cons.actor site
    have hall : ∀ x, x ≤ last → SeqMem m.seqRows site ver x := fun x hx =>
      let ⟨r, hr, h1⟩ := hcov x hx
      hrec r hr x h1
    obtain ⟨q, hq, hm⟩ := hca.partial_of_rows (hasRows_of_seqMem (hall 0 (Nat.zero_le _)))
    rcases hb.part with ⟨h1, _⟩ | ⟨q', hq', hinc⟩
    · rw [h1] at hq; cases hq
    · rw [hq] at hq'; cases hq'
      have : q.complete = true := by
        rw [complete_iff (hca.pwf.of_partial? hq), hca.part_last ver q hq, hL]
        exact fun x hx => (hm x).mpr (hall x hx)
      rw [hinc] at this; cases this
  · exact ha.db

end

end Corro.Node
