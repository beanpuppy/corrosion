/-
One actor's share of a batch (`processActor`): the per-actor consistency invariant with the scheduled
clear jobs pending (`ConsP`), assembled from the transaction invariant `TI` and the after-commit
invariant `CI`.
-/
import Corro.Lemmas.NodeTx
import Corro.Lemmas.NodeCommit
namespace Corro.Node

section
variable {L : Nat → Nat → Nat} {n : Node} {site : Nat} {st : TxSt}

theorem mem_procRanges {e : Processed} (he : e ∈ st.processed) : (e.vlo, e.vhi) ∈ procRanges st :=
  List.mem_map.mpr ⟨e, he, rfl⟩

theorem committed_CI (hc : ConsA L n site) (h : TI L n site st) :
    CI L site ((n.booked site).insertDb (procRanges st)) st.processed (committed n site st) :=
  commitFold_CI (insertDb_pwf hc.pwf _) (insertDb_keysSorted hc.keys _)
    (fun v p hp => hc.part_last v p (by rw [partial?_insertDb] at hp; exact hp)) _ h.pw
    (fun e he q hq => ⟨h.part_wf he hq, h.part_last he hq⟩)
    (fun e he => Nat.le_trans (h.shape e he).1 (mem_le_insertDb_max _ (mem_procRanges he)))

theorem TI.hasRows_iff (hc : ConsA L n site) (h : TI L n site st) (v : Nat) :
    HasRows st.node site v ↔
      HasRows n site v ∨ ∃ e ∈ st.processed, e.vlo = v ∧ e.part.isSome = true := by
  constructor
  · intro hr
    obtain ⟨x, hx⟩ := seqMem_of_hasRows (fun r hr hs => (h.rows_fwd r hr hs).1) hr
    rcases (h.seqmem v x).mp hx with h1 | ⟨e, he, h1, q, h2, _⟩
    · exact Or.inl (hasRows_of_seqMem h1)
    · exact Or.inr ⟨e, he, h1, by rw [h2]; rfl⟩
  · rintro (hr | ⟨e, he, h1, h2⟩)
    · obtain ⟨x, hx⟩ := seqMem_of_hasRows (fun r hr hs => (hc.rows_fwd r hr hs).1) hr
      exact hasRows_of_seqMem ((h.seqmem v x).mpr (Or.inl hx))
    · obtain ⟨q, hq⟩ := Option.isSome_iff_exists.mp h2
      obtain ⟨x, hx⟩ := h.part_nonempty he hq
      exact hasRows_of_seqMem ((h.seqmem v x).mpr (Or.inr ⟨e, he, h1, q, hq, hx⟩))

theorem TI.covered_noneCov (h : TI L n site st) {v : Nat} (hv : Covered (st.clears.map (·.2)) v) :
    NoneCov st.processed v := by
  obtain ⟨c, hc, h1, h2⟩ := hv
  obtain ⟨c', hc', rfl⟩ := List.mem_map.mp hc
  obtain ⟨_, e, he, hn, h3, h4⟩ := h.clearsFrom c' hc'
  exact ⟨e, he, hn, h3 ▸ h1, h4 ▸ h2⟩

theorem TI.no_chunk_of_complete (h : TI L n site st) {v : Nat} {p0 : Partial}
    (hp0 : (n.booked site).partial? v = some p0) (hcomp : p0.complete = true) :
    ¬ ∃ e ∈ st.processed, e.vlo = v ∧ e.part.isSome = true := by
  rintro ⟨e, he, rfl, h2⟩
  obtain ⟨q, hq⟩ := Option.isSome_iff_exists.mp h2
  exact Bool.false_ne_true ((h.old_incomplete he hq hp0).symm.trans hcomp)

theorem cons_after_tx (hc : ConsA L n site) (h : TI L n site st) (N : Node)
    (hrows : N.seqRows = st.node.seqRows) (hbuf : N.buf = st.node.buf)
    (hdbv : dbvOf N site = dbvOf st.node site) (hbk : N.booked site = (committed n site st).1) :
    ConsP L N site (st.clears.map (·.2)) := by
  have hci : CI L site ((n.booked site).insertDb (procRanges st)) st.processed
      (N.booked site, (committed n site st).2) := by rw [hbk]; exact committed_CI hc h
  have hb1p : ∀ v, ((n.booked site).insertDb (procRanges st)).partial? v = (n.booked site).partial? v :=
    fun v => partial?_insertDb _ _ _
  have hHR : ∀ v, HasRows N site v ↔ HasRows st.node site v := fun v => by unfold HasRows; rw [hrows]
  have hfwdP : ∀ r ∈ procRanges st, r.1 ≤ r.2 := by
    intro r hr
    obtain ⟨e, he, rfl⟩ := List.mem_map.mp hr
    exact (h.shape e he).1
  have hleP : ∀ e ∈ st.processed, e.vhi ≤ (N.booked site).max := fun e he => by
    rw [hci.max]; exact mem_le_insertDb_max _ (mem_procRanges he)
  have hle0 : (n.booked site).max ≤ (N.booked site).max := by
    rw [hci.max]; exact le_insertDb_max _ _
  -- where a partial of the committed bookkeeping comes from
  have hsrc : ∀ v p, (N.booked site).partial? v = some p → ¬ NoneCov st.processed v ∧
      ((∃ p0, (n.booked site).partial? v = some p0) ∨
        ∃ e ∈ st.processed, e.vlo = v ∧ e.part.isSome = true) := by
    intro v p hp
    have hnc : ¬ NoneCov st.processed v := fun hcov => by rw [hci.none_cov v hcov] at hp; cases hp
    refine ⟨hnc, ?_⟩
    have hs := (hci.some_iff v hnc).mp (by rw [hp]; rfl)
    rw [hb1p, Option.isSome_iff_exists] at hs
    exact hs
  refine ⟨hci.pwf, hci.keys, by rw [hrows]; exact h.rows_fwd, fun v p hp => (hci.mem v p hp).2,
    ?_, ?_, fun v hv => hci.none_cov v (h.covered_noneCov hv), by rw [hrows, hbuf]; exact h.buf_cov,
    ?_, ?_, ?_, by rw [hci.needed]; exact insertDb_needed_wf hc.needed_wf _ hfwdP, ?_⟩
  · -- rows_part
    intro v hv
    rw [hHR] at hv
    by_cases hnc : NoneCov st.processed v
    · obtain ⟨e, he, hn, h1, h2⟩ := hnc
      obtain ⟨c, hcm, h3⟩ := h.cleared e he hn v h1 h2 (Or.inl hv)
      exact Or.inl ⟨c.2, List.mem_map.mpr ⟨c, hcm, rfl⟩, h3⟩
    · right
      have hsome : ((N.booked site).partial? v).isSome = true := by
        rw [hci.some_iff v hnc, hb1p]
        rcases (h.hasRows_iff hc v).mp hv with h1 | h1
        · obtain ⟨p0, hp0, _⟩ := hc.partial_of_rows h1
          exact Or.inl (by rw [hp0]; rfl)
        · exact Or.inr h1
      obtain ⟨p, hp⟩ := Option.isSome_iff_exists.mp hsome
      refine ⟨p, hp, fun x => ?_⟩
      rw [(hci.mem v p hp).1 x, hrows, h.seqmem v x, hb1p]
      refine or_congr_left ⟨?_, fun h1 => ?_⟩
      · rintro ⟨p0, hp0, hm⟩
        by_cases hrn : HasRows n site v
        · obtain ⟨p0', hp0', hm'⟩ := hc.partial_of_rows hrn
          rw [hp0] at hp0'; cases hp0'
          exact (hm' x).mp hm
        · rcases (h.hasRows_iff hc v).mp hv with h2 | h2
          · exact absurd h2 hrn
          · exact absurd h2 (h.no_chunk_of_complete hp0 (hc.norows_part v p0 hp0 hrn))
      · obtain ⟨p0, hp0, hm⟩ := hc.partial_of_rows (hasRows_of_seqMem h1)
        exact ⟨p0, hp0, (hm x).mpr h1⟩
  · -- norows_part
    intro v p hp hnr
    rw [hHR, h.hasRows_iff hc v, not_or] at hnr
    rcases (hsrc v p hp).2 with ⟨p0, hp0⟩ | hs
    · have hw0 := hc.pwf.of_partial? hp0
      rw [complete_iff (hci.pwf.of_partial? hp), (hci.mem v p hp).2]
      intro x hx
      rw [(hci.mem v p hp).1 x, hb1p]
      refine Or.inl ⟨p0, hp0, (complete_iff hw0).mp (hc.norows_part v p0 hp0 hnr.1) x ?_⟩
      rw [hc.part_last v p0 hp0]; exact hx
    · exact absurd hs hnr.2
  · -- dbv_le
    rw [hdbv]
    rcases h.dbv_le with h1 | ⟨e, he, h1⟩
    · exact Nat.le_trans h1 (Nat.le_trans hc.dbv_le hle0)
    · exact Nat.le_trans h1 (hleP e he)
  · -- rows_le
    intro r hr hs
    rw [hrows] at hr
    rcases (h.hasRows_iff hc r.ver).mp ⟨r, hr, hs, rfl⟩ with ⟨r', hr', hs', hv'⟩ | ⟨e, he, h1, _⟩
    · exact hv' ▸ Nat.le_trans (hc.rows_le r' hr' hs') hle0
    · exact h1 ▸ Nat.le_trans (h.shape e he).1 (hleP e he)
  · -- max_att: the new head is the old head or the end of a processed range; either is at most the
    -- db-version row or the version of a row that survives the pending clears
    rw [hci.max, hdbv]
    have hrowsEv : ∀ w, HasRows st.node site w → (n.booked site).max ≤ w →
        w ≤ dbvOf st.node site ∨
          ∃ r ∈ N.seqRows, r.site = site ∧ w ≤ r.ver ∧ ¬ Covered (st.clears.map (·.2)) r.ver := by
      rintro w ⟨r, hr, hs, hv⟩ hw
      by_cases hcov : Covered (st.clears.map (·.2)) w
      · obtain ⟨e, he, hn, _, h3⟩ := h.covered_noneCov hcov
        exact Or.inl (Nat.le_trans h3 (h.dbv_none e he hn (Nat.le_trans hw h3)))
      · exact Or.inr ⟨r, by rw [hrows]; exact hr, hs, Nat.le_of_eq hv.symm, by rw [hv]; exact hcov⟩
    have hev0 : (n.booked site).max ≤ dbvOf st.node site ∨
        ∃ r ∈ N.seqRows, r.site = site ∧ (n.booked site).max ≤ r.ver ∧
          ¬ Covered (st.clears.map (·.2)) r.ver := by
      rcases hc.max_att with h1 | ⟨r, hr, hs, h1, _⟩
      · exact Or.inl (Nat.le_trans h1 h.dbv_ge)
      · rcases hrowsEv r.ver ((h.hasRows_iff hc r.ver).mpr (Or.inl ⟨r, hr, hs, rfl⟩)) h1 with h2 | h2
        · exact Or.inl (Nat.le_trans h1 h2)
        · obtain ⟨r', hr', hs', h3, h4⟩ := h2
          exact Or.inr ⟨r', hr', hs', Nat.le_trans h1 h3, h4⟩
    by_cases hnil : procRanges st = []
    · rw [hnil, insertDb_nil]; exact hev0
    · rw [insertDb_max _ _ hnil]
      by_cases hle : sup (procRanges st) ≤ (n.booked site).max
      · rw [show Nat.max _ _ = _ from Nat.max_eq_left hle]; exact hev0
      · have hlt := Nat.le_of_lt (Nat.lt_of_not_le hle)
        rw [show Nat.max _ _ = _ from Nat.max_eq_right hlt]
        rcases sup_attained (procRanges st) with h0 | ⟨r, hr, h1⟩
        · exact absurd (h0 ▸ Nat.zero_le _) hle
        · obtain ⟨e, he, rfl⟩ := List.mem_map.mp hr
          rw [h1] at hlt ⊢
          have hm : (n.booked site).max ≤ e.vhi := hlt
          cases hq : e.part with
          | none => exact Or.inl (h.dbv_none e he hq hm)
          | some q =>
            have hvv := ((h.shape e he).2 q hq).1
            exact hvv ▸ hrowsEv e.vlo
              ((h.hasRows_iff hc e.vlo).mpr (Or.inr ⟨e, he, rfl, by rw [hq]; rfl⟩)) (hvv ▸ hm)
  · -- part_known
    intro v p hp
    rw [hci.needed]
    obtain ⟨hnc, hs⟩ := hsrc v p hp
    rcases hs with ⟨p0, hp0⟩ | ⟨e, he, h1, _⟩
    · have hk := hc.part_known v p0 hp0
      refine ⟨Nat.le_trans hk.1 hle0, ?_⟩
      by_cases hnil : procRanges st = []
      · rw [hnil, insertDb_nil]; exact hk.2
      · rw [mem_insertDb_needed hc.needed_wf _ hfwdP hnil]
        rintro ⟨h3 | h3, _⟩
        · exact hk.2 h3
        · exact absurd (Nat.le_trans h3.1 hk.1) (Nat.not_succ_le_self _)
    · have hsh := (h.shape e he).1
      exact ⟨h1 ▸ Nat.le_trans hsh (hleP e he),
        insertDb_not_needed _ hc.needed_wf _ hfwdP v
          ⟨(e.vlo, e.vhi), mem_procRanges he, Nat.le_of_eq h1, h1 ▸ hsh⟩⟩

end

end Corro.Node
