/-
`merge` as a step on the one row it touches (`mergeRow`, `merge_eq`), with three outcomes
(`mergeRow_cases`): the change is ignored (`Ignored`), starts a new incarnation (`freshRow`), or stores
its cell into the current one.  `Ignored` only grows under `merge`, hence merged changes are absorbed by
any database (`mergeAll_absorbs`).  Around it: lookups in the cell store's association lists, `NoDup`.
-/
import Corro.Lemmas.CrdtOrder
namespace Corro.Crdt

section Upsert
variable {α : Type} (k q : α → Prop) [DecidablePred k] [DecidablePred q]

/-- the association-list update used by `Db.setRow` and `Row.setCell` -/
def upsert (r : α) (l : List α) : List α :=
  if l.any (fun x => decide (k x)) then l.map (fun x => if k x then r else x) else l ++ [r]

theorem find_replace_same (r : α) (hr : k r) (l : List α) (h : ∃ x ∈ l, k x) :
    (l.map (fun x => if k x then r else x)).find? (fun x => decide (k x)) = some r := by
  induction l with
  | nil => simp at h
  | cons a l ih =>
    by_cases ha : k a
    · simp [ha, hr]
    · have h' : ∃ x ∈ l, k x := by
        obtain ⟨x, hx, hk⟩ := h
        rcases List.mem_cons.mp hx with rfl | hx
        · exact absurd hk ha
        · exact ⟨x, hx, hk⟩
      simp only [List.map_cons, ha, if_false, List.find?_cons, decide_false]
      exact ih h'

theorem find_replace_other (r : α) (hr : ¬ q r) (hd : ∀ x, k x → ¬ q x) (l : List α) :
    (l.map (fun x => if k x then r else x)).find? (fun x => decide (q x)) =
      l.find? (fun x => decide (q x)) := by
  induction l with
  | nil => rfl
  | cons a l ih =>
    by_cases ha : k a
    · have := hd a ha
      simp only [List.map_cons, ha, if_true, List.find?_cons, hr, this, decide_false, ih]
    · by_cases hq : q a
      · simp only [List.map_cons, ha, if_false, List.find?_cons, hq, decide_true]
      · simp only [List.map_cons, ha, if_false, List.find?_cons, hq, decide_false, ih]

theorem find_upsert_same (r : α) (hr : k r) (l : List α) :
    (upsert k r l).find? (fun x => decide (k x)) = some r := by
  unfold upsert
  split
  · rename_i h
    exact find_replace_same k r hr l (by simpa using h)
  · rename_i h
    simp only [List.any_eq_true, decide_eq_true_eq, not_exists, not_and] at h
    rw [List.find?_append]
    have : l.find? (fun x => decide (k x)) = none := by
      simp only [List.find?_eq_none, decide_eq_true_eq]; exact h
    simp [this, hr]

theorem find_upsert_other (r : α) (hr : ¬ q r) (hd : ∀ x, k x → ¬ q x) (l : List α) :
    (upsert k r l).find? (fun x => decide (q x)) = l.find? (fun x => decide (q x)) := by
  unfold upsert
  split
  · exact find_replace_other k q r hr hd l
  · rw [List.find?_append]
    simp only [List.find?_cons, hr, decide_false, List.find?_nil]
    cases l.find? (fun x => decide (q x)) <;> rfl

end Upsert

theorem Db.setRow_rows (db : Db) (r : Row) :
    (db.setRow r).rows = upsert (fun x : Row => x.tbl = r.tbl ∧ x.pk = r.pk) r db.rows := by
  unfold Db.setRow upsert
  split <;> rfl

theorem Row.setCell_cells (r : Row) (c : Cell) :
    (r.setCell c).cells = upsert (fun x : Cell => x.cid = c.cid) c r.cells := by
  unfold Row.setCell upsert
  split <;> rfl

theorem findRow_setRow_same (db : Db) (r : Row) : (db.setRow r).findRow r.tbl r.pk = some r := by
  unfold Db.findRow
  rw [Db.setRow_rows]
  exact find_upsert_same (fun x : Row => x.tbl = r.tbl ∧ x.pk = r.pk) r ⟨rfl, rfl⟩ db.rows

theorem findRow_setRow_other (db : Db) (r : Row) (t p : String) (h : ¬ (r.tbl = t ∧ r.pk = p)) :
    (db.setRow r).findRow t p = db.findRow t p := by
  unfold Db.findRow
  rw [Db.setRow_rows]
  exact find_upsert_other (fun x : Row => x.tbl = r.tbl ∧ x.pk = r.pk)
    (fun x : Row => x.tbl = t ∧ x.pk = p) r h
    (by intro x ⟨h1, h2⟩ ⟨h3, h4⟩; exact h ⟨h1 ▸ h3, h2 ▸ h4⟩) db.rows

theorem findRow_some {db : Db} {t p : String} {r : Row} (h : db.findRow t p = some r) :
    r.tbl = t ∧ r.pk = p ∧ r ∈ db.rows := by
  unfold Db.findRow at h
  have h1 := List.find?_some h
  have h2 := List.mem_of_find?_eq_some h
  simp only [decide_eq_true_eq] at h1
  exact ⟨h1.1, h1.2, h2⟩

theorem findCell_setCell_same (r : Row) (c : Cell) : (r.setCell c).findCell c.cid = some c := by
  unfold Row.findCell
  rw [Row.setCell_cells]
  exact find_upsert_same (fun x : Cell => x.cid = c.cid) c rfl r.cells

theorem findCell_setCell_other (r : Row) (c : Cell) (x : String) (h : c.cid ≠ x) :
    (r.setCell c).findCell x = r.findCell x := by
  unfold Row.findCell
  rw [Row.setCell_cells]
  exact find_upsert_other (fun y : Cell => y.cid = c.cid) (fun y : Cell => y.cid = x) c h
    (by intro y h1 h2; exact h (h1 ▸ h2)) r.cells

theorem findCell_some {r : Row} {x : String} {l : Cell} (h : r.findCell x = some l) :
    l.cid = x ∧ l ∈ r.cells := by
  unfold Row.findCell at h
  have h1 := List.find?_some h
  have h2 := List.mem_of_find?_eq_some h
  simp only [decide_eq_true_eq] at h1
  exact ⟨h1, h2⟩

@[simp] theorem setCell_tbl (r : Row) (c : Cell) : (r.setCell c).tbl = r.tbl := by
  unfold Row.setCell; split <;> rfl
@[simp] theorem setCell_pk (r : Row) (c : Cell) : (r.setCell c).pk = r.pk := by
  unfold Row.setCell; split <;> rfl
@[simp] theorem setCell_cl (r : Row) (c : Cell) : (r.setCell c).cl = r.cl := by
  unfold Row.setCell; split <;> rfl
@[simp] theorem setRow_site (db : Db) (r : Row) : (db.setRow r).site = db.site := by
  unfold Db.setRow; split <;> rfl
@[simp] theorem setRow_dbv (db : Db) (r : Row) : (db.setRow r).dbv = db.dbv := by
  unfold Db.setRow; split <;> rfl

/-- zeroing the column versions (what `resurrect` does to kept cells) -/
def Cell.zero (x : Cell) : Cell := { x with clk := { x.clk with colv := 0 } }

theorem find_map_zero (cells : List Cell) (x : String) :
    (cells.map Cell.zero).find? (fun y => decide (y.cid = x)) =
      (cells.find? (fun y => decide (y.cid = x))).map Cell.zero := by
  induction cells with
  | nil => rfl
  | cons a l ih =>
    by_cases h : a.cid = x
    · simp [Cell.zero, h]
    · simp only [List.map_cons, List.find?_cons]
      have : (Cell.zero a).cid = a.cid := rfl
      simp only [this, h, decide_false, ih]

/-- causal length of a looked-up row (0 = never seen) -/
def lclOf : Option Row → Nat
  | some r => r.cl
  | none => 0

/-- the cell a column change writes -/
def Chg.cell (c : Chg) : Cell := ⟨c.cid, c.val, c.clock⟩

/-- the row `merge` writes, or `none` when it leaves the database unchanged -/
def mergeRow (old : Option Row) (c : Chg) : Option Row :=
  let lcl := lclOf old
  if c.cl < lcl then none
  else if c.cl % 2 = 0 then
    if c.cl = lcl then none
    else some { tbl := c.tbl, pk := c.pk, cl := c.cl, sent := some ⟨c.cl, c.site, c.dbv, c.seq⟩, cells := [] }
  else if c.cid = sentinel then
    if c.cl = lcl then none else some (resurrect old c)
  else if c.cl > lcl then
    let base : Row :=
      if lcl = 0 ∧ c.cl = 1 then { tbl := c.tbl, pk := c.pk, cl := 1, sent := none, cells := [] }
      else resurrect old c
    some (base.setCell c.cell)
  else
    match old with
    | none => none
    | some r =>
      match r.findCell c.cid with
      | none => some (r.setCell c.cell)
      | some l => if wins c l then some (r.setCell c.cell) else none

/-- write back the result of `mergeRow` -/
def Db.applyRow (db : Db) : Option Row → Db
  | none => db
  | some r => db.setRow r

@[simp] theorem applyRow_none (db : Db) : db.applyRow none = db := rfl
@[simp] theorem applyRow_some (db : Db) (r : Row) : db.applyRow (some r) = db.setRow r := rfl

theorem merge_eq (db : Db) (c : Chg) :
    merge db c = db.applyRow (mergeRow (db.findRow c.tbl c.pk) c) := by
  unfold merge mergeRow
  -- once the two lookups are decided, both sides are the same tree of `if`s and `applyRow` moves
  -- to the leaves
  cases db.findRow c.tbl c.pk with
  | none =>
    dsimp only [lclOf]
    simp only [apply_ite db.applyRow, applyRow_none, applyRow_some]
    rfl
  | some r =>
    dsimp only [lclOf]
    cases r.findCell c.cid <;>
      simp only [apply_ite db.applyRow, applyRow_none, applyRow_some] <;> rfl

@[simp] theorem resurrect_tbl (o : Option Row) (c : Chg) : (resurrect o c).tbl = c.tbl := rfl
@[simp] theorem resurrect_pk (o : Option Row) (c : Chg) : (resurrect o c).pk = c.pk := rfl
@[simp] theorem resurrect_cl (o : Option Row) (c : Chg) : (resurrect o c).cl = c.cl := rfl
theorem resurrect_cells (o : Option Row) (c : Chg) : (resurrect o c).cells =
    match o with
    | some r => if r.cl % 2 = 1 then r.cells.map Cell.zero else []
    | none => [] := rfl

/-- `c` adds nothing to the looked-up row (`mergeRow_ignored`) -/
def Ignored (o : Option Row) (c : Chg) : Prop :=
  c.cl ≤ lclOf o ∧ (c.cl = lclOf o → c.cl % 2 = 0 ∨ c.cid = sentinel ∨
    ∃ r l, o = some r ∧ r.findCell c.cid = some l ∧ wins c l = false)

/-- the row a change of a larger causal length starts (an empty row without sentinel, not the
resurrected one, at the very first insert) -/
def freshRow (o : Option Row) (c : Chg) : Row :=
  if c.cl % 2 = 0 then
    { tbl := c.tbl, pk := c.pk, cl := c.cl, sent := some ⟨c.cl, c.site, c.dbv, c.seq⟩, cells := [] }
  else if c.cid = sentinel then resurrect o c
  else (if lclOf o = 0 ∧ c.cl = 1 then
      ({ tbl := c.tbl, pk := c.pk, cl := 1, sent := none, cells := [] } : Row)
    else resurrect o c).setCell c.cell

/-- Every later fact about `merge` (what it ignores, what it may write, the invariants it keeps) goes
through these three outcomes, not through the decision tree of `mergeRow`. -/
theorem mergeRow_cases (o : Option Row) (c : Chg) :
    (Ignored o c ∧ mergeRow o c = none) ∨
    (lclOf o < c.cl ∧ mergeRow o c = some (freshRow o c)) ∨
    ∃ r, o = some r ∧ r.cl = c.cl ∧ c.cl % 2 = 1 ∧ c.cid ≠ sentinel ∧
      (∀ l, r.findCell c.cid = some l → wins c l = true) ∧
      mergeRow o c = some (r.setCell c.cell) := by
  unfold mergeRow
  dsimp only
  rcases Nat.lt_trichotomy c.cl (lclOf o) with hlt | heq | hgt
  · rw [if_pos hlt]
    exact Or.inl ⟨⟨Nat.le_of_lt hlt, fun e => absurd e (Nat.ne_of_lt hlt)⟩, rfl⟩
  · have hle := Nat.le_of_eq heq
    rw [if_neg (Nat.not_lt.mpr (Nat.le_of_eq heq.symm))]
    by_cases he : c.cl % 2 = 0
    · rw [if_pos he, if_pos heq]
      exact Or.inl ⟨⟨hle, fun _ => Or.inl he⟩, rfl⟩
    by_cases hs : c.cid = sentinel
    · rw [if_neg he, if_pos hs, if_pos heq]
      exact Or.inl ⟨⟨hle, fun _ => Or.inr (Or.inl hs)⟩, rfl⟩
    rw [if_neg he, if_neg hs, if_neg (Nat.not_lt.mpr hle)]
    have hodd := Nat.mod_two_ne_zero.mp he
    cases o with
    | none => rw [show c.cl = 0 from heq] at he; exact absurd rfl he
    | some r =>
      dsimp only
      cases hf : r.findCell c.cid with
      | none =>
        exact Or.inr (Or.inr ⟨r, rfl, heq.symm, hodd, hs,
          (fun l hl => by rw [hf] at hl; cases hl), rfl⟩)
      | some l =>
        dsimp only
        cases hw : wins c l with
        | true =>
          exact Or.inr (Or.inr ⟨r, rfl, heq.symm, hodd, hs,
            (fun l' hl' => by rw [hf] at hl'; cases hl'; exact hw), rfl⟩)
        | false =>
          exact Or.inl ⟨⟨hle, fun _ => Or.inr (Or.inr ⟨r, l, rfl, hf, hw⟩)⟩, by simp⟩
  · refine Or.inr (Or.inl ⟨hgt, ?_⟩)
    have hne := Nat.ne_of_gt hgt
    unfold freshRow
    rw [if_neg (Nat.lt_asymm hgt)]
    by_cases he : c.cl % 2 = 0
    · rw [if_pos he, if_pos he, if_neg hne]
    by_cases hs : c.cid = sentinel
    · rw [if_neg he, if_neg he, if_pos hs, if_pos hs, if_neg hne]
    · rw [if_neg he, if_neg he, if_neg hs, if_neg hs, if_pos hgt]

theorem freshRow_ind {Q : Row → Prop} {o : Option Row} {c : Chg}
    (hnew : c.cl = 1 → Q { tbl := c.tbl, pk := c.pk, cl := 1, sent := none, cells := [] })
    (hdel : Q { tbl := c.tbl, pk := c.pk, cl := c.cl,
                sent := some ⟨c.cl, c.site, c.dbv, c.seq⟩, cells := [] })
    (hres : Q (resurrect o c)) (hset : ∀ r, Q r → Q (r.setCell c.cell)) : Q (freshRow o c) := by
  -- `by_cases` + `if_pos`/`if_neg`, here and below: `split` on a goal that holds `freshRow` unfolded is
  -- several times slower to check
  unfold freshRow
  by_cases he : c.cl % 2 = 0
  · rw [if_pos he]; exact hdel
  rw [if_neg he]
  by_cases hs : c.cid = sentinel
  · rw [if_pos hs]; exact hres
  rw [if_neg hs]
  apply hset
  by_cases hb : lclOf o = 0 ∧ c.cl = 1
  · rw [if_pos hb]; exact hnew hb.2
  · rw [if_neg hb]; exact hres

theorem freshRow_key (o : Option Row) (c : Chg) :
    (freshRow o c).tbl = c.tbl ∧ (freshRow o c).pk = c.pk ∧ (freshRow o c).cl = c.cl :=
  freshRow_ind (Q := fun r => r.tbl = c.tbl ∧ r.pk = c.pk ∧ r.cl = c.cl) (fun h => ⟨rfl, rfl, h.symm⟩)
    ⟨rfl, rfl, rfl⟩ ⟨rfl, rfl, rfl⟩ (fun r hr => by simpa using hr)

theorem resurrect_cells_of_zero {o : Option Row} (c : Chg) (h : lclOf o = 0) :
    (resurrect o c).cells = [] := by
  rw [resurrect_cells]
  cases o with
  | none => rfl
  | some r => simp [show r.cl = 0 from h]

theorem freshRow_findCell (o : Option Row) (c : Chg) (x : String) :
    (freshRow o c).findCell x =
      if c.cl % 2 = 0 then none
      else if c.cid ≠ sentinel ∧ c.cid = x then some c.cell else (resurrect o c).findCell x := by
  unfold freshRow
  by_cases he : c.cl % 2 = 0
  · rw [if_pos he, if_pos he]; rfl
  rw [if_neg he, if_neg he]
  by_cases hs : c.cid = sentinel
  · rw [if_pos hs, if_neg (fun h => h.1 hs)]
  rw [if_neg hs]
  by_cases hx : c.cid = x
  · subst hx; exact (findCell_setCell_same _ c.cell).trans (if_pos ⟨hs, rfl⟩).symm
  refine (findCell_setCell_other _ c.cell x hx).trans (Eq.trans ?_ (if_neg (fun h => hx h.2)).symm)
  by_cases hb : lclOf o = 0 ∧ c.cl = 1
  · rw [if_pos hb]; unfold Row.findCell; rw [resurrect_cells_of_zero c hb.1]
  · rw [if_neg hb]

theorem mergeRow_ignored {o : Option Row} {c : Chg} (h : Ignored o c) : mergeRow o c = none := by
  rcases mergeRow_cases o c with ⟨_, hm⟩ | ⟨hgt, _⟩ | ⟨r, rfl, hcl, hodd, hns, hw, _⟩
  · exact hm
  · exact absurd h.1 (Nat.not_le.mpr hgt)
  · rcases h.2 hcl.symm with he | hs | ⟨r', l, hr', hl, hl'⟩
    · rw [he] at hodd; cases hodd
    · exact absurd hs hns
    · cases hr'; rw [hw l hl] at hl'; cases hl'

theorem mergeRow_written {Q : Row → Prop} {o : Option Row} {c : Chg} {r' : Row}
    (hnew : Q { tbl := c.tbl, pk := c.pk, cl := 1, sent := none, cells := [] })
    (hdel : Q { tbl := c.tbl, pk := c.pk, cl := c.cl,
                sent := some ⟨c.cl, c.site, c.dbv, c.seq⟩, cells := [] })
    (hres : Q (resurrect o c)) (hold : ∀ r, o = some r → Q r)
    (hset : ∀ r, Q r → Q (r.setCell c.cell)) (h : mergeRow o c = some r') : Q r' := by
  rcases mergeRow_cases o c with ⟨_, hm⟩ | ⟨_, hm⟩ | ⟨r, hr, _, _, _, _, hm⟩
  · rw [hm] at h; cases h
  · cases hm.symm.trans h; exact freshRow_ind (fun _ => hnew) hdel hres hset
  · cases hm.symm.trans h; exact hset r (hold r hr)

theorem mergeRow_key {o : Option Row} {c : Chg} {r' : Row}
    (ho : ∀ r, o = some r → r.tbl = c.tbl ∧ r.pk = c.pk) (h : mergeRow o c = some r') :
    r'.tbl = c.tbl ∧ r'.pk = c.pk :=
  mergeRow_written (Q := fun r => r.tbl = c.tbl ∧ r.pk = c.pk) ⟨rfl, rfl⟩ ⟨rfl, rfl⟩ ⟨rfl, rfl⟩
    ho (fun r hr => by simpa using hr) h

/-- what `merge` turns the lookup of the change's own row into (`findRow_merge_same`) -/
def rowStep (o : Option Row) (c : Chg) : Option Row :=
  match mergeRow o c with
  | some r => some r
  | none => o

theorem merge_cases (db : Db) (c : Chg) :
    (mergeRow (db.findRow c.tbl c.pk) c = none ∧ merge db c = db) ∨
    ∃ r', mergeRow (db.findRow c.tbl c.pk) c = some r' ∧ r'.tbl = c.tbl ∧ r'.pk = c.pk ∧
      merge db c = db.setRow r' := by
  rw [merge_eq]
  cases h : mergeRow (db.findRow c.tbl c.pk) c with
  | none => exact Or.inl ⟨rfl, rfl⟩
  | some r' =>
    have hk := mergeRow_key (fun r hr => ⟨(findRow_some hr).1, (findRow_some hr).2.1⟩) h
    exact Or.inr ⟨r', rfl, hk.1, hk.2, rfl⟩

theorem findRow_merge_same (db : Db) (c : Chg) :
    (merge db c).findRow c.tbl c.pk = rowStep (db.findRow c.tbl c.pk) c := by
  unfold rowStep
  rcases merge_cases db c with ⟨hm, h⟩ | ⟨r', hm, ht, hp, h⟩
  · rw [h, hm]
  · rw [h, hm, ← ht, ← hp]
    exact findRow_setRow_same db r'

theorem findRow_merge_other (db : Db) (c : Chg) (t p : String) (hne : ¬ (c.tbl = t ∧ c.pk = p)) :
    (merge db c).findRow t p = db.findRow t p := by
  rcases merge_cases db c with ⟨_, h⟩ | ⟨r', _, ht, hp, h⟩
  · rw [h]
  · rw [h]
    exact findRow_setRow_other db r' t p (by rw [ht, hp]; exact hne)

@[simp] theorem merge_site (db : Db) (c : Chg) : (merge db c).site = db.site := by
  rcases merge_cases db c with ⟨_, h⟩ | ⟨r', _, _, _, h⟩ <;> rw [h]
  exact setRow_site db r'

@[simp] theorem merge_dbv (db : Db) (c : Chg) : (merge db c).dbv = db.dbv := by
  rcases merge_cases db c with ⟨_, h⟩ | ⟨r', _, _, _, h⟩ <;> rw [h]
  exact setRow_dbv db r'

theorem mergeAll_site (db : Db) (cs : List Chg) : (mergeAll db cs).site = db.site := by
  induction cs generalizing db with
  | nil => rfl
  | cons c cs ih => exact (ih _).trans (merge_site db c)

theorem mergeAll_dbv (db : Db) (cs : List Chg) : (mergeAll db cs).dbv = db.dbv := by
  induction cs generalizing db with
  | nil => rfl
  | cons c cs ih => exact (ih _).trans (merge_dbv db c)

section Absorb
variable {o : Option Row} {c d : Chg}

theorem ignored_of_cell {r : Row} {l : Cell} (hcl : c.cl ≤ r.cl) (hl : r.findCell c.cid = some l)
    (hw : wins c l = false) : Ignored (some r) c :=
  ⟨hcl, fun _ => Or.inr (Or.inr ⟨r, l, rfl, hl, hw⟩)⟩

theorem ignored_self (o : Option Row) (c : Chg) : Ignored (rowStep o c) c := by
  have hirr : wins c c.cell = false := (wins_eq_keyLt c c.cell).trans (keyLt_strict.irrefl _)
  unfold rowStep
  rcases mergeRow_cases o c with ⟨hig, hm⟩ | ⟨hgt, hm⟩ | ⟨r, rfl, hcl, hodd, hns, hw, hm⟩ <;> rw [hm]
  · exact hig
  · refine ⟨Nat.le_of_eq (freshRow_key o c).2.2.symm, fun _ => ?_⟩
    by_cases he : c.cl % 2 = 0
    · exact Or.inl he
    by_cases hs : c.cid = sentinel
    · exact Or.inr (Or.inl hs)
    · refine Or.inr (Or.inr ⟨_, c.cell, rfl, ?_, hirr⟩)
      rw [freshRow_findCell, if_neg he, if_pos ⟨hs, rfl⟩]
  · exact ignored_of_cell (Nat.le_of_eq (by rw [setCell_cl, hcl])) (findCell_setCell_same r c.cell) hirr

theorem Ignored.step (h : Ignored o c) (d : Chg) : Ignored (rowStep o d) c := by
  unfold rowStep
  rcases mergeRow_cases o d with ⟨_, hm⟩ | ⟨hgt, hm⟩ | ⟨r, rfl, hcl, hodd, hns, hw, hm⟩ <;> rw [hm] <;>
    dsimp only
  · exact h
  · have hlt : c.cl < (freshRow o d).cl := (freshRow_key o d).2.2 ▸ Nat.lt_of_le_of_lt h.1 hgt
    exact ⟨Nat.le_of_lt hlt, fun e => absurd e (Nat.ne_of_lt hlt)⟩
  · have hc : lclOf (some (r.setCell d.cell)) = r.cl := setCell_cl r d.cell
    refine ⟨hc ▸ h.1, fun e => ?_⟩
    rw [hc] at e
    rcases h.2 e with he | hs | ⟨r', l, hr', hl, hwc⟩
    · exact Or.inl he
    · exact Or.inr (Or.inl hs)
    · cases hr'
      refine Or.inr (Or.inr ?_)
      by_cases hx : d.cid = c.cid
      · -- the cell of `d` replaced `l`, which `c` did not beat and `d` did
        refine ⟨_, d.cell, rfl, by rw [← hx]; exact findCell_setCell_same r d.cell, ?_⟩
        rw [wins_eq_keyLt] at hwc ⊢
        cases h8 : keyLt d.cell.key c.key with
        | false => rfl
        | true =>
          have := keyLt_strict.trans ((wins_eq_keyLt d l).symm.trans (hw l (hx ▸ hl))) h8
          rw [this] at hwc; cases hwc
      · exact ⟨_, l, rfl, (findCell_setCell_other r d.cell c.cid hx).trans hl, hwc⟩

/-- `c` is ignored by `db` (`merge db c = db`, `Absorbed.merge_eq`) -/
def Absorbed (db : Db) (c : Chg) : Prop := Ignored (db.findRow c.tbl c.pk) c

theorem Absorbed.merge_eq {db : Db} (h : Absorbed db c) : merge db c = db := by
  rw [Crdt.merge_eq, mergeRow_ignored h]
  rfl

theorem absorbed_merge_self (db : Db) (c : Chg) : Absorbed (merge db c) c := by
  unfold Absorbed; rw [findRow_merge_same]; exact ignored_self _ c

theorem Absorbed.merge {db : Db} (h : Absorbed db c) (d : Chg) : Absorbed (merge db d) c := by
  unfold Absorbed at h ⊢
  by_cases hk : d.tbl = c.tbl ∧ d.pk = c.pk
  · rw [← hk.1, ← hk.2, findRow_merge_same]; exact (hk.1 ▸ hk.2 ▸ h).step d
  · rw [findRow_merge_other db d _ _ hk]; exact h

theorem Absorbed.mergeAll {db : Db} (h : Absorbed db c) (P : List Chg) : Absorbed (mergeAll db P) c := by
  induction P generalizing db with
  | nil => exact h
  | cons d P ih => exact ih (h.merge d)

theorem absorbed_mergeAll (db : Db) (P : List Chg) : ∀ c ∈ P, Absorbed (mergeAll db P) c := by
  induction P generalizing db with
  | nil => nofun
  | cons d P ih =>
    intro c hc
    rcases List.mem_cons.mp hc with rfl | hc
    · exact (absorbed_merge_self db c).mergeAll P
    · exact ih (merge db d) c hc

/-- Re-delivery, any database: a change is ignored right after it was merged (`ignored_self`) and
whatever a row ignores it goes on ignoring (`Ignored.step`), so after `mergeAll db P` every change of
`P` is absorbed.  No invariant of `db` is needed. -/
theorem mergeAll_absorbs (db : Db) (P : List Chg) {R : List Chg} (hR : ∀ c ∈ R, c ∈ P) :
    mergeAll (mergeAll db P) R = mergeAll db P := by
  induction R with
  | nil => rfl
  | cons c R ih =>
    show mergeAll (merge (mergeAll db P) c) R = _
    rw [(absorbed_mergeAll db P c (hR c List.mem_cons_self)).merge_eq]
    exact ih (fun d hd => hR d (List.mem_cons_of_mem _ hd))

end Absorb

section UpsertNoDup
variable {α κ : Type} (key : α → κ) (k : α → Prop) [DecidablePred k]

theorem mem_upsert {r x : α} {l : List α} (h : x ∈ upsert k r l) : x = r ∨ x ∈ l := by
  unfold upsert at h
  split at h
  · obtain ⟨y, hy, rfl⟩ := List.mem_map.mp h
    by_cases hk : k y
    · simp [hk]
    · simp [hk, hy]
  · rcases List.mem_append.mp h with h | h
    · exact Or.inr h
    · simp at h; exact Or.inl h

theorem pairwise_upsert_rel {Q : α → α → Prop} (r : α) (hk : ∀ x, k x ↔ key x = key r) {l : List α}
    (hkey : l.Pairwise (fun a b => key a ≠ key b)) (hQ : l.Pairwise Q)
    (hr : ∀ x ∈ l, ¬ k x → Q r x ∧ Q x r) :
    (upsert k r l).Pairwise Q := by
  unfold upsert
  split
  · rw [List.pairwise_map]
    refine (hkey.and hQ).imp_of_mem ?_
    intro a b ha hb ⟨hne, hab⟩
    by_cases h1 : k a <;> by_cases h2 : k b
    · exact absurd (((hk a).mp h1).trans ((hk b).mp h2).symm) hne
    · simp only [h1, h2, if_true, if_false]; exact (hr b hb h2).1
    · simp only [h1, h2, if_true, if_false]; exact (hr a ha h1).2
    · simp only [h1, h2, if_false]; exact hab
  · rename_i hany
    simp only [List.any_eq_true, decide_eq_true_eq, not_exists, not_and] at hany
    rw [List.pairwise_append]
    refine ⟨hQ, List.pairwise_singleton _ _, ?_⟩
    intro a ha b hb
    simp at hb; subst hb
    exact (hr a ha (hany a ha)).2

theorem pairwise_upsert (r : α) (hk : ∀ x, k x ↔ key x = key r) {l : List α}
    (h : l.Pairwise (fun a b => key a ≠ key b)) :
    (upsert k r l).Pairwise (fun a b => key a ≠ key b) :=
  pairwise_upsert_rel key k r hk h h
    (fun x _ hx => ⟨fun e => hx ((hk x).mpr e.symm), fun e => hx ((hk x).mpr e)⟩)

theorem find_of_mem_pairwise [DecidableEq κ] {l : List α}
    (h : l.Pairwise (fun a b => key a ≠ key b)) {x : α} (hx : x ∈ l) :
    l.find? (fun y => decide (key y = key x)) = some x := by
  induction l with
  | nil => cases hx
  | cons a l ih =>
    rw [List.pairwise_cons] at h
    rcases List.mem_cons.mp hx with rfl | hx
    · simp
    · have : key a ≠ key x := h.1 x hx
      simp only [List.find?_cons, this, decide_false]
      exact ih h.2 hx

end UpsertNoDup

def Row.key (r : Row) : String × String := (r.tbl, r.pk)

/-- no two cells of the row for the same column -/
def Row.NoDup (r : Row) : Prop := r.cells.Pairwise (fun a b => a.cid ≠ b.cid)

/-- no two rows with the same `(tbl, pk)`, no two cells of a row with the same `cid` -/
def Db.NoDup (db : Db) : Prop :=
  db.rows.Pairwise (fun a b => a.key ≠ b.key) ∧ ∀ r ∈ db.rows, r.NoDup

theorem setCell_noDup {r : Row} (c : Cell) (h : r.NoDup) : (r.setCell c).NoDup := by
  unfold Row.NoDup at *
  rw [Row.setCell_cells]
  exact pairwise_upsert (fun x : Cell => x.cid) _ c (fun _ => Iff.rfl) h

theorem setRow_noDup {db : Db} {r : Row} (h : db.NoDup) (hr : r.NoDup) : (db.setRow r).NoDup := by
  constructor
  · rw [Db.setRow_rows]
    refine pairwise_upsert Row.key _ r ?_ h.1
    intro x; simp [Row.key]
  · intro x hx
    rw [Db.setRow_rows] at hx
    rcases mem_upsert _ hx with rfl | hx
    · exact hr
    · exact h.2 x hx

theorem resurrect_noDup {o : Option Row} (c : Chg) (h : ∀ r, o = some r → r.NoDup) :
    (resurrect o c).NoDup := by
  unfold Row.NoDup
  rw [resurrect_cells]
  cases o with
  | none => exact List.Pairwise.nil
  | some r =>
    simp only []
    split
    · rw [List.pairwise_map]
      exact (h r rfl).imp (fun hab => hab)
    · exact List.Pairwise.nil

theorem mergeRow_noDup {o : Option Row} {c : Chg} {r' : Row}
    (ho : ∀ r, o = some r → r.NoDup) (h : mergeRow o c = some r') : r'.NoDup :=
  mergeRow_written (Q := Row.NoDup) List.Pairwise.nil List.Pairwise.nil (resurrect_noDup c ho) ho
    (fun _ hr => setCell_noDup _ hr) h

theorem merge_noDup {db : Db} (c : Chg) (h : db.NoDup) : (merge db c).NoDup := by
  rcases merge_cases db c with ⟨_, he⟩ | ⟨r', hm, _, _, he⟩ <;> rw [he]
  · exact h
  · exact setRow_noDup h (mergeRow_noDup (fun r hr => h.2 r (findRow_some hr).2.2) hm)

theorem mergeAll_noDup {db : Db} (cs : List Chg) (h : db.NoDup) : (mergeAll db cs).NoDup := by
  induction cs generalizing db with
  | nil => exact h
  | cons c cs ih => exact ih (merge_noDup c h)

theorem findRow_of_mem {db : Db} (h : db.NoDup) {r : Row} (hr : r ∈ db.rows) :
    db.findRow r.tbl r.pk = some r := by
  have := find_of_mem_pairwise Row.key h.1 hr
  unfold Db.findRow
  rw [← this]
  congr 1
  funext y
  simp [Row.key]

theorem findCell_of_mem {r : Row} (h : r.NoDup) {l : Cell} (hl : l ∈ r.cells) :
    r.findCell l.cid = some l :=
  find_of_mem_pairwise (fun x : Cell => x.cid) h hl

end Corro.Crdt
