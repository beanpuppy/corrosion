/-
The change list of a local transaction has strictly increasing sequence numbers.

`Crdt.localTx` returns the live clock entries attributed to (own site, new version), sorted by
`seq`.  Sorting gives `≤`; strictness needs that no two live entries of the version share a `seq`.
That is an invariant of `applyStmt`: every entry written while the transaction runs takes the next
value of the statement counter, and entries only disappear (are overwritten) — `TxInv` below.
-/
import Corro.Lemmas.NodeList

namespace Corro.Crdt

/-- the clock entries of a row: sentinel (if any), then one per stored cell -/
def rowClocks (r : Row) : List Clock := r.sent.toList ++ r.cells.map (·.clk)

def dbClocks (db : Db) : List Clock := db.rows.flatMap rowClocks

theorem changes_map_clock (db : Db) : db.changes.map Chg.clock = dbClocks db := by
  unfold Db.changes dbClocks
  rw [List.map_flatMap]
  congr 1
  funext r
  cases h : r.sent <;> simp [rowClocks, Chg.clock, h, List.map_map, Function.comp_def]

theorem clock_mem_of_chg_mem {db : Db} {c : Chg} (h : c ∈ db.changes) : c.clock ∈ dbClocks db := by
  rw [← changes_map_clock]; exact List.mem_map_of_mem h

/-- attributed to site `s`, version `v` -/
def Own (s v : Nat) (k : Clock) : Prop := k.site = s ∧ k.dbv = v

/-- two entries of (`s`, `v`) never share a sequence number -/
def Rk (s v : Nat) (a b : Clock) : Prop := Own s v a → Own s v b → a.seq ≠ b.seq

theorem Rk.symm {s v : Nat} {a b : Clock} (h : Rk s v a b) : Rk s v b a :=
  fun hb ha e => h ha hb e.symm

/-- invariant of a running local transaction that will become version `v` of site `s`, with `k`
the next sequence number: the live entries of (`s`, `v`) have pairwise distinct sequence numbers
below `k`; nothing is attributed to a later version. -/
structure TxInv (db : Db) (s v k : Nat) : Prop where
  nodup : db.NoDup
  pw : (dbClocks db).Pairwise (Rk s v)
  bound : ∀ c ∈ dbClocks db, Own s v c → c.seq < k
  le : ∀ c ∈ dbClocks db, c.site = s → c.dbv ≤ v

theorem mem_dbClocks {db : Db} {c : Clock} : c ∈ dbClocks db ↔ ∃ r ∈ db.rows, c ∈ rowClocks r := by
  unfold dbClocks; exact List.mem_flatMap

theorem mem_rows_setRow {db : Db} {r' x : Row} (h : x ∈ (db.setRow r').rows) : x = r' ∨ x ∈ db.rows := by
  rw [Db.setRow_rows] at h
  exact mem_upsert _ h

/-- writing one row: its entries of (`s`,`v`) are new (`≥ k`) or inherited from the row it replaces -/
theorem TxInv.setRow {db : Db} {s v k k' : Nat} (h : TxInv db s v k) (r' : Row) (hk : k ≤ k')
    (hnd : r'.NoDup) (hpw : (rowClocks r').Pairwise (Rk s v))
    (hfresh : ∀ a ∈ rowClocks r', Own s v a →
      k ≤ a.seq ∨ ∃ old ∈ db.rows, old.key = r'.key ∧ a ∈ rowClocks old)
    (hb : ∀ a ∈ rowClocks r', Own s v a → a.seq < k')
    (hle : ∀ a ∈ rowClocks r', a.site = s → a.dbv ≤ v) : TxInv (db.setRow r') s v k' := by
  have hold := List.pairwise_flatMap.mp h.pw
  refine ⟨setRow_noDup h.nodup hnd, ?_, ?_, ?_⟩
  · unfold dbClocks
    rw [Db.setRow_rows, List.pairwise_flatMap]
    constructor
    · intro x hx
      rcases mem_upsert _ hx with rfl | hx
      · exact hpw
      · exact hold.1 x hx
    · refine pairwise_upsert_rel Row.key _ r' (by intro x; simp [Row.key]) h.nodup.1 hold.2 ?_
      intro x hx hkx
      have hkey : x.key ≠ r'.key := by
        intro e; apply hkx; simpa [Row.key] using e
      have main : ∀ a ∈ rowClocks r', ∀ b ∈ rowClocks x, Rk s v a b := by
        intro a ha b hb' oa ob
        have hbk : b.seq < k := h.bound b (mem_dbClocks.mpr ⟨x, hx, hb'⟩) ob
        rcases hfresh a ha oa with hge | ⟨old, hold1, hold2, hold3⟩
        · omega
        · have hne : old ≠ x := by
            intro e; subst e; exact hkey hold2
          have := Node.pairwise_of_ne (R := fun a₁ a₂ => ∀ x ∈ rowClocks a₁, ∀ y ∈ rowClocks a₂, Rk s v x y)
            (fun hxy p hp q hq => (hxy q hq p hp).symm) hold.2 hold1 hx hne
          exact this a hold3 b hb' oa ob
      exact ⟨main, fun b hb' a ha => (main a ha b hb').symm⟩
  · intro c hc oc
    obtain ⟨x, hx, hcx⟩ := mem_dbClocks.mp hc
    rcases mem_rows_setRow hx with rfl | hx
    · exact hb c hcx oc
    · have := h.bound c (mem_dbClocks.mpr ⟨x, hx, hcx⟩) oc; omega
  · intro c hc hs
    obtain ⟨x, hx, hcx⟩ := mem_dbClocks.mp hc
    rcases mem_rows_setRow hx with rfl | hx
    · exact hle c hcx hs
    · exact h.le c (mem_dbClocks.mpr ⟨x, hx, hcx⟩) hs

theorem TxInv.mono {db : Db} {s v k k' : Nat} (h : TxInv db s v k) (hk : k ≤ k') : TxInv db s v k' :=
  ⟨h.nodup, h.pw, fun c hc oc => Nat.lt_of_lt_of_le (h.bound c hc oc) hk, h.le⟩

theorem zipIdx_pairwise {l : List String} (hl : l.Pairwise (· ≠ ·)) (n : Nat) :
    (l.zipIdx n).Pairwise (fun a b => a.1 ≠ b.1 ∧ a.2 < b.2) := by
  induction l generalizing n with
  | nil => simp
  | cons a l ih =>
    rw [List.pairwise_cons] at hl
    rw [List.zipIdx_cons, List.pairwise_cons]
    refine ⟨?_, ih hl.2 (n + 1)⟩
    intro p hp
    exact ⟨hl.1 _ (List.fst_mem_of_mem_zipIdx hp), List.le_snd_of_mem_zipIdx hp⟩

theorem tableCols_nodup {t : String} {cols : List String} (h : tableCols t = some cols) :
    cols.Pairwise (· ≠ ·) := by
  unfold tableCols at h
  split at h <;> cases h <;> simp

section InsRow
variable {s ver k : Nat} {tbl pk : String} {ncl : Nat} {P : Prop} [Decidable P]
  {val : String × Nat → Val} {cols : List String} {a : Clock}

theorem mem_insRow_sent (h : a ∈ (insRow s ver k tbl pk ncl P val cols).sent.toList) :
    P ∧ a = ⟨ncl, s, ver, k⟩ := by
  unfold insRow at h
  by_cases hP : P
  · rw [if_pos hP] at h
    exact ⟨hP, List.mem_singleton.mp h⟩
  · rw [if_neg hP] at h
    cases h

theorem mem_insRow_cells (h : a ∈ (insRow s ver k tbl pk ncl P val cols).cells.map (·.clk)) :
    ∃ x ∈ cols.zipIdx, a = ⟨1, s, ver, (if P then k + 1 else k) + x.2⟩ := by
  obtain ⟨l, hl, rfl⟩ := List.mem_map.mp h
  obtain ⟨x, hx, rfl⟩ := List.mem_map.mp hl
  exact ⟨x, hx, rfl⟩

theorem insRow_clocks (h : a ∈ rowClocks (insRow s ver k tbl pk ncl P val cols)) :
    a.site = s ∧ a.dbv = ver ∧ k ≤ a.seq ∧ a.seq < (if P then k + 1 else k) + cols.length := by
  rcases List.mem_append.mp h with h | h
  · obtain ⟨hP, rfl⟩ := mem_insRow_sent h
    refine ⟨rfl, rfl, Nat.le_refl k, ?_⟩
    rw [if_pos hP]
    exact Nat.lt_add_right _ (Nat.lt_succ_self k)
  · obtain ⟨x, hx, rfl⟩ := mem_insRow_cells h
    have hlt := List.snd_lt_add_of_mem_zipIdx hx
    rw [Nat.zero_add] at hlt
    refine ⟨rfl, rfl, Nat.le_trans ?_ (Nat.le_add_right _ _), Nat.add_lt_add_left hlt _⟩
    split
    · exact Nat.le_succ k
    · exact Nat.le_refl k

theorem insRow_pairwise (s ver k : Nat) (tbl pk : String) (ncl : Nat) (P : Prop) [Decidable P]
    (val : String × Nat → Val) {cols : List String} (hc : cols.Pairwise (· ≠ ·)) :
    (rowClocks (insRow s ver k tbl pk ncl P val cols)).Pairwise (fun a b => a.seq ≠ b.seq) ∧
    (insRow s ver k tbl pk ncl P val cols).NoDup := by
  have hz := zipIdx_pairwise hc 0
  refine ⟨List.pairwise_append.mpr ⟨?_, ?_, fun a ha b hb => ?_⟩, ?_⟩
  · show (Option.toList (if P then _ else _)).Pairwise _
    split
    · exact List.pairwise_singleton _ _
    · exact List.Pairwise.nil
  · show ((cols.zipIdx.map _).map _).Pairwise _
    rw [List.pairwise_map, List.pairwise_map]
    exact hz.imp (fun h => Nat.ne_of_lt (Nat.add_lt_add_left h.2 _))
  · obtain ⟨hP, rfl⟩ := mem_insRow_sent ha
    obtain ⟨x, _, rfl⟩ := mem_insRow_cells hb
    rw [if_pos hP]
    exact Nat.ne_of_lt (Nat.lt_add_right _ (Nat.lt_succ_self k))
  · show (cols.zipIdx.map _).Pairwise _
    rw [List.pairwise_map]
    exact hz.imp (fun h => h.1)

end InsRow

theorem TxInv.ins {db : Db} {v k : Nat} (h : TxInv db db.site v k) (tbl pk : String) (ncl : Nat)
    (P : Prop) [Decidable P] (val : String × Nat → Val) {cols : List String}
    (hc : cols.Pairwise (· ≠ ·)) :
    TxInv (db.setRow (insRow db.site v k tbl pk ncl P val cols)) db.site v
      ((if P then k + 1 else k) + cols.length) := by
  have hp := insRow_pairwise db.site v k tbl pk ncl P val hc
  refine h.setRow _ (by split <;> omega) hp.2 (hp.1.imp (fun hab _ _ => hab)) ?_ ?_ ?_
  · intro a ha _; exact Or.inl (insRow_clocks ha).2.2.1
  · intro a ha _; exact (insRow_clocks ha).2.2.2
  · intro a ha _; exact Nat.le_of_eq (insRow_clocks ha).2.1

@[simp] theorem setCell_sent (r : Row) (c : Cell) : (r.setCell c).sent = r.sent := by
  unfold Row.setCell; split <;> rfl

theorem mem_rowClocks_setCell {r : Row} {c : Cell} {a : Clock} (h : a ∈ rowClocks (r.setCell c)) :
    a = c.clk ∨ a ∈ rowClocks r := by
  unfold rowClocks at h ⊢
  rw [setCell_sent, Row.setCell_cells] at h
  rcases List.mem_append.mp h with h | h
  · exact Or.inr (List.mem_append_left _ h)
  · obtain ⟨x, hx, rfl⟩ := List.mem_map.mp h
    rcases mem_upsert _ hx with rfl | hx
    · exact Or.inl rfl
    · exact Or.inr (List.mem_append_right _ (List.mem_map_of_mem hx))

/-- state of the column loop of a local UPDATE of row `r0` (`k` = counter when the statement began) -/
structure UpdOK (r0 : Row) (s v k : Nat) (acc : Row × Nat) : Prop where
  nodup : acc.1.NoDup
  tbl : acc.1.tbl = r0.tbl
  pk : acc.1.pk = r0.pk
  pw : (rowClocks acc.1).Pairwise (Rk s v)
  bound : ∀ a ∈ rowClocks acc.1, Own s v a → a.seq < acc.2
  fresh : ∀ a ∈ rowClocks acc.1, Own s v a → k ≤ a.seq ∨ a ∈ rowClocks r0
  le : ∀ a ∈ rowClocks acc.1, a.site = s → a.dbv ≤ v
  ge : k ≤ acc.2

theorem UpdOK.step {r0 : Row} {s v k : Nat} {r : Row} {sq : Nat} (h : UpdOK r0 s v k (r, sq))
    (cid : String) (val : Val) (cv : Nat) :
    UpdOK r0 s v k (r.setCell ⟨cid, val, ⟨cv, s, v, sq⟩⟩, sq + 1) := by
  have hold := List.pairwise_append.mp h.pw
  refine ⟨setCell_noDup _ h.nodup, (setCell_tbl _ _).trans h.tbl, (setCell_pk _ _).trans h.pk,
    ?_, ?_, ?_, ?_, Nat.le_succ_of_le h.ge⟩
  · show (rowClocks (r.setCell _)).Pairwise (Rk s v)
    unfold rowClocks
    rw [setCell_sent, Row.setCell_cells, List.pairwise_append]
    refine ⟨hold.1, ?_, ?_⟩
    · rw [List.pairwise_map]
      refine pairwise_upsert_rel (fun x : Cell => x.cid) _ _ (fun _ => Iff.rfl) h.nodup
        (List.pairwise_map.mp hold.2.1) ?_
      intro x hx _
      have hxs : Own s v x.clk → x.clk.seq < sq := fun o =>
        h.bound x.clk (List.mem_append_right _ (List.mem_map_of_mem hx)) o
      exact ⟨fun _ ox => Nat.ne_of_gt (hxs ox), fun ox _ => Nat.ne_of_lt (hxs ox)⟩
    · intro a ha b hb
      obtain ⟨x, hx, rfl⟩ := List.mem_map.mp hb
      rcases mem_upsert _ hx with rfl | hx
      · exact fun oa _ => Nat.ne_of_lt (h.bound a (List.mem_append_left _ ha) oa)
      · exact hold.2.2 a ha _ (List.mem_map_of_mem hx)
  · intro a ha oa
    rcases mem_rowClocks_setCell ha with rfl | ha
    · exact Nat.lt_succ_self sq
    · exact Nat.lt_succ_of_lt (h.bound a ha oa)
  · intro a ha oa
    rcases mem_rowClocks_setCell ha with rfl | ha
    · exact Or.inl h.ge
    · exact h.fresh a ha oa
  · intro a ha hs
    rcases mem_rowClocks_setCell ha with rfl | ha
    · exact Nat.le_refl _
    · exact h.le a ha hs

theorem rowClocks_of_mem {db : Db} {s v k : Nat} (h : TxInv db s v k) {r : Row} (hr : r ∈ db.rows) :
    (rowClocks r).Pairwise (Rk s v) ∧ (∀ a ∈ rowClocks r, Own s v a → a.seq < k) ∧
    (∀ a ∈ rowClocks r, a.site = s → a.dbv ≤ v) :=
  ⟨(List.pairwise_flatMap.mp h.pw).1 r hr,
   fun a ha => h.bound a (mem_dbClocks.mpr ⟨r, hr, ha⟩),
   fun a ha => h.le a (mem_dbClocks.mpr ⟨r, hr, ha⟩)⟩

theorem applyStmt_inv {db : Db} {v k : Nat} (hi : TxInv db db.site v k) {st : Stmt} {db' : Db} {k' : Nat}
    (h : applyStmt db v k st = .ok (db', k')) : TxInv db' db.site v k' ∧ db'.site = db.site := by
  cases st with
  | ins tbl pk assigns =>
    cases hc : tableCols tbl with
    | none => simp [applyStmt, hc] at h
    | some cols =>
      exact applyStmt_ins_elim (Q := fun db' k' => TxInv db' db.site v k' ∧ db'.site = db.site) hc
        (fun ncl P _ val _ => ⟨hi.ins tbl pk ncl P val (tableCols_nodup hc), setRow_site _ _⟩) h
  | upd tbl pk assigns =>
    cases hc : tableCols tbl with
    | none => simp [applyStmt, hc] at h
    | some cols =>
      simp only [applyStmt, hc] at h
      cases hr : db.findRow tbl pk with
      | none => rw [hr] at h; cases h; exact ⟨hi, rfl⟩
      | some r =>
        rw [hr] at h
        dsimp only at h
        by_cases he : r.cl % 2 = 0
        · rw [if_pos he] at h; cases h; exact ⟨hi, rfl⟩
        rw [if_neg he] at h
        have hrm := findRow_some hr
        have hrow := rowClocks_of_mem hi hrm.2.2
        generalize hfold : List.foldl _ (r, k) cols = res at h
        have hres : UpdOK r db.site v k res := by
          rw [← hfold]
          refine Node.foldl_inv (UpdOK r db.site v k) _ cols _
            ⟨hi.nodup.2 r hrm.2.2, rfl, rfl, hrow.1, hrow.2.1, fun a ha _ => Or.inr ha, hrow.2.2,
              Nat.le_refl _⟩ (fun acc c _ hacc => ?_)
          obtain ⟨r1, s1⟩ := acc
          dsimp only
          split
          · exact hacc
          · split
            · exact hacc
            · exact hacc.step _ _ _
        cases h
        refine ⟨hi.setRow res.1 hres.ge hres.nodup hres.pw ?_ hres.bound hres.le, setRow_site _ _⟩
        intro a ha oa
        rcases hres.fresh a ha oa with hge | hin
        · exact Or.inl hge
        · exact Or.inr ⟨r, hrm.2.2, by simp [Row.key, hres.tbl, hres.pk], hin⟩
  | del tbl pk =>
    simp only [applyStmt] at h
    cases hr : db.findRow tbl pk with
    | none => rw [hr] at h; cases h; exact ⟨hi, rfl⟩
    | some r =>
      rw [hr] at h
      dsimp only at h
      by_cases he : r.cl % 2 = 0
      · rw [if_pos he] at h; cases h; exact ⟨hi, rfl⟩
      rw [if_neg he] at h
      cases h
      -- the tombstone's only clock entry is the sentinel, numbered `k`
      have hk : ∀ a ∈ rowClocks
          { r with cl := r.cl + 1, sent := some ⟨r.cl + 1, db.site, v, k⟩, cells := [] },
          a.seq = k ∧ a.dbv = v := fun a ha => by
        rw [List.mem_singleton.mp ha]; exact ⟨rfl, rfl⟩
      exact ⟨hi.setRow _ (Nat.le_succ k) List.Pairwise.nil (List.pairwise_singleton _ _)
        (fun a ha _ => Or.inl (Nat.le_of_eq (hk a ha).1.symm))
        (fun a ha _ => Nat.lt_succ_of_le (Nat.le_of_eq (hk a ha).1))
        (fun a ha _ => Nat.le_of_eq (hk a ha).2), setRow_site _ _⟩

theorem applyStmts_inv {stmts : List Stmt} {db : Db} {v k : Nat} (hi : TxInv db db.site v k)
    {db' : Db} {k' : Nat} (h : applyStmts db v k stmts = .ok (db', k')) :
    TxInv db' db.site v k' ∧ db'.site = db.site := by
  induction stmts generalizing db k with
  | nil =>
    simp only [applyStmts, Except.ok.injEq, Prod.mk.injEq] at h
    obtain ⟨h1, h2⟩ := h; subst h1 h2; exact ⟨hi, rfl⟩
  | cons st ss ih =>
    simp only [applyStmts] at h
    split at h
    · cases h
    · rename_i db1 k1 h1
      have ⟨i1, s1⟩ := applyStmt_inv hi h1
      have ⟨i2, s2⟩ := ih (s1 ▸ i1) h
      exact ⟨s1 ▸ i2, s2.trans s1⟩

/-- the store between transactions: keys unique, nothing attributed to a version the site has not
produced yet -/
structure DbOk (db : Db) : Prop where
  nodup : db.NoDup
  le : ∀ c ∈ dbClocks db, c.site = db.site → c.dbv ≤ db.dbv

theorem DbOk.txInv {db : Db} (h : DbOk db) : TxInv db db.site (db.dbv + 1) 0 := by
  refine ⟨h.nodup, ?_, ?_, ?_⟩
  · refine List.pairwise_of_forall_mem_list ?_
    intro a ha b _ oa _
    have := h.le a ha oa.1
    have := oa.2
    omega
  · intro c hc oc
    have := h.le c hc oc.1
    have := oc.2
    omega
  · intro c hc hs
    have := h.le c hc hs
    omega

theorem dbOk_empty (s : Nat) : DbOk { site := s } :=
  ⟨⟨List.Pairwise.nil, fun _ h => by cases h⟩, fun _ h _ => by simp [dbClocks] at h⟩

/-- what an acknowledged local transaction returns: the next version; a non-empty change list
with strictly increasing sequence numbers that is exactly the set of live entries attributed to
(own site, that version) in the new store -/
theorem localTx_some {db : Db} (hok : DbOk db) {stmts : List Stmt} {db' : Db} {ver : Nat}
    {chs : List Chg} (h : localTx db stmts = .ok (db', some (ver, chs))) :
    ver = db.dbv + 1 ∧ db'.dbv = ver ∧ db'.site = db.site ∧ DbOk db' ∧ chs ≠ [] ∧
    chs.Pairwise (fun a b => a.seq < b.seq) ∧
    (∀ c, c ∈ chs ↔ c ∈ db'.changes ∧ c.site = db.site ∧ c.dbv = ver) := by
  obtain ⟨db1, k1, h1, _, rfl, ⟨_, _, ho⟩ | ⟨hne, rfl, ho⟩⟩ := localTx_ok h
  · cases ho
  cases ho
  have ⟨inv, hs⟩ := applyStmts_inv hok.txInv h1
  have hmem : ∀ c, c ∈ sortBySeq (db1.changesOf db.site (db.dbv + 1) 0
      (db1.changes.foldl (fun m c => max m c.seq) 0)) ↔
      c ∈ db1.changes ∧ c.site = db.site ∧ c.dbv = db.dbv + 1 := by
    intro c
    rw [mem_sortBySeq]
    unfold Db.changesOf
    simp only [List.mem_filter, decide_eq_true_eq, Nat.zero_le, true_and]
    exact ⟨fun ⟨h1, h2, h3, _⟩ => ⟨h1, h2, h3⟩, fun ⟨h1, h2, h3⟩ => ⟨h1, h2, h3, le_foldl_max h1 0⟩⟩
  refine ⟨rfl, rfl, hs, ⟨inv.nodup, fun c hc hs' => inv.le c hc (hs'.trans hs)⟩, hne, ?_, hmem⟩
  apply Node.sortBySeq_strict
  have hp : db1.changes.Pairwise (fun a b => Rk db.site (db.dbv + 1) a.clock b.clock) := by
    have := inv.pw
    rw [← changes_map_clock, List.pairwise_map] at this
    exact this
  unfold Db.changesOf
  refine (hp.filter _).imp_of_mem ?_
  intro a b ha hb hab
  simp only [List.mem_filter, decide_eq_true_eq] at ha hb
  exact hab ⟨ha.2.1, ha.2.2.1⟩ ⟨hb.2.1, hb.2.2.1⟩

end Corro.Crdt
