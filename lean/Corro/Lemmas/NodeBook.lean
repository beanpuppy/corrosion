/-
The per-actor bookkeeping operations `insertDb`, `insertPartial`, `dropPartials`: what they do to
head, needed set and partials map, and the predicates they keep:
canonical seq ranges (`Booked.PWF`, `Node.BookWF`) and sorted keys (`Booked.KeysSorted`).
-/
import Corro.Lemmas.Ranges
import Corro.Lemmas.NodeList

namespace Corro.Node
open Corro.Crdt

theorem le_sup {rs : List (Nat × Nat)} {r : Nat × Nat} (h : r ∈ rs) : r.2 ≤ sup rs :=
  (foldl_max_spec (fun r : Nat × Nat => r.2) rs 0).2.1 r h

theorem sup_attained (rs : List (Nat × Nat)) : sup rs = 0 ∨ ∃ r ∈ rs, sup rs = r.2 :=
  (foldl_max_spec (fun r : Nat × Nat => r.2) rs 0).2.2

theorem sup_singleton (a b : Nat) : sup [(a, b)] = b := Nat.zero_max b

theorem insertDb_max (b : Booked) (vs : List (Nat × Nat)) (h : vs ≠ []) :
    (b.insertDb vs).max = Nat.max b.max (sup vs) := by
  unfold Booked.insertDb
  rw [if_neg (by simpa using h)]

/-- `needed ∪ [max+1, s]`, the set `insert_db` then removes the inserted versions from -/
theorem needed1_spec {b : Booked} (hw : RSet.WF b.needed) (s : Nat) :
    RSet.WF (if b.max + 1 ≤ s then RSet.insert b.needed (b.max + 1, s) else b.needed) ∧
    ∀ x, RSet.Mem (if b.max + 1 ≤ s then RSet.insert b.needed (b.max + 1, s) else b.needed) x ↔
      RSet.Mem b.needed x ∨ (b.max + 1 ≤ x ∧ x ≤ s) := by
  split
  · next h => exact ⟨RSet.insert_wf _ _ _ h hw, fun x => RSet.mem_insert _ _ _ _ h⟩
  · next h => exact ⟨hw, fun x => ⟨Or.inl, fun hx => hx.resolve_right (fun hx => h (Nat.le_trans hx.1 hx.2))⟩⟩

theorem insertDb_needed_wf {b : Booked} (hw : RSet.WF b.needed) (vs : List (Nat × Nat))
    (hvs : ∀ r ∈ vs, r.1 ≤ r.2) : RSet.WF (b.insertDb vs).needed := by
  unfold Booked.insertDb
  split
  · exact hw
  · exact RSet.removeAll_wf _ _ (needed1_spec hw _).1 hvs

theorem mem_insertDb_needed {b : Booked} (hw : RSet.WF b.needed) (vs : List (Nat × Nat))
    (hvs : ∀ r ∈ vs, r.1 ≤ r.2) (hne : vs ≠ []) (x : Nat) :
    RSet.Mem (b.insertDb vs).needed x ↔
      (RSet.Mem b.needed x ∨ (b.max + 1 ≤ x ∧ x ≤ sup vs)) ∧ ¬ ∃ r ∈ vs, r.1 ≤ x ∧ x ≤ r.2 := by
  unfold Booked.insertDb
  rw [if_neg (by simpa using hne)]
  exact (RSet.mem_removeAll _ _ (needed1_spec hw _).1 hvs x).trans (and_congr_left' ((needed1_spec hw _).2 x))

theorem insertDb_not_needed (b : Booked) (hw : RSet.WF b.needed) (vs : List (Nat × Nat))
    (hvs : ∀ r ∈ vs, r.1 ≤ r.2) (v : Nat) (hv : ∃ r ∈ vs, r.1 ≤ v ∧ v ≤ r.2) :
    ¬ RSet.Mem (b.insertDb vs).needed v := fun h =>
  ((mem_insertDb_needed hw vs hvs (fun he => by obtain ⟨r, hr, _⟩ := hv; rw [he] at hr; cases hr) v).mp h).2 hv

@[simp] theorem insertDb_partials (b : Booked) (vs : List (Nat × Nat)) :
    (b.insertDb vs).partials = b.partials := by
  unfold Booked.insertDb; split <;> rfl

theorem partial?_insertDb (b : Booked) (vs : List (Nat × Nat)) (v : Nat) :
    (b.insertDb vs).partial? v = b.partial? v := by
  unfold Booked.partial?; rw [insertDb_partials]

/-- what `insert_partial` stores and returns for version `v` -/
def mergedPartial (b : Booked) (v : Nat) (p : Partial) : Partial :=
  match b.partial? v with
  | none => p
  | some old => { old with seqs := RSet.insertAll old.seqs p.seqs }

theorem insertPartial_snd (b : Booked) (v : Nat) (p : Partial) :
    (b.insertPartial v p).2 = mergedPartial b v p := by
  unfold Booked.insertPartial mergedPartial
  cases b.partial? v <;> rfl

theorem partial?_insertPartial_same (b : Booked) (v : Nat) (p : Partial) :
    (b.insertPartial v p).1.partial? v = some (mergedPartial b v p) := by
  unfold Booked.insertPartial mergedPartial
  cases h : b.partial? v with
  | none =>
    simp only [partial?_eq]
    exact alook_insertSortedBy_same _ _ _ h
  | some old =>
    simp only [partial?_eq]
    rw [alook_map_replace b.partials v (fun _ => { old with seqs := RSet.insertAll old.seqs p.seqs }) v,
      if_pos rfl, ← partial?_eq, h]
    rfl

theorem partial?_insertPartial_other (b : Booked) (v : Nat) (p : Partial) (w : Nat) (h : w ≠ v) :
    (b.insertPartial v p).1.partial? w = b.partial? w := by
  unfold Booked.insertPartial
  cases hv : b.partial? v with
  | none =>
    simp only [partial?_eq]
    exact alook_insertSortedBy_other _ _ _ _ h
  | some old =>
    simp only [partial?_eq]
    rw [alook_map_replace b.partials v (fun _ => { old with seqs := RSet.insertAll old.seqs p.seqs }) w,
      if_neg h]

theorem partial?_insertPartial (b : Booked) (v : Nat) (p : Partial) (w : Nat) :
    (b.insertPartial v p).1.partial? w = if w = v then some (mergedPartial b v p) else b.partial? w := by
  split
  · next h => rw [h, partial?_insertPartial_same]
  · next h => rw [partial?_insertPartial_other _ _ _ _ h]

@[simp] theorem insertPartial_needed (b : Booked) (v : Nat) (p : Partial) :
    (b.insertPartial v p).1.needed = b.needed := by
  unfold Booked.insertPartial; cases b.partial? v <;> rfl

theorem insertPartial_max (b : Booked) (v : Nat) (p : Partial) :
    (b.insertPartial v p).1.max = if (b.partial? v).isSome then b.max else Nat.max b.max v := by
  unfold Booked.insertPartial; cases b.partial? v <;> rfl

theorem partial?_dropPartials (b : Booked) (lo hi v : Nat) :
    (b.dropPartials lo hi).partial? v = if lo ≤ v ∧ v ≤ hi then none else b.partial? v := by
  unfold Booked.dropPartials
  simp only [partial?_eq]
  rw [alook_filter_key b.partials (fun k => !(decide (lo ≤ k) && decide (k ≤ hi))) v]
  by_cases h : lo ≤ v ∧ v ≤ hi
  · simp [h]
  · rw [if_neg h, if_pos]
    simp only [Bool.not_eq_true', Bool.and_eq_false_iff, decide_eq_false_iff_not]
    omega

@[simp] theorem dropPartials_needed (b : Booked) (lo hi : Nat) : (b.dropPartials lo hi).needed = b.needed := rfl
@[simp] theorem dropPartials_max (b : Booked) (lo hi : Nat) : (b.dropPartials lo hi).max = b.max := rfl

/-- the received seq ranges of a partial are in canonical form -/
def Booked.PWF (b : Booked) : Prop := ∀ e ∈ b.partials, RSet.WF e.2.seqs

def Node.BookWF (n : Node) : Prop := ∀ e ∈ n.book, e.2.PWF

theorem Booked.PWF.of_partial? {b : Booked} (h : b.PWF) {v : Nat} {p : Partial}
    (hp : b.partial? v = some p) : RSet.WF p.seqs :=
  h (v, p) (alook_some_mem hp)

theorem complete_iff {p : Partial} (hw : RSet.WF p.seqs) :
    p.complete = true ↔ ∀ x, x ≤ p.last → RSet.Mem p.seqs x :=
  (RSet.gaps_isEmpty_iff hw 0 p.last).trans ⟨fun h x => h x (Nat.zero_le x), fun h x _ => h x⟩

theorem mem_of_gaps_empty {s : RSet} (hw : RSet.WF s) {lo hi x : Nat}
    (h : (RSet.gaps s (lo, hi)).isEmpty = true) (hx : lo ≤ x ∧ x ≤ hi) : RSet.Mem s x :=
  (RSet.gaps_isEmpty_iff hw lo hi).mp h x hx.1 hx.2

theorem gaps_empty_of_sub {s t : RSet} (hs : RSet.WF s) (ht : RSet.WF t) (h : ∀ x, RSet.Mem s x → RSet.Mem t x)
    {r : Nat × Nat} (hg : (RSet.gaps s r).isEmpty = true) : (RSet.gaps t r).isEmpty = true :=
  (RSet.gaps_isEmpty_iff ht r.1 r.2).mpr fun x h1 h2 => h x (mem_of_gaps_empty hs hg ⟨h1, h2⟩)

theorem mergedPartial_wf {b : Booked} (hb : b.PWF) (v : Nat) {p : Partial} (hp : RSet.WF p.seqs) :
    RSet.WF (mergedPartial b v p).seqs := by
  unfold mergedPartial
  cases h : b.partial? v with
  | none => exact hp
  | some old =>
    exact RSet.insertAll_wf _ _ (hb.of_partial? h) (RSet.wf_forward hp)

theorem mem_mergedPartial {b : Booked} (v : Nat) {p : Partial} (hp : RSet.WF p.seqs) (x : Nat) :
    RSet.Mem (mergedPartial b v p).seqs x ↔
      (∃ old, b.partial? v = some old ∧ RSet.Mem old.seqs x) ∨ RSet.Mem p.seqs x := by
  unfold mergedPartial
  cases h : b.partial? v with
  | none => simp
  | some old =>
    simp only [Option.some.injEq, exists_eq_left']
    rw [RSet.mem_insertAll _ _ (RSet.wf_forward hp)]
    rfl

theorem mergedPartial_last (b : Booked) (v : Nat) (p : Partial) :
    (mergedPartial b v p).last = match b.partial? v with | none => p.last | some old => old.last := by
  unfold mergedPartial; cases b.partial? v <;> rfl

theorem insertPartial_pwf {b : Booked} (hb : b.PWF) (v : Nat) {p : Partial} (hp : RSet.WF p.seqs) :
    (b.insertPartial v p).1.PWF := by
  have hm := mergedPartial_wf hb v hp
  unfold Booked.insertPartial
  unfold mergedPartial at hm
  cases h : b.partial? v with
  | none =>
    rw [h] at hm
    intro e he
    rcases (mem_insertSortedBy _).mp he with rfl | he
    · exact hp
    · exact hb e he
  | some old =>
    rw [h] at hm
    intro e he
    simp only at he
    obtain ⟨e', he', rfl⟩ := List.mem_map.mp he
    split
    · exact hm
    · exact hb e' he'

theorem dropPartials_pwf {b : Booked} (hb : b.PWF) (lo hi : Nat) : (b.dropPartials lo hi).PWF := by
  intro e he
  exact hb e (List.mem_filter.mp he).1

theorem insertDb_pwf {b : Booked} (hb : b.PWF) (vs : List (Nat × Nat)) : (b.insertDb vs).PWF := by
  unfold Booked.PWF; rw [insertDb_partials]; exact hb

theorem booked_pwf {n : Node} (h : n.BookWF) (a : Nat) : (n.booked a).PWF := by
  rw [booked_eq]
  cases ha : alook n.book a with
  | none => intro e he; cases he
  | some b => exact h (a, b) (alook_some_mem ha)

theorem setBooked_bookWF {n : Node} (h : n.BookWF) (a : Nat) {b : Booked} (hb : b.PWF) :
    (n.setBooked a b).BookWF := by
  unfold Node.setBooked
  split
  · intro e he
    simp only at he
    obtain ⟨e', he', rfl⟩ := List.mem_map.mp he
    split
    · exact hb
    · exact h e' he'
  · intro e he
    simp only at he
    rcases (mem_insertSortedBy _).mp he with rfl | he
    · exact hb
    · exact h e he

theorem mergedPartial_complete_mono {b : Booked} (hb : b.PWF) (v : Nat) {p old : Partial}
    (hp : RSet.WF p.seqs) (ho : b.partial? v = some old) (hc : old.complete = true) :
    (mergedPartial b v p).complete = true := by
  rw [complete_iff (mergedPartial_wf hb v hp)]
  rw [mergedPartial_last, ho]
  intro x hx
  rw [mem_mergedPartial v hp]
  left
  exact ⟨old, ho, (complete_iff (hb.of_partial? ho)).mp hc x hx⟩

theorem le_insertDb_max (b : Booked) (vs : List (Nat × Nat)) : b.max ≤ (b.insertDb vs).max := by
  unfold Booked.insertDb
  split
  · exact Nat.le_refl _
  · exact Nat.le_max_left _ _

theorem mem_le_insertDb_max (b : Booked) {vs : List (Nat × Nat)} {r : Nat × Nat} (h : r ∈ vs) :
    r.2 ≤ (b.insertDb vs).max := by
  rw [insertDb_max _ _ (List.ne_nil_of_mem h)]
  exact Nat.le_trans (le_sup h) (Nat.le_max_right _ _)

theorem insertDb_nil (b : Booked) : b.insertDb [] = b := rfl

theorem insertDb_single_max (b : Booked) (lo hi : Nat) : (b.insertDb [(lo, hi)]).max = max b.max hi := by
  rw [insertDb_max _ _ (by simp), sup_singleton]

theorem insertDb_known_eq {b : Booked} (hw : RSet.WF b.needed) {v : Nat} (hv : v ≤ b.max)
    (hn : ¬ RSet.Mem b.needed v) : b.insertDb [(v, v)] = b := by
  have hfw : ∀ r ∈ [(v, v)], r.1 ≤ r.2 := fun r hr => by rw [List.mem_singleton.mp hr]; exact Nat.le_refl v
  have hmx : (b.insertDb [(v, v)]).max = b.max := by
    rw [insertDb_max _ _ (List.cons_ne_nil _ _), sup_singleton]; exact Nat.max_eq_left hv
  have hnd : (b.insertDb [(v, v)]).needed = b.needed := by
    apply RSet.wf_unique _ _ (insertDb_needed_wf hw _ hfw) hw
    intro x
    rw [mem_insertDb_needed hw _ hfw (List.cons_ne_nil _ _), sup_singleton]
    constructor
    · rintro ⟨h1 | h1, _⟩
      · exact h1
      · exact absurd (Nat.le_trans h1.1 (Nat.le_trans h1.2 hv)) (Nat.not_succ_le_self _)
    · refine fun h1 => ⟨Or.inl h1, ?_⟩
      rintro ⟨r, hr, h2, h3⟩
      rw [List.mem_singleton.mp hr] at h2 h3
      have hx : x = v := Nat.le_antisymm h3 h2
      exact hn (hx ▸ h1)
  -- the three fields agree, and a `Booked` is its three fields
  show Booked.mk (b.insertDb [(v, v)]).max (b.insertDb [(v, v)]).needed (b.insertDb [(v, v)]).partials = b
  rw [hmx, hnd, insertDb_partials]

def Booked.KeysSorted (b : Booked) : Prop := b.partials.Pairwise (fun x y => x.1 < y.1)

theorem insertPartial_keysSorted {b : Booked} (h : b.KeysSorted) (v : Nat) (p : Partial) :
    (b.insertPartial v p).1.KeysSorted := by
  unfold Booked.insertPartial
  cases hv : b.partial? v with
  | none =>
    simp only
    refine insertSortedBy_strict (fun (e : Nat × Partial) => e.1) (v, p) h ?_
    intro x hx
    exact alook_eq_none.mp hv x hx
  | some old =>
    exact pairwise_map_replace h v (fun _ => { old with seqs := RSet.insertAll old.seqs p.seqs })

theorem dropPartials_keysSorted {b : Booked} (h : b.KeysSorted) (lo hi : Nat) :
    (b.dropPartials lo hi).KeysSorted :=
  List.Pairwise.sublist List.filter_sublist h

theorem insertDb_keysSorted {b : Booked} (h : b.KeysSorted) (vs : List (Nat × Nat)) :
    (b.insertDb vs).KeysSorted := by
  unfold Booked.KeysSorted; rw [insertDb_partials]; exact h

theorem partial?_of_mem {b : Booked} (h : b.KeysSorted) {v : Nat} {p : Partial}
    (hm : (v, p) ∈ b.partials) : b.partial? v = some p := alook_of_mem_sorted h hm

end Corro.Node
