/-
The one general fact about the header model of C17: which header values are read as a bearer token.
-/
import Corro.Model.Authz

namespace Corro.Authz

theorem parseValue_bearer (pre rest : List Char) (hp : pre.map asciiLower = "bearer".toList)
    (hs : (pre ++ ' ' :: rest).all isStrByte = true) :
    parseValue (pre ++ ' ' :: rest) = .bearer (String.ofList (rest.dropWhile isWs)) := by
  have hlen : pre.length = 6 := by
    have := congrArg List.length hp
    rwa [List.length_map] at this
  have htake : (pre ++ ' ' :: rest).take 6 = pre := by rw [← hlen]; exact List.take_left
  have hdrop : (pre ++ ' ' :: rest).drop 7 = rest := by
    rw [List.append_cons]; exact List.drop_left' (by simp [hlen])
  unfold parseValue
  rw [if_pos (by simp [htake, hp, hs, hlen]), hdrop]

end Corro.Authz
