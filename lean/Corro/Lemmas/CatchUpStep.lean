/-
The main task of `Corro.CatchUp` read as a relation: `Main cfg e s pc s'` has one rule per leaf of
`stepMain`'s decision tree, and `Main.of` says that `stepMain` takes one of them from `s.pc`.  A proof about a
step opens with `have h := Main.of cfg e s; generalize stepMain cfg e s = s' at h`, then rewrites the index with
what it knows of `s.pc` (`cases h` leaves the rules of that point only) or generalizes it and goes by rule name.
-/
import Corro.Model.CatchUp

namespace Corro.CatchUp

/-- The index is the program point the step starts from.  The tests that lead to a leaf are its premises, the
new state is the record the leaf builds (a field the leaf does not write reduces to the field of `s`).  A leaf
that stays at its program point names it in the record all the same, so that whatever is said of the new
state at its `pc` reduces too. -/
inductive Main (cfg : Cfg) (e : Env) (s : Sub) : Pc → Sub → Prop
  | startAnew : s.mode = .anew →
    Main cfg e s .start { s with pc := .readEoq e.committed, out := s.out ++ [.rows e.committed] }
  | startSkip : s.mode = .skip →
    Main cfg e s .start { s with pc := .tryRecv, last := e.committed, base := some e.committed }
  | startSince {n} : s.mode = .since n →
    Main cfg e s .start
      { s with pc := .tryRecv, last := (logRead e n).2, base := some n, out := s.out ++ (logRead e n).1 }
  | readEoq {pin} :
    Main cfg e s (.readEoq pin) { s with pc := .tryRecv, last := pin, base := some pin, out := s.out ++ [.eoq pin] }
  | recvQueued : s.qHead < s.qTail →
    Main cfg e s .tryRecv
      { s with minId := s.last + 1, pending := some s.qHead, target := some s.qHead, qHead := s.qHead + 1,
               pc := .loop 0 }
  | recvClosed : ¬ s.qHead < s.qTail → s.qt = .failed ∨ s.qt = .stopped →
    Main cfg e s .tryRecv
      { s with minId := s.last + 1, pending := none, pc := .done, out := s.out ++ [.error, .closed] }
  | recvCaughtUp : ¬ s.qHead < s.qTail → ¬ (s.qt = .failed ∨ s.qt = .stopped) → e.sent ≤ s.last →
    Main cfg e s .tryRecv { s with minId := s.last + 1, pending := none, target := none, pc := .sendPending }
  | recvBehind : ¬ s.qHead < s.qTail → ¬ (s.qt = .failed ∨ s.qt = .stopped) → ¬ e.sent ≤ s.last →
    Main cfg e s .tryRecv { s with minId := s.last + 1, pending := none, target := some e.sent, pc := .loop 0 }
  | loopNone {i} : s.target = none → Main cfg e s (.loop i) { s with pc := .sendPending }
  | loopRead {i t} : s.target = some t → i < cfg.attempts → s.last + 1 ≤ t →
    Main cfg e s (.loop i)
      { s with minId := s.last + 1, last := (logRead e s.last).2, out := s.out ++ (logRead e s.last).1,
               pc := .loop (i + 1) }
  | loopReached {i t} : s.target = some t → i < cfg.attempts → ¬ s.last + 1 ≤ t →
    Main cfg e s (.loop i) { s with minId := s.last + 1, pc := .afterLoop }
  | loopSpent {i t} : s.target = some t → ¬ i < cfg.attempts → Main cfg e s (.loop i) { s with pc := .afterLoop }
  | afterNone : s.target = none → Main cfg e s .afterLoop { s with pc := .sendPending }
  | afterShort {t} : s.target = some t → s.minId ≤ t →
    Main cfg e s .afterLoop { s with pc := .done, out := s.out ++ [.error, .closed] }
  | afterOk {t} : s.target = some t → ¬ s.minId ≤ t → Main cfg e s .afterLoop { s with pc := .sendPending }
  | pendNone : s.pending = none → Main cfg e s .sendPending { s with pc := .cancel }
  | pendSend {c} : s.pending = some c → s.last < c →
    Main cfg e s .sendPending { s with pc := .cancel, last := c, out := s.out ++ [.change c] }
  | pendSkip {c} : s.pending = some c → ¬ s.last < c → Main cfg e s .sendPending { s with pc := .cancel }
  | cancel : Main cfg e s .cancel { s with pc := .drain, cancelled := true }
  | drainSend : s.qHead < s.qTail → s.last < s.qHead →
    Main cfg e s .drain
      { s with pc := .drain, qHead := s.qHead + 1, last := s.qHead, out := s.out ++ [.change s.qHead] }
  | drainSkip : s.qHead < s.qTail → ¬ s.last < s.qHead →
    Main cfg e s .drain { s with pc := .drain, qHead := s.qHead + 1 }
  | drainEnd : ¬ s.qHead < s.qTail → s.qt = .stopped ∨ s.qt = .failed → Main cfg e s .drain { s with pc := .join }
  | drainWait : ¬ s.qHead < s.qTail → ¬ (s.qt = .stopped ∨ s.qt = .failed) → Main cfg e s .drain s
  | joinFailed : s.qt = .failed → Main cfg e s .join { s with pc := .done, out := s.out ++ [.error, .closed] }
  | handOver : s.qt ≠ .failed → Main cfg e s .join { s with pc := .live, handed := true }
  | liveLagged : lagging cfg e s = true → Main cfg e s .live { s with pc := .done, out := s.out ++ [.closed] }
  | liveSkip : s.cur ≤ e.published → cfg.fixed = true → s.cur ≤ s.last →
    Main cfg e s .live { s with pc := .live, cur := s.cur + 1 }
  | liveSend : s.cur ≤ e.published → cfg.fixed = true → ¬ s.cur ≤ s.last →
    Main cfg e s .live { s with pc := .live, cur := s.cur + 1, last := s.cur, out := s.out ++ [.change s.cur] }
  | liveUnfiltered : s.cur ≤ e.published → ¬ cfg.fixed = true →
    Main cfg e s .live { s with pc := .live, cur := s.cur + 1, out := s.out ++ [.change s.cur] }
  | liveWait : ¬ lagging cfg e s = true → ¬ s.cur ≤ e.published → Main cfg e s .live s
  | done : Main cfg e s .done s

theorem Main.of (cfg : Cfg) (e : Env) (s : Sub) : Main cfg e s s.pc (stepMain cfg e s) := by
  cases hpc : s.pc with
  | start =>
    simp only [stepMain, hpc]
    split
    · exact .startAnew ‹_›
    · exact .startSkip ‹_›
    · exact .startSince ‹_›
  | readEoq => simp only [stepMain, hpc]; exact .readEoq
  | tryRecv =>
    simp only [stepMain, hpc]
    exact iteInduction (fun h1 => .recvQueued h1) fun h1 => iteInduction (fun h2 => .recvClosed h1 h2) fun h2 =>
      iteInduction (fun h3 => .recvCaughtUp h1 h2 h3) fun h3 => .recvBehind h1 h2 h3
  | loop =>
    simp only [stepMain, hpc]
    split <;> rename_i ht
    · exact .loopNone ht
    · exact iteInduction (fun h1 => iteInduction (fun h2 => .loopRead ht h1 h2) fun h2 => .loopReached ht h1 h2)
        fun h1 => .loopSpent ht h1
  | afterLoop =>
    simp only [stepMain, hpc]
    split <;> rename_i ht
    · exact .afterNone ht
    · exact iteInduction (fun h => .afterShort ht h) fun h => .afterOk ht h
  | sendPending =>
    simp only [stepMain, hpc]
    split <;> rename_i hc
    · exact iteInduction (fun h => .pendSend hc h) fun h => .pendSkip hc h
    · exact .pendNone hc
  | cancel => simp only [stepMain, hpc]; exact .cancel
  | drain =>
    simp only [stepMain, hpc]
    exact iteInduction (fun h1 => iteInduction (fun h2 => .drainSend h1 h2) fun h2 => .drainSkip h1 h2) fun h1 =>
      iteInduction (fun h2 => .drainEnd h1 h2) fun h2 => .drainWait h1 h2
  | join =>
    simp only [stepMain, hpc]
    exact iteInduction (fun h => .joinFailed h) fun h => .handOver h
  | live =>
    simp only [stepMain, hpc]
    exact iteInduction (fun h1 => .liveLagged h1) fun h1 => iteInduction (fun h2 => iteInduction (fun h3 =>
      iteInduction (fun h4 => .liveSkip h2 h3 h4) fun h4 => .liveSend h2 h3 h4) fun h3 => .liveUnfiltered h2 h3)
      fun h2 => .liveWait h1 h2
  | done => simp only [stepMain, hpc]; exact .done

section
variable (cfg : Cfg) (e : Env) {s : Sub}

theorem stepMain_done (h : s.pc = .done) : stepMain cfg e s = s := by
  simp only [stepMain, h]

theorem stepQRecv_frame {P : Sub → Prop} (h : ∀ qt cur qTail, P { s with qt := qt, cur := cur, qTail := qTail }) :
    P (stepQRecv cfg e s) := by
  unfold stepQRecv
  exact iteInduction (fun _ => iteInduction (fun _ => iteInduction (fun _ => h ..) fun _ => h ..) fun _ =>
    iteInduction (fun _ => iteInduction (fun _ => h ..) fun _ => h ..) fun _ => h ..) fun _ => h ..

theorem stepQCancel_frame {P : Sub → Prop} (h : ∀ qt, P { s with qt := qt }) : P (stepQCancel s) := by
  unfold stepQCancel
  exact iteInduction (fun _ => h _) fun _ => h _

end

theorem step_fst (cfg : Cfg) (st : State) (a : Act) : (step cfg st a).1 = stepEnv cfg st.1 a := by
  cases a <;> rfl

/-- Only `main` gets the action as a hypothesis: `env` is asked for every `a`, which costs nothing
since `stepEnv` is the identity on the subscriber's own actions. -/
theorem step_cases {P : State → Prop} (cfg : Cfg) (st : State) (a : Act)
    (main : a = .main → P (st.1, stepMain cfg st.1 st.2))
    (qrecv : P (st.1, stepQRecv cfg st.1 st.2))
    (qcancel : P (st.1, stepQCancel st.2))
    (env : P (stepEnv cfg st.1 a, st.2)) : P (step cfg st a) := by
  cases a
  case main => exact main rfl
  case qrecv => exact qrecv
  case qcancel => exact qcancel
  all_goals exact env

theorem run_append (cfg : Cfg) (a b : List Act) : ∀ st : State, run cfg st (a ++ b) = run cfg (run cfg st a) b := by
  induction a with
  | nil => intro st; rfl
  | cons x xs ih => intro st; exact ih _

theorem run_preserves {P : Env → Sub → Prop} (cfg : Cfg)
    (main : ∀ e s, P e s → P e (stepMain cfg e s))
    (qrecv : ∀ e s, P e s → P e (stepQRecv cfg e s))
    (qcancel : ∀ e s, P e s → P e (stepQCancel s))
    (env : ∀ e s a, P e s → P (stepEnv cfg e a) s) (acts : List Act) :
    ∀ st : State, P st.1 st.2 → P (run cfg st acts).1 (run cfg st acts).2 := by
  induction acts with
  | nil => exact fun _ h => h
  | cons a as ih =>
    exact fun st h => ih _ (step_cases (P := fun x => P x.1 x.2) cfg st a
      (fun _ => main _ _ h) (qrecv _ _ h) (qcancel _ _ h) (env _ _ a h))

theorem idsFrom_self (a : Nat) : idsFrom a a = [] := by
  rw [idsFrom, Nat.sub_self]
  rfl

theorem idsFrom_of_le {a b : Nat} (h : b ≤ a) : idsFrom a b = [] := by
  rw [idsFrom, Nat.sub_eq_zero_of_le h]
  rfl

theorem idsFrom_length (a b : Nat) : (idsFrom a b).length = b - a := List.length_range' ..

theorem idsFrom_max (a b : Nat) : idsFrom a (max a b) = idsFrom a b := by
  rw [Nat.max_def]
  split
  · rfl
  · rw [idsFrom_self, idsFrom_of_le (Nat.le_of_not_le ‹_›)]

theorem idsFrom_append {a b c : Nat} (h1 : a ≤ b) (h2 : b ≤ c) :
    idsFrom a b ++ idsFrom b c = idsFrom a c := by
  obtain ⟨m, rfl⟩ := Nat.exists_eq_add_of_le h1
  obtain ⟨n, rfl⟩ := Nat.exists_eq_add_of_le h2
  rw [idsFrom, idsFrom, idsFrom, Nat.add_sub_cancel_left, Nat.add_sub_cancel_left, Nat.add_assoc a m n,
    Nat.add_sub_cancel_left, Nat.add_right_comm a m 1, List.range'_append_1]

theorem idsFrom_succ {a b : Nat} (h : a ≤ b) : idsFrom a b ++ [b + 1] = idsFrom a (b + 1) := by
  have : idsFrom b (b + 1) = [b + 1] := by rw [idsFrom, Nat.add_sub_cancel_left]; rfl
  rw [← this, idsFrom_append h (Nat.le_succ b)]

theorem idsFrom_cons (l k : Nat) : idsFrom l (l + (k + 1)) = (l + 1) :: idsFrom (l + 1) (l + 1 + k) := by
  rw [idsFrom, idsFrom, Nat.add_sub_cancel_left, Nat.add_sub_cancel_left, List.range'_succ]

theorem mem_idsFrom {lo hi k : Nat} (h : k ∈ idsFrom lo hi) : lo < k ∧ k ≤ hi := by
  simp only [idsFrom, List.mem_range'_1] at h
  omega

theorem chg_append (a b : List Item) : chg (a ++ b) = chg a ++ chg b := by
  induction a with
  | nil => rfl
  | cons x r ih => cases x <;> simp [chg, ih]

theorem chg_append_silent {a b : List Item} (ha : chg a = []) (hb : chg b = []) : chg (a ++ b) = [] := by
  rw [chg_append, ha, hb]
  rfl

theorem chg_map_change (l : List Nat) : chg (l.map Item.change) = l := by
  induction l with
  | nil => rfl
  | cons x r ih => simp [chg, ih]

end Corro.CatchUp
