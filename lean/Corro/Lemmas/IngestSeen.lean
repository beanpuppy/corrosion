/-
The duplicate cache of the ingest model (C10): what `upsert`, `modify`, `swapRemove`, `record` and the
eviction on drop (in its repaired form) do to a cache that is justified by a pool of changesets, the
invariant `Inv` (Lemmas/Ingest.lean) through every event, and what the lookup in front of the queue means.
-/
import Corro.Lemmas.Ingest
import Corro.Lemmas.NodeList

namespace Corro.Ingest
open Corro Corro.Node

theorem hasKey_iff (s : Seen) (k : Key) : s.hasKey k = true ↔ ∃ e ∈ s, e.1 = k := by
  simp only [Seen.hasKey, List.any_eq_true, decide_eq_true_eq]

theorem get?_some_mem {s : Seen} {k : Key} {rs : RSet} (h : s.get? k = some rs) : (k, rs) ∈ s := by
  simp only [Seen.get?, Option.map_eq_some_iff] at h
  obtain ⟨e, hf, rfl⟩ := h
  have hk := List.find?_some hf
  exact of_decide_eq_true hk ▸ List.mem_of_find?_eq_some hf

theorem mem_get? {s : Seen} (hn : (s.map (·.1)).Nodup) {e : Key × RSet} (he : e ∈ s) :
    s.get? e.1 = some e.2 := by
  induction s with
  | nil => cases he
  | cons a t ih =>
    rw [List.map_cons, List.nodup_cons] at hn
    unfold Seen.get?
    rw [List.find?_cons]
    rcases List.mem_cons.1 he with rfl | he
    · simp only [decide_true, Option.map_some]
    · have : a.1 ≠ e.1 := fun h => hn.1 (h ▸ List.mem_map_of_mem he)
      simp only [this, decide_false]
      exact ih hn.2 he

theorem mem_versionsOf {it : Item} {v : Nat} : v ∈ versionsOf it ↔ it.versions.1 ≤ v ∧ v ≤ it.versions.2 :=
  mem_versionsAsc

theorem versionsOf_full (site ver lo hi last : Nat) (cs : List Crdt.Chg) :
    versionsOf (.full site ver lo hi last cs) = [ver] := by
  show (List.range (ver + 1 - ver)).map (ver + ·) = [ver]
  rw [Nat.add_sub_cancel_left]; rfl

theorem wf_nonempty_mem {rs : RSet} (hw : RSet.WF rs) (hne : rs ≠ []) : ∃ x, RSet.Mem rs x := by
  obtain ⟨⟨a, b⟩, t, rfl⟩ := List.exists_cons_of_ne_nil hne
  exact ⟨a, RSet.mem_head hw⟩

theorem entrySound_mono {P P' : List Item} {e : Key × RSet} (h : EntrySound P e)
    (hP : ∀ i ∈ P, Backs i e.1 → i ∈ P') : EntrySound P' e :=
  ⟨h.1.imp fun i hi => ⟨hP i hi.1 hi.2, hi.2⟩,
   fun x hx => (h.2 x hx).imp fun i hi => ⟨hP i hi.1 hi.2.1, hi.2⟩⟩

theorem soundWrt_mono {P P' : List Item} {sn : Seen} (hP : ∀ i ∈ P, i ∈ P') (h : SoundWrt P sn) :
    SoundWrt P' sn := fun e he => entrySound_mono (h e he) fun i hi _ => hP i hi

theorem modify_keys (s : Seen) (k : Key) (f : RSet → RSet) : (s.modify k f).map (·.1) = s.map (·.1) := by
  unfold Seen.modify
  rw [List.map_map]
  refine List.map_congr_left fun e _ => ?_
  show (if e.1 = k then (k, f e.2) else e).1 = e.1
  split
  · rename_i h; exact h.symm
  · rfl

theorem mem_modify {s : Seen} {k : Key} {f : RSet → RSet} {e' : Key × RSet} (h : e' ∈ s.modify k f) :
    (e' ∈ s ∧ e'.1 ≠ k) ∨ ∃ e ∈ s, e.1 = k ∧ e' = (k, f e.2) := by
  obtain ⟨e, he, rfl⟩ := List.mem_map.1 h
  split
  · rename_i hk; exact .inr ⟨e, he, hk, rfl⟩
  · rename_i hk; exact .inl ⟨he, hk⟩

theorem seenInv_modify {sn : Seen} (h : SeenInv sn) (k : Key) {f : RSet → RSet}
    (hf : ∀ rs, RSet.WF rs → RSet.WF (f rs)) : SeenInv (sn.modify k f) := by
  refine ⟨(modify_keys ..).symm ▸ h.1, fun e' he' => ?_⟩
  rcases mem_modify he' with ⟨he, _⟩ | ⟨e, he, _, rfl⟩
  · exact h.2 _ he
  · exact hf _ (h.2 _ he)

theorem upsert_inv {P : List Item} {sn : Seen} {k : Key} {f : RSet → RSet} {it : Item}
    (hi : SeenInv sn) (hs : SoundWrt P sn) (hit : it ∈ P) (hb : Backs it k)
    (hwf : ∀ rs, RSet.WF rs → RSet.WF (f rs))
    (hmem : ∀ rs x, RSet.Mem (f rs) x → RSet.Mem rs x ∨ Covers it k x) :
    SeenInv (sn.upsert k f) ∧ SoundWrt P (sn.upsert k f) := by
  have new : ∀ rs, (∀ x, RSet.Mem rs x → ∃ i ∈ P, Covers i k x) → EntrySound P (k, f rs) := fun rs h =>
    ⟨⟨it, hit, hb⟩, fun x hx => (hmem rs x hx).elim (h x) fun hc => ⟨it, hit, hc⟩⟩
  unfold Seen.upsert
  split
  · refine ⟨seenInv_modify hi k hwf, fun e' he' => ?_⟩
    rcases mem_modify he' with ⟨he, _⟩ | ⟨e, he, hk, rfl⟩
    · exact hs _ he
    · exact new _ (hk ▸ (hs e he).2)
  · rename_i hno
    have hk : ∀ a ∈ sn.map (·.1), ∀ b ∈ [k], a ≠ b := by
      intro a ha b hb' hab
      obtain ⟨e, he, rfl⟩ := List.mem_map.1 ha
      exact hno ((hasKey_iff sn k).2 ⟨e, he, hab.trans (List.mem_singleton.1 hb')⟩)
    refine ⟨⟨?_, ?_⟩, ?_⟩
    · rw [List.map_append, List.nodup_append]
      exact ⟨hi.1, List.pairwise_singleton _ _, hk⟩
    · exact List.forall_mem_append.2 ⟨hi.2, List.forall_mem_singleton.2 (hwf _ trivial)⟩
    · exact List.forall_mem_append.2 ⟨hs, List.forall_mem_singleton.2
        (new _ fun x hx => absurd hx (RSet.mem_nil x))⟩

theorem record_inv {P : List Item} {it : Item} (hit : it ∈ P) (hw : ItemWF it) {sn : Seen}
    (h : SeenInv sn ∧ SoundWrt P sn) : SeenInv (record sn it) ∧ SoundWrt P (record sn it) := by
  unfold record
  have hv : ∀ v ∈ versionsOf it, Backs it (it.site, v) := fun v hv => ⟨rfl, mem_versionsOf.1 hv⟩
  generalize versionsOf it = vs at hv
  induction vs generalizing sn with
  | nil => exact h
  | cons v t ih =>
    refine ih (upsert_inv h.1 h.2 hit (hv v List.mem_cons_self) ?_ ?_) fun w hw' => hv w (List.mem_cons_of_mem _ hw')
    · intro rs hrs
      cases hsq : it.seqs with
      | none => exact hrs
      | some r => exact RSet.insert_wf rs r.1 r.2 (hw r hsq) hrs
    · intro rs x hx
      cases hsq : it.seqs with
      | none => rw [hsq] at hx; exact .inl hx
      | some r =>
        rw [hsq] at hx
        exact ((RSet.mem_insert rs r.1 r.2 x (hw r hsq)).1 hx).imp_right fun h' =>
          ⟨hv v List.mem_cons_self, r, hsq, h'⟩

theorem swapRemove_concat {init : Seen} {l : Key × RSet} {k : Key} (h : (init ++ [l]).hasKey k = true) :
    (init ++ [l]).swapRemove k = if l.1 = k then init else init.map (fun e => if e.1 = k then l else e) := by
  rw [Seen.swapRemove, if_pos h, List.getLast?_concat, List.dropLast_concat]

theorem swapRemove_spec {s : Seen} (k : Key) (hn : (s.map (·.1)).Nodup) :
    (∀ e ∈ s.swapRemove k, e ∈ s ∧ e.1 ≠ k) ∧ ((s.swapRemove k).map (·.1)).Nodup := by
  by_cases hk : s.hasKey k = true
  · rcases List.eq_nil_or_concat s with rfl | ⟨init, l, rfl⟩
    · cases hk
    · rw [List.concat_eq_append] at hn hk ⊢
      rw [List.map_append, List.nodup_append] at hn
      obtain ⟨hn1, _, hn3⟩ := hn
      have hl : ∀ e ∈ init, e.1 ≠ l.1 := fun e he =>
        hn3 e.1 (List.mem_map_of_mem he) l.1 List.mem_cons_self
      rw [swapRemove_concat hk]
      by_cases hlk : l.1 = k
      · rw [if_pos hlk]
        exact ⟨fun e he => ⟨List.mem_append_left _ he, hlk ▸ hl e he⟩, hn1⟩
      · rw [if_neg hlk]
        refine ⟨fun e he => ?_, ?_⟩
        · obtain ⟨e0, he0, rfl⟩ := List.mem_map.1 he
          by_cases h0 : e0.1 = k
          · rw [if_pos h0]; exact ⟨List.mem_append_right _ List.mem_cons_self, hlk⟩
          · rw [if_neg h0]; exact ⟨List.mem_append_left _ he0, h0⟩
        · -- the one entry with key `k` gets the key of the last entry, which no other entry has
          rw [List.map_map, List.Nodup, List.pairwise_map]
          refine (List.pairwise_map.1 hn1).imp_of_mem fun {a b} ha hb hab => ?_
          show (if a.1 = k then l else a).1 ≠ (if b.1 = k then l else b).1
          by_cases h1 : a.1 = k <;> by_cases h2 : b.1 = k <;> simp only [h1, h2, if_true, if_false]
          · exact absurd (h1.trans h2.symm) hab
          · exact (hl b hb).symm
          · exact hl a ha
          · exact hab
  · rw [Seen.swapRemove, if_neg hk]
    exact ⟨fun e he => ⟨he, fun h => hk ((hasKey_iff s k).2 ⟨e, he, h⟩)⟩, hn⟩

theorem evictOne_full_inv {P P' : List Item} {sn : Seen} {d : Item} {r : Nat × Nat} {k : Key}
    (hi : SeenInv sn) (hs : SoundWrt P sn) (hP : ∀ i ∈ P, i ∈ P' ∨ i = d)
    (hd : d.seqs = some r) (hr : r.1 ≤ r.2) (hk : ∀ k', Backs d k' → k' = k) :
    SeenInv (evictOne true (some r) sn k) ∧ SoundWrt P' (evictOne true (some r) sn k) := by
  have other : ∀ e ∈ sn, e.1 ≠ k → EntrySound P' e := fun e he hne =>
    entrySound_mono (hs e he) fun i hi hb => (hP i hi).resolve_right fun h => hne (hk _ (h ▸ hb))
  unfold evictOne
  split
  · have hi' : SeenInv (sn.modify k (fun rs => RSet.remove rs r)) :=
      seenInv_modify hi k fun rs => RSet.remove_wf rs r.1 r.2 hr
    -- an entry of the cache after the removal is justified by `P'`, provided it is not left empty:
    -- a seq that survives the removal was not carried by `d`
    have sound : ∀ e' ∈ sn.modify k (fun rs => RSet.remove rs r), (e'.1 = k → ∃ x, RSet.Mem e'.2 x) →
        EntrySound P' e' := by
      intro e' he' hne
      rcases mem_modify he' with ⟨he, hk'⟩ | ⟨e, he, hek, rfl⟩
      · exact other e' he hk'
      · have cov : ∀ x, RSet.Mem (RSet.remove e.2 r) x → ∃ i ∈ P', Covers i k x := by
          intro x hx
          have hx' := (RSet.mem_remove e.2 r.1 r.2 x 0 (hi.2 _ he)).1 hx
          obtain ⟨i, hiP, hcov⟩ := (hs e he).2 x hx'.1
          refine ⟨i, (hP i hiP).resolve_right ?_, hek ▸ hcov⟩
          rintro rfl
          obtain ⟨_, r', hr', hx1, hx2⟩ := hcov
          cases hd.symm.trans hr'
          exact hx'.2 ⟨hx1, hx2⟩
        obtain ⟨x, hx⟩ := hne rfl
        exact ⟨(cov x hx).imp fun i hi => ⟨hi.1, hi.2.1⟩, cov⟩
    simp only [Bool.true_and]
    split
    · obtain ⟨sp1, sp2⟩ := swapRemove_spec k hi'.1
      exact ⟨⟨sp2, fun e he => hi'.2 _ (sp1 e he).1⟩,
        fun e he => sound e (sp1 e he).1 fun h => absurd h (sp1 e he).2⟩
    · rename_i hnonempty
      refine ⟨hi', fun e' he' => sound e' he' fun hk' => wf_nonempty_mem (hi'.2 _ he') fun hnil => ?_⟩
      have hg := mem_get? hi'.1 he'
      rw [hk'] at hg
      rw [hg, hnil] at hnonempty
      exact hnonempty rfl
  · rename_i hno
    exact ⟨hi, fun e he => other e he fun h => hno ((hasKey_iff sn k).2 ⟨e, he, h⟩)⟩

theorem evictOne_none (sn : Seen) (k : Key) : evictOne true none sn k = sn.swapRemove k := by
  unfold evictOne
  split
  · rfl
  · rename_i hno; unfold Seen.swapRemove; rw [if_neg hno]

theorem swapRemove_fold_spec (a : Nat) (vs : List Nat) {sn : Seen} (hn : (sn.map (·.1)).Nodup) :
    (∀ e ∈ vs.foldl (fun sn v => sn.swapRemove (a, v)) sn, e ∈ sn ∧ ∀ v ∈ vs, e.1 ≠ (a, v)) ∧
    ((vs.foldl (fun sn v => sn.swapRemove (a, v)) sn).map (·.1)).Nodup := by
  induction vs generalizing sn with
  | nil => exact ⟨fun e he => ⟨he, List.forall_mem_nil _⟩, hn⟩
  | cons v t ih =>
    obtain ⟨h1, h2⟩ := swapRemove_spec (a, v) hn
    obtain ⟨g1, g2⟩ := ih h2
    exact ⟨fun e he => ⟨(h1 e (g1 e he).1).1, List.forall_mem_cons.2 ⟨(h1 e (g1 e he).1).2, (g1 e he).2⟩⟩, g2⟩

/-- the eviction in its repaired form (`Params.evictDropped`): `fixed = true`, and keyed with the site
of the dropped changeset, not of the incoming one -/
theorem evictAll_inv {P P' : List Item} {sn : Seen} {d : Item}
    (hi : SeenInv sn) (hs : SoundWrt P sn) (hP : ∀ i ∈ P, i ∈ P' ∨ i = d) (hw : ItemWF d) :
    SeenInv (evictAll true d d.site sn) ∧ SoundWrt P' (evictAll true d d.site sn) := by
  cases d with
  | empty site vlo vhi =>
    unfold evictAll
    simp only [Item.seqs, evictOne_none]
    obtain ⟨h1, h2⟩ := swapRemove_fold_spec site (versionsOf (.empty site vlo vhi)) hi.1
    refine ⟨⟨h2, fun e he => hi.2 _ (h1 e he).1⟩, fun e he => ?_⟩
    refine entrySound_mono (hs e (h1 e he).1) fun i hiP hb => (hP i hiP).resolve_right ?_
    rintro rfl
    exact (h1 e he).2 e.1.2 (mem_versionsOf.2 hb.2) (Prod.ext hb.1.symm rfl)
  | full site ver lo hi' last cs =>
    unfold evictAll
    rw [versionsOf_full]
    refine evictOne_full_inv (k := (site, ver)) hi hs hP rfl (hw (lo, hi') rfl) fun k' hb => ?_
    exact Prod.ext hb.1.symm (Nat.le_antisymm hb.2.2 hb.2.1)

theorem inv_intro {withFailed : Bool} {t : State} (h : SeenInv t.seen ∧ SoundWrt (pool withFailed t) t.seen)
    (hq : ∀ it ∈ t.queue, ItemWF it) : Inv withFailed t := ⟨h.1, h.2, hq⟩

theorem inv_mono {withFailed : Bool} {s t : State} (h : Inv withFailed s) (hseen : t.seen.Sublist s.seen)
    (hpool : ∀ it ∈ pool withFailed s, it ∈ pool withFailed t) (hq : ∀ it ∈ t.queue, it ∈ s.queue) :
    Inv withFailed t :=
  ⟨⟨(hseen.map _).nodup h.1.1, fun e he => h.1.2 e (hseen.subset he)⟩,
   fun e he => entrySound_mono (h.2.1 e (hseen.subset he)) fun i hi _ => hpool i hi,
   fun it hit => h.2.2 it (hq it hit)⟩

theorem inv_of_seen_nil {withFailed : Bool} {t : State} (hseen : t.seen = []) (hq : ∀ it ∈ t.queue, ItemWF it) :
    Inv withFailed t := by
  refine inv_intro ?_ hq
  rw [hseen]
  exact ⟨⟨List.nodup_nil, List.forall_mem_nil _⟩, List.forall_mem_nil _⟩

theorem inv_init (withFailed : Bool) (n : Node) : Inv withFailed (State.init n) :=
  inv_of_seen_nil rfl (List.forall_mem_nil _)

theorem accepts_iff {s : State} {it : Item} : accepts s it = true ↔
    it.site ≠ s.node.id ∧ inverted it = false ∧ suppresses s.seen it = false ∧ held s.node it = false := by
  simp only [accepts, Bool.and_eq_true, Bool.not_eq_true', beq_eq_false_iff_ne, ne_eq, and_assoc]

theorem itemWF_of_accepts {s : State} {it : Item} (h : accepts s it = true) : ItemWF it := by
  cases it with
  | empty site vlo vhi => exact fun _ h => nomatch h
  | full site ver lo hi last cs =>
    rintro _ ⟨⟩
    exact Nat.le_of_not_lt (of_decide_eq_false (accepts_iff.1 h).2.1)

theorem inv_dropped {withFailed : Bool} {s : State} {d : Item} {rest : List Item} (hq : s.queue = d :: rest)
    (h : Inv withFailed s) (c : Nat) (dr : List Item) :
    Inv withFailed
      { s with queue := rest, seen := evictAll true d d.site s.seen, bufCost := c, droppedItems := dr } := by
  refine inv_intro (evictAll_inv h.1 h.2.1 (fun i hi => pool_queue_mono (P := (· = d)) hi rfl rfl rfl ?_) (h.2.2 d ?_))
    fun i hi => h.2.2 i ?_
  · rw [hq]; exact fun x hx => (List.mem_cons.1 hx).symm
  · rw [hq]; exact List.mem_cons_self
  · rw [hq]; exact List.mem_cons_of_mem _ hi

theorem inv_enqueue {withFailed : Bool} {s : State} {it : Item} (hw : ItemWF it) (h : Inv withFailed s) :
    Inv withFailed (enqueue s it) := by
  have hsub : ∀ i ∈ pool withFailed s, i ∈ pool withFailed (enqueue s it) := fun i hi =>
    (pool_queue_mono (t := enqueue s it) (P := fun _ => False) hi rfl rfl rfl
      fun x hx => .inl (List.mem_append_left _ hx)).resolve_right id
  have hit : it ∈ pool withFailed (enqueue s it) := by
    simp only [pool, enqueue, List.mem_append, List.mem_singleton, or_true, true_or]
  exact inv_intro (record_inv hit hw ⟨h.1, soundWrt_mono hsub h.2.1⟩)
    fun i hi => (List.mem_append.1 hi).elim (h.2.2 i) fun h' => List.mem_singleton.1 h' ▸ hw

/-- every run keeps the invariant — except, when failed batches are not part of the pool, one with a
failing batch in the variant that does not clear the cache -/
theorem inv_run (p : Params) (hp : p.evictDropped = true) (withFailed : Bool) (evs : List Event)
    (hnf : withFailed = false → p.clearOnFail = true ∨ ∀ i, Event.batchDone i false ∉ evs) :
    ∀ s, Inv withFailed s → Inv withFailed (run p s evs) := by
  refine run_induction p ?hpush ?hdrop ?htrim ?hflush ?hdone ?hfail ?hspawn
  case hpush => exact fun t it _ _ hacc _ h => inv_enqueue (itemWF_of_accepts hacc) h
  case hdrop =>
    intro t it _ d rest _ hacc hq h
    rw [hp]
    exact inv_enqueue (itemWF_of_accepts hacc) (inv_dropped hq h _ _)
  case htrim => exact fun t h => inv_mono h (trim_seen_sublist p t) (fun _ h => h) fun _ h => h
  case hflush =>
    exact fun t _ h => inv_mono h (trim_seen_sublist p t)
      (by rw [pool_move withFailed (List.append_nil _).symm]; exact fun _ h => h) (List.forall_mem_nil _)
  case hdone =>
    exact fun t i b hb h =>
      inv_mono h (List.Sublist.refl _) (fun x => (mem_pool_done withFailed hb _ x).2) fun _ h => h
  case hfail =>
    intro t i b hev hb h
    cases withFailed with
    | true =>
      refine inv_mono h ?_ (fun x => (mem_pool_failed hb _ x).2) fun _ h => h
      show (if p.clearOnFail then [] else t.seen).Sublist t.seen
      split
      · exact List.nil_sublist _
      · exact List.Sublist.refl _
    | false =>
      -- the failed batch leaves the pool: the cache is cleared
      exact inv_of_seen_nil (if_pos ((hnf rfl).resolve_right fun h' => h' i hev)) h.2.2
  case hspawn =>
    intro t b rest _ hq _ h
    refine inv_mono h (List.Sublist.refl _) (by rw [pool_move withFailed hq]; exact fun _ h => h) fun x hx => ?_
    rw [hq]; exact List.mem_append_right _ hx

theorem coveredBy_of_suppressed {P : List Item} {sn : Seen} {it : Item}
    (hs : SoundWrt P sn) (h : suppresses sn it = true) : CoveredBy P it := by
  cases it with
  | full site ver lo hi last cs =>
    simp only [suppresses] at h
    split at h
    · rename_i rs hg
      exact fun x h1 h2 =>
        (hs _ (get?_some_mem hg)).2 x ((RSet.contains_iff rs x).1 (all_range_iff.1 h x h1 h2))
    · cases h
  | empty site vlo vhi =>
    intro v h1 h2
    obtain ⟨e, he, hk⟩ := (hasKey_iff sn (site, v)).1
      ((all_range_iff (f := fun v => sn.hasKey (site, v))).1 h v h1 h2)
    exact hk ▸ (hs e he).1

theorem not_coveredBy_of_fresh {P : List Item} {it : Item} (hf : Fresh P it) : ¬ CoveredBy P it := by
  cases it with
  | full site ver lo hi last cs =>
    obtain ⟨x, h1, h2, hno⟩ := hf
    exact fun hc => (hc x h1 h2).elim fun i hi => hno i hi.1 hi.2
  | empty site vlo vhi =>
    obtain ⟨v, h1, h2, hno⟩ := hf
    exact fun hc => (hc v h1 h2).elim fun i hi => hno i hi.1 hi.2

theorem coveredBy_self (it : Item) {D : List Item} (h : it ∈ D) : CoveredBy D it := by
  cases it with
  | full site ver lo hi last cs =>
    exact fun x h1 h2 => ⟨_, h, ⟨rfl, Nat.le_refl _, Nat.le_refl _⟩, (lo, hi), rfl, h1, h2⟩
  | empty site vlo vhi => exact fun v h1 h2 => ⟨_, h, rfl, h1, h2⟩

theorem coveredBy_mono {D D' : List Item} {it : Item} (h : ∀ i ∈ D, i ∈ D') (hc : CoveredBy D it) :
    CoveredBy D' it := by
  cases it with
  | full site ver lo hi last cs => exact fun x h1 h2 => (hc x h1 h2).imp fun i hi => ⟨h i hi.1, hi.2⟩
  | empty site vlo vhi => exact fun v h1 h2 => (hc v h1 h2).imp fun i hi => ⟨h i hi.1, hi.2⟩

theorem coveredBy_of_inverted {D : List Item} {it : Item} (h : inverted it = true) : CoveredBy D it := by
  cases it with
  | full site ver lo hi last cs =>
    exact fun x h1 h2 => absurd (Nat.le_trans h1 h2) (Nat.not_le_of_gt (of_decide_eq_true h))
  | empty site vlo vhi => cases h

theorem offer_covered (p : Params) {s : State} {it : Item} (hs : Inv false s) (hown : it.site ≠ s.node.id) :
    held s.node it = true ∨ CoveredBy (pool false (offer p s it)) it := by
  unfold offer
  split
  · refine .inr (coveredBy_self it ?_)
    simp only [pool, enqueue, List.mem_append, List.mem_singleton, or_true, true_or]
  · rename_i hacc
    by_cases hh : held s.node it = true
    · exact .inl hh
    · by_cases hinv : inverted it = true
      · exact .inr (coveredBy_of_inverted hinv)
      · exact .inr (coveredBy_of_suppressed hs.2.1 (Decidable.byContradiction fun hsup => hacc
          (accepts_iff.2 ⟨hown, Bool.eq_false_iff.2 hinv, Bool.eq_false_iff.2 hsup, Bool.eq_false_iff.2 hh⟩)))

end Corro.Ingest
