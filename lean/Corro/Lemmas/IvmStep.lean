/-
`step` as a fold of slice replacements and what one batch does whatever the database and the
candidates; the initial query; batches that find nothing to do; the candidate map.
-/
import Corro.Lemmas.IvmEval

namespace Corro.Ivm

variable {q : Query} {db : Db}

/-- one table of the candidate map -/
def stepFn (q : Query) (db : Db) (s : State) (c : Nat × List Key) : State :=
  match posOf c.1 q.srcs with
  | some i => pass q db s i c.2
  | none => s

theorem step_eq (q : Query) (db : Db) (st : State) (cands : List (Nat × List Key)) :
    step q db st cands =
      { cands.foldl (stepFn q db) st with
        lastRowid := ((cands.foldl (stepFn q db) st).events.drop st.events.length).foldl (fun m e => max m e.rowid) st.lastRowid } := rfl

theorem touchedOut_single {c : Nat × List Key} {srcs : List Src} {x : Out} :
    TouchedOut [c] srcs x ↔ ∃ i, posOf c.1 srcs = some i ∧ sliceOut i c.2 x := by
  simp [TouchedOut]

theorem touchedOut_cons {c : Nat × List Key} {cs : List (Nat × List Key)} {srcs : List Src} {x : Out} :
    TouchedOut (c :: cs) srcs x ↔ TouchedOut [c] srcs x ∨ TouchedOut cs srcs x := by
  rw [touchedOut_single]
  simp only [TouchedOut, List.mem_cons, exists_eq_or_imp]

theorem stepFn_spec (hdb : DbOk q.srcs db) {s : State} (hs : StOk s) {c : Nat × List Key}
    (hks : ∀ k ∈ c.2, CleanKey k) :
    (∃ ex, Trans s (stepFn q db s c) ex) ∧ ∀ x, x ∈ (stepFn q db s c).outs ↔
      (x ∈ evalKeyed q db ∧ TouchedOut [c] q.srcs x) ∨ (x ∈ s.outs ∧ ¬ TouchedOut [c] q.srcs x) := by
  unfold stepFn
  simp only [touchedOut_single]
  cases hp : posOf c.1 q.srcs with
  | none => exact ⟨⟨[], Trans.refl hs⟩, fun x => by simp⟩
  | some i =>
    obtain ⟨src, hsrc, _⟩ := posOf_get hp
    have hS := evalKeyed_stmtFor hdb hsrc hks
    simp only [Option.some.injEq, exists_eq_left', ← hS]
    rw [pass_eq]
    exact passCore_spec hs (fun o ho => evalKeyed_proper hdb ((hS o).mp ho).1)
      (fun o ho o' ho' => evalKeyed_functional hdb ((hS o).mp ho).1 ((hS o').mp ho').1) fun o ho => ((hS o).mp ho).2

theorem fold_spec (hdb : DbOk q.srcs db) (cands : List (Nat × List Key)) {s : State}
    (hks : ∀ c ∈ cands, ∀ k ∈ c.2, CleanKey k) (hs : StOk s) :
    (∃ ex, Trans s (cands.foldl (stepFn q db) s) ex) ∧ ∀ x, x ∈ (cands.foldl (stepFn q db) s).outs ↔
      (x ∈ evalKeyed q db ∧ TouchedOut cands q.srcs x) ∨ (x ∈ s.outs ∧ ¬ TouchedOut cands q.srcs x) := by
  induction cands generalizing s with
  | nil => exact ⟨⟨[], Trans.refl hs⟩, fun x => by simp [TouchedOut]⟩
  | cons c rest ih =>
    rw [List.forall_mem_cons] at hks
    obtain ⟨⟨ex1, t1⟩, m1⟩ := stepFn_spec hdb hs hks.1
    obtain ⟨⟨ex2, t2⟩, m2⟩ := ih hks.2 t1.ok
    refine ⟨⟨_, t1.trans t2⟩, fun x => ?_⟩
    rw [List.foldl_cons, m2 x, m1 x, touchedOut_cons (cs := rest)]
    by_cases h1 : TouchedOut [c] q.srcs x <;> by_cases h2 : TouchedOut rest q.srcs x <;> simp [h1, h2]

theorem foldl_max_lt (es : List Event) (m b : Nat) (hm : m < b) (hes : ∀ e ∈ es, e.rowid < b) :
    es.foldl (fun m e => max m e.rowid) m < b := by
  induction es generalizing m with
  | nil => exact hm
  | cons e es ih =>
    rw [List.forall_mem_cons] at hes
    exact ih _ (Nat.max_lt.mpr ⟨hm, hes.1⟩) hes.2

theorem step_mechanics (hdb : DbOk q.srcs db) {st : State} (hst : StOk st)
    {cands : List (Nat × List Key)} (hks : ∀ c ∈ cands, ∀ k ∈ c.2, CleanKey k) :
    (∃ ex, Trans st (step q db st cands) ex) ∧ ∀ x, x ∈ (step q db st cands).outs ↔
      (x ∈ evalKeyed q db ∧ TouchedOut cands q.srcs x) ∨ (x ∈ st.outs ∧ ¬ TouchedOut cands q.srcs x) := by
  obtain ⟨⟨ex, t⟩, m⟩ := fold_spec hdb cands hks hst
  rw [step_eq]
  -- the end of the batch sets `last_rowid` to the largest rowid among the new events: of `StOk` only the
  -- clause `last` reads it, the other four are those of `t.ok`
  refine ⟨⟨ex, ⟨t.ok.keys, t.ok.proper, t.ok.rowids, t.ok.bound, ?_⟩, t.events, t.view, t.rowids, t.mono⟩, m⟩
  show List.foldl _ _ (List.drop _ (State.events _)) < _
  rw [t.events, List.drop_left]
  exact foldl_max_lt ex _ _ (Nat.lt_of_lt_of_le hst.last t.mono) t.rowids

theorem emits_step (q : Query) (db : Db) (st : State) (cands : List (Nat × List Key)) : Emits st (step q db st cands) := by
  rw [step_eq]
  refine (emits_foldl (fun s c => ?_) cands st).trans (.of_eq rfl rfl)
  unfold stepFn
  split
  · exact emits_pass ..
  · exact .of_eq rfl rfl

theorem initFold_spec (L : List Out) {st : State} (h : StOk st) (hp : ∀ o ∈ L, Proper o.pks)
    (hpw : L.Pairwise (fun a b => a.pks ≠ b.pks)) (hdis : ∀ o ∈ L, ∀ m ∈ st.rows, m.pks ≠ o.pks) :
    StOk (L.foldl insertInitial st) ∧ (L.foldl insertInitial st).outs = st.outs ++ L ∧
    (L.foldl insertInitial st).events = st.events ∧ (L.foldl insertInitial st).nextId = st.nextId := by
  induction L generalizing st with
  | nil => exact ⟨h, (List.append_nil _).symm, rfl, rfl⟩
  | cons o rest ih =>
    rw [List.forall_mem_cons] at hp hdis
    rw [List.pairwise_cons] at hpw
    obtain ⟨h2, o2, e2, n2⟩ := ih (st := insertInitial st o) (h.push hp.1 hdis.1 rfl rfl (Nat.le_refl _)) hp.2 hpw.2
      fun x hx => List.forall_mem_append.mpr ⟨hdis.2 x hx, List.forall_mem_singleton.mpr (hpw.1 x hx)⟩
    refine ⟨h2, ?_, e2, n2⟩
    rw [List.foldl_cons, o2]
    simp [State.outs, insertInitial, MRow.out]

theorem initial_spec (hdb : DbOk q.srcs db) (hn : ∀ s ∈ q.srcs, (db s.tbl).Nodup) :
    StOk (initial q db) ∧ (initial q db).outs = evalKeyed q db ∧ (initial q db).events = [] ∧
    (initial q db).nextId = 1 :=
  initFold_spec (evalKeyed q db) ⟨.nil, nofun, .nil, nofun, Nat.zero_lt_one⟩ (fun _ => evalKeyed_proper hdb)
    (evalKeyed_pairwise hdb hn) fun _ _ _ => nofun

theorem step_noop (hdb : DbOk q.srcs db) {st : State} (hst : StOk st)
    (hrep : ∀ x, x ∈ st.outs ↔ x ∈ evalKeyed q db) (cands : List (Nat × List Key))
    (hks : ∀ c ∈ cands, ∀ k ∈ c.2, CleanKey k) : step q db st cands = st := by
  have hfold : cands.foldl (stepFn q db) st = st := by
    induction cands with
    | nil => rfl
    | cons c rest ih =>
      rw [List.forall_mem_cons] at hks
      have hone : stepFn q db st c = st := by
        unfold stepFn
        cases hp : posOf c.1 q.srcs with
        | none => rfl
        | some i =>
          obtain ⟨src, hsrc, _⟩ := posOf_get hp
          exact (pass_eq q db st i c.2).trans
            (passCore_noop hst fun x => by rw [evalKeyed_stmtFor hdb hsrc hks.1 x, hrep x])
      rw [List.foldl_cons, hone]
      exact ih hks.2
  rw [step_eq, hfold, List.drop_length]
  rfl

/-- key `k` of table `t` is among the candidates -/
def HasCand (cs : List (Nat × List Key)) (t : Nat) (k : Key) : Prop := ∃ c ∈ cs, c.1 = t ∧ k ∈ c.2

theorem hasCand_cons {c : Nat × List Key} {cs : List (Nat × List Key)} {t : Nat} {k : Key} :
    HasCand (c :: cs) t k ↔ (c.1 = t ∧ k ∈ c.2) ∨ HasCand cs t k := by
  simp only [HasCand, List.mem_cons, exists_eq_or_imp]

theorem hasCand_addCand {t t' : Nat} {k k' : Key} {acc : List (Nat × List Key)} :
    HasCand (addCand t k acc) t' k' ↔ (t = t' ∧ k = k') ∨ HasCand acc t' k' := by
  induction acc with
  | nil => simp [addCand, HasCand, eq_comm]
  | cons a rest ih =>
    rw [addCand]
    split
    · rename_i ht
      rw [hasCand_cons, hasCand_cons, ← or_assoc]
      refine or_congr_left ?_
      simp only [ht]
      split
      · rename_i hk
        exact ⟨Or.inr, fun h => h.elim (fun ⟨h1, h2⟩ => ⟨h1, h2 ▸ hk⟩) id⟩
      · rw [List.mem_append, List.mem_singleton, and_or_left, or_comm, eq_comm (a := k')]
    · rw [hasCand_cons, hasCand_cons, ih, or_left_comm]

theorem hasCand_candidates {chs : List Chg} {t : Nat} {k : Key} :
    HasCand (candidates q chs) t k ↔ ∃ c ∈ chs, relevant q c = true ∧ c.tbl = t ∧ c.key = k := by
  have gen : ∀ acc, HasCand (chs.foldl (fun acc c => if relevant q c then addCand c.tbl c.key acc else acc) acc) t k ↔
      HasCand acc t k ∨ ∃ c ∈ chs, relevant q c = true ∧ c.tbl = t ∧ c.key = k := by
    induction chs with
    | nil => simp
    | cons c rest ih =>
      intro acc
      rw [List.foldl_cons, ih]
      cases hr : relevant q c <;>
        simp only [List.mem_cons, exists_eq_or_imp, hr, Bool.false_eq_true, ↓reduceIte, false_and, false_or, true_and]
      case true => rw [hasCand_addCand, or_comm (a := _ ∧ _), or_assoc]
  exact (gen []).trans (by simp [HasCand])

end Corro.Ivm
