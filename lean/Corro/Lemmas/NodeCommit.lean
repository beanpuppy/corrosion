/-
The in-memory part of `process_multiple_changes` after the commit (`insert_db` of all processed
versions, then `insert_partial` / removal of stale partials in processing order).  `CI` is the
invariant of that fold over the prefix `done` of the `processed` list: which versions have a partial
and what its seq set is, relative to the bookkeeping `b1` after `insert_db`.  Its last clause,
`app_complete`, is what the chain is for: a partial the fold completes is scheduled for an apply.
(`CommitInv` of `NodeDeliver`: the same fold for batches of incomplete chunks, from `PWF` of the one actor's
bookkeeping only.)
-/
import Corro.Lemmas.NodeDeliver
namespace Corro.Node

/-- `v` lies in the range of a processed entry that cleared / completed its versions -/
def NoneCov (P : List Processed) (v : Nat) : Prop := ∃ e ∈ P, e.part = none ∧ e.vlo ≤ v ∧ v ≤ e.vhi

structure CI (L : Nat → Nat → Nat) (site : Nat) (b1 : Booked) (done : List Processed)
    (acc : Booked × List (Nat × Nat)) : Prop where
  pwf : acc.1.PWF
  keys : acc.1.KeysSorted
  none_cov : ∀ v, NoneCov done v → acc.1.partial? v = none
  some_iff : ∀ v, ¬ NoneCov done v →
    ((acc.1.partial? v).isSome = true ↔
      (b1.partial? v).isSome = true ∨ ∃ e ∈ done, e.vlo = v ∧ e.part.isSome = true)
  mem : ∀ v p, acc.1.partial? v = some p →
    (∀ x, RSet.Mem p.seqs x ↔ (∃ p0, b1.partial? v = some p0 ∧ RSet.Mem p0.seqs x) ∨
      ∃ e ∈ done, e.vlo = v ∧ ∃ q, e.part = some q ∧ RSet.Mem q.seqs x) ∧ p.last = L site v
  needed : acc.1.needed = b1.needed
  max : acc.1.max = b1.max
  app_site : ∀ t ∈ acc.2, t.1 = site ∧ ∃ e ∈ done, e.vlo = t.2 ∧ e.part.isSome = true
  app_complete : ∀ v p, acc.1.partial? v = some p → p.complete = true →
    (∃ p0, b1.partial? v = some p0 ∧ p0.complete = true) ∨ (site, v) ∈ acc.2

theorem CI.init {L : Nat → Nat → Nat} {site : Nat} {b1 : Booked} (hp : b1.PWF) (hk : b1.KeysSorted)
    (hl : ∀ v p, b1.partial? v = some p → p.last = L site v) : CI L site b1 [] (b1, []) := by
  refine ⟨hp, hk, fun v ⟨e, he, _⟩ => (nomatch he), fun v _ => ⟨Or.inl, fun h => h.resolve_right nofun⟩,
    fun v p hp' => ⟨fun x => ⟨fun h => Or.inl ⟨p, hp', h⟩, ?_⟩, hl v p hp'⟩, rfl, rfl, nofun,
    fun v p hp' hc => Or.inl ⟨p, hp', hc⟩⟩
  rintro (⟨p0, h1, h2⟩ | ⟨e, he, _⟩)
  · cases hp'.symm.trans h1; exact h2
  · cases he

theorem noneCov_snoc {done : List Processed} {f : Processed} (v : Nat) :
    NoneCov (done ++ [f]) v ↔ NoneCov done v ∨ (f.part = none ∧ f.vlo ≤ v ∧ v ≤ f.vhi) :=
  exists_mem_snoc

theorem CI.stepSome {L : Nat → Nat → Nat} {site : Nat} {b1 : Booked} {done : List Processed}
    {acc : Booked × List (Nat × Nat)} (h : CI L site b1 done acc) (f : Processed) (q : Partial)
    (hq : f.part = some q) (hqw : RSet.WF q.seqs) (hql : q.last = L site f.vlo)
    (hle : f.vlo ≤ b1.max) (hnc : ¬ NoneCov done f.vlo) :
    CI L site b1 (done ++ [f]) (commitStep site acc f) := by
  have hfs : f.part.isSome = true := by rw [hq]; rfl
  have hcov : ∀ v, NoneCov (done ++ [f]) v ↔ NoneCov done v := fun v =>
    (noneCov_snoc v).trans (or_iff_left (fun hn => nomatch hq.symm.trans hn.1))
  have hfst : (commitStep site acc f).1 = (acc.1.insertPartial f.vlo q).1 := by rw [commitStep_some hq]
  have hsnd : (commitStep site acc f).2 =
      if (mergedPartial acc.1 f.vlo q).complete then acc.2 ++ [(site, f.vlo)] else acc.2 := by
    rw [commitStep_some hq]
  have hold : ∀ x, (∃ old, acc.1.partial? f.vlo = some old ∧ RSet.Mem old.seqs x) ↔
      (∃ p0, b1.partial? f.vlo = some p0 ∧ RSet.Mem p0.seqs x) ∨
        ∃ e ∈ done, e.vlo = f.vlo ∧ ∃ q, e.part = some q ∧ RSet.Mem q.seqs x := by
    intro x
    constructor
    · rintro ⟨old, ho, hm⟩; exact ((h.mem f.vlo old ho).1 x).mp hm
    · intro hx
      have hs : (acc.1.partial? f.vlo).isSome = true := (h.some_iff f.vlo hnc).mpr (hx.imp
        (fun ⟨p0, h1, _⟩ => by rw [h1]; rfl) (fun ⟨e, he, h1, q', h2, _⟩ => ⟨e, he, h1, by rw [h2]; rfl⟩))
      obtain ⟨old, ho⟩ := Option.isSome_iff_exists.mp hs
      exact ⟨old, ho, ((h.mem f.vlo old ho).1 x).mpr hx⟩
  refine ⟨by rw [hfst]; exact insertPartial_pwf h.pwf f.vlo hqw,
    by rw [hfst]; exact insertPartial_keysSorted h.keys f.vlo q, ?_, ?_, ?_,
    by rw [hfst, insertPartial_needed]; exact h.needed, ?_, ?_, ?_⟩
  · intro v hv
    rw [hcov] at hv
    rw [hfst, partial?_insertPartial, if_neg (fun hvv : v = f.vlo => hnc (hvv ▸ hv))]
    exact h.none_cov v hv
  · intro v hv
    rw [hcov] at hv
    rw [hfst, partial?_insertPartial, exists_mem_snoc]
    split
    · next hvv => exact ⟨fun _ => Or.inr (Or.inr ⟨hvv.symm, hfs⟩), fun _ => rfl⟩
    · next hvv =>
      rw [h.some_iff v hv]
      exact or_congr_right ⟨Or.inl, fun hx => hx.resolve_right (fun hx => hvv hx.1.symm)⟩
  · intro v p hp
    rw [hfst, partial?_insertPartial] at hp
    split at hp
    · next hvv =>
      cases hp; subst hvv
      refine ⟨fun x => ?_, ?_⟩
      · rw [mem_mergedPartial f.vlo hqw, hold x, exists_mem_snoc, or_assoc]
        exact or_congr_right (or_congr_right
          ⟨fun hm => ⟨rfl, q, hq, hm⟩, fun ⟨_, q', h2, h3⟩ => by cases hq.symm.trans h2; exact h3⟩)
      · rw [mergedPartial_last]
        cases ho : acc.1.partial? f.vlo with
        | none => exact hql
        | some old => exact (h.mem f.vlo old ho).2
    · next hvv =>
      refine ⟨fun x => ?_, (h.mem v p hp).2⟩
      rw [(h.mem v p hp).1 x, exists_mem_snoc]
      exact or_congr_right ⟨Or.inl, fun hx => hx.resolve_right (fun hx => hvv hx.1.symm)⟩
  · rw [hfst, insertPartial_max]
    split
    · exact h.max
    · rw [h.max]; exact Nat.max_eq_left hle
  · have hold : ∀ t ∈ acc.2, t.1 = site ∧ ∃ e ∈ done ++ [f], e.vlo = t.2 ∧ e.part.isSome = true :=
      fun t ht => let ⟨h1, e, he, h2⟩ := h.app_site t ht; ⟨h1, e, List.mem_append_left _ he, h2⟩
    rw [hsnd]
    split
    · exact forall_mem_snoc.mpr ⟨hold, rfl, f, List.mem_append_right _ (List.mem_singleton_self _), rfl, hfs⟩
    · exact hold
  · intro v p hp hc
    rw [hfst, partial?_insertPartial] at hp
    rw [hsnd]
    split at hp
    · next hvv =>
      cases hp; subst hvv
      rw [if_pos hc]
      exact Or.inr (List.mem_append_right _ (List.mem_singleton_self _))
    · refine (h.app_complete v p hp hc).imp_right (fun h1 => ?_)
      split
      · exact List.mem_append_left _ h1
      · exact h1

theorem CI.stepNone {L : Nat → Nat → Nat} {site : Nat} {b1 : Booked} {done : List Processed}
    {acc : Booked × List (Nat × Nat)} (h : CI L site b1 done acc) (f : Processed) (hq : f.part = none) :
    CI L site b1 (done ++ [f]) (commitStep site acc f) := by
  rw [commitStep_none hq]
  have hcov : ∀ v, NoneCov (done ++ [f]) v ↔ NoneCov done v ∨ (f.vlo ≤ v ∧ v ≤ f.vhi) := fun v =>
    (noneCov_snoc v).trans (or_congr_right (and_iff_right hq))
  -- `f` carries no partial, so it adds nothing to the entries that do
  have hsomeEx : ∀ v (R : Processed → Prop), (∀ e, R e → e.part.isSome = true) →
      ((∃ e ∈ done ++ [f], e.vlo = v ∧ R e) ↔ ∃ e ∈ done, e.vlo = v ∧ R e) := fun v R hR =>
    exists_mem_snoc.trans (or_iff_left (fun hf => by have := hR f hf.2; rw [hq] at this; cases this))
  refine ⟨dropPartials_pwf h.pwf _ _, dropPartials_keysSorted h.keys _ _, ?_, ?_, ?_, h.needed, h.max, ?_, ?_⟩
  · intro v hv
    simp only
    rw [partial?_dropPartials]
    split
    · rfl
    · next hr => exact h.none_cov v (((hcov v).mp hv).resolve_right hr)
  · intro v hv
    have hv' := not_or.mp (fun hc => hv ((hcov v).mpr hc))
    simp only
    rw [partial?_dropPartials, if_neg hv'.2, h.some_iff v hv'.1,
      hsomeEx v (fun e => e.part.isSome = true) (fun _ h => h)]
  · intro v p hp
    simp only at hp
    rw [partial?_dropPartials] at hp
    split at hp
    · cases hp
    · refine ⟨fun x => ?_, (h.mem v p hp).2⟩
      rw [(h.mem v p hp).1 x,
        hsomeEx v (fun e => ∃ q, e.part = some q ∧ RSet.Mem q.seqs x)
          (fun e ⟨q, h1, _⟩ => by rw [h1]; rfl)]
  · exact fun t ht => let ⟨h1, e, he, h2⟩ := h.app_site t ht; ⟨h1, e, List.mem_append_left _ he, h2⟩
  · intro v p hp hc
    simp only at hp
    rw [partial?_dropPartials] at hp
    split at hp
    · cases hp
    · exact h.app_complete v p hp hc

theorem commitFold_CI {L : Nat → Nat → Nat} {site : Nat} {b1 : Booked} (hp : b1.PWF) (hk : b1.KeysSorted)
    (hl : ∀ v p, b1.partial? v = some p → p.last = L site v) (P : List Processed)
    (hpw : P.Pairwise (fun e f => e.part = none → f.part.isSome = true → ¬ (e.vlo ≤ f.vlo ∧ f.vlo ≤ e.vhi)))
    (hshape : ∀ e ∈ P, ∀ q, e.part = some q → RSet.WF q.seqs ∧ q.last = L site e.vlo)
    (hle : ∀ e ∈ P, e.vlo ≤ b1.max) : CI L site b1 P (P.foldl (commitStep site) (b1, [])) := by
  refine foldl_inv_prefix P _ _ (CI L site b1) (CI.init hp hk hl) (fun done f rest acc hPeq h => ?_)
  have hfP : f ∈ P := by rw [hPeq]; simp
  cases hq : f.part with
  | none => exact h.stepNone f hq
  | some q =>
    have hsh := hshape f hfP q hq
    refine h.stepSome f q hq hsh.1 hsh.2 (hle f hfP) (fun ⟨e, he, hn, hc⟩ => ?_)
    rw [hPeq] at hpw
    exact (List.pairwise_append.mp hpw).2.2 e he f (by simp) hn (by rw [hq]; rfl) hc

end Corro.Node
