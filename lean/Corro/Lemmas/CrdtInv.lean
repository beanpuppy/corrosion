/-
C01, CRDT level: the invariant that ties a database reached by folding `merge` to the *set* of changes
folded so far (`Inv`), and its preservation (`merge_fold_inv`): one lemma for each outcome of
`mergeRow_cases` (`RowInv.cons`, `RowOK.fresh`, `RowOK.store`), put together in `rowStep_inv`.
No well-formedness of the changes is assumed.
-/
import Corro.Lemmas.CrdtSpec

namespace Corro.Crdt

/-- What is known about one cell `l` of row `(t,p)` whose current causal length is `n`, relative
to the changes `P` merged so far. -/
structure CellInv (P : List Chg) (t p : String) (n : Nat) (l : Cell) : Prop where
  notSent : l.cid ≠ sentinel
  /-- value and attribution come from a change of `P` for this row and column -/
  prov : ∃ c ∈ P, c.atRow t p ∧ c.cid = l.cid ∧ c.val = l.val ∧ c.site = l.clk.site ∧
    c.dbv = l.clk.dbv ∧ c.seq = l.clk.seq
  /-- no change of `P` for this cell in the current incarnation is above the cell … -/
  ub : ∀ d ∈ P, d.atCell t p l.cid n → keyLt l.key d.key = false
  /-- … and the cell's key is that of such a change, unless the cell is a zeroed leftover -/
  att : (∃ c ∈ P, c.atCell t p l.cid n ∧ c.key = l.key) ∨ l.clk.colv = 0

/-- What is known about the stored row `r` of key `(t,p)`. -/
structure RowOK (P : List Chg) (t p : String) (r : Row) : Prop where
  tbl : r.tbl = t
  pk : r.pk = p
  pos : 1 ≤ r.cl
  /-- the row's causal length is the maximum over `P` … -/
  ub : ∀ c ∈ P, c.atRow t p → c.cl ≤ r.cl
  /-- … and is attained -/
  att : ∃ c ∈ P, c.atRow t p ∧ c.cl = r.cl
  /-- a deleted row has no cells -/
  even : r.cl % 2 = 0 → r.cells = []
  cells : ∀ x l, r.findCell x = some l → CellInv P t p r.cl l
  /-- every column with a change in the current incarnation has a cell -/
  has : r.cl % 2 = 1 → ∀ c ∈ P, c.atCell t p c.cid r.cl → c.cid ≠ sentinel →
    ∃ l, r.findCell c.cid = some l

/-- the invariant for the lookup result of key `(t,p)` -/
def RowInv (P : List Chg) (t p : String) : Option Row → Prop
  | none => ∀ c ∈ P, c.atRow t p → c.cl = 0
  | some r => RowOK P t p r

/-- **The invariant**, kept by merging the changes of `P` in any order, any number of times.  It
ties every stored row and cell to `P` (`RowOK`, `CellInv`: causal lengths and winning keys are maxima
over `P`, values and attributions come from `P`); it does not determine `db` from `P` (zeroed
leftovers and the attribution of a winner depend on the order). -/
def Inv (db : Db) (P : List Chg) : Prop := ∀ t p, RowInv P t p (db.findRow t p)

variable {db : Db} {P Q : List Chg} {t p x : String} {n : Nat} {r : Row} {l : Cell} {c : Chg}
  {o : Option Row}

theorem CellInv.mono (hi : CellInv P t p n l) (hsub : ∀ c ∈ P, c ∈ Q)
    (hnew : ∀ d ∈ Q, d ∉ P → d.atCell t p l.cid n → keyLt l.key d.key = false) :
    CellInv Q t p n l := by
  refine ⟨hi.notSent, ?_, fun d hd hat => ?_, ?_⟩
  · obtain ⟨c, hc, h⟩ := hi.prov
    exact ⟨c, hsub c hc, h⟩
  · by_cases hdP : d ∈ P
    · exact hi.ub d hdP hat
    · exact hnew d hd hdP hat
  · exact hi.att.imp (fun ⟨c, hc, h⟩ => ⟨c, hsub c hc, h⟩) id

theorem RowOK.odd_of_cell (hi : RowOK P t p r) (hl : r.findCell x = some l) : r.cl % 2 = 1 := by
  refine (Nat.mod_two_eq_zero_or_one r.cl).resolve_left (fun he => ?_)
  unfold Row.findCell at hl
  rw [hi.even he] at hl
  cases hl

/-- `P` may grow to `Q` under an unchanged row `r` if the row would ignore every new change `d` of its
(`hnew`): `d.cl ≤ r.cl`, and a column change of the current (odd) incarnation finds a cell whose key
it does not beat -/
theorem RowOK.mono (hi : RowOK P t p r)
    (hsub : ∀ c ∈ P, c ∈ Q)
    (hnew : ∀ d ∈ Q, d ∉ P → d.atRow t p → d.cl ≤ r.cl ∧
      (d.cl = r.cl → r.cl % 2 = 1 → d.cid ≠ sentinel →
        ∃ l, r.findCell d.cid = some l ∧ keyLt l.key d.key = false)) :
    RowOK Q t p r := by
  refine ⟨hi.tbl, hi.pk, hi.pos, fun d hd hat => ?_, ?_, hi.even, fun x l hl => ?_,
    fun ho d hd hat hns => ?_⟩
  · by_cases hdP : d ∈ P
    · exact hi.ub d hdP hat
    · exact (hnew d hd hdP hat).1
  · obtain ⟨c, hc, h⟩ := hi.att
    exact ⟨c, hsub c hc, h⟩
  · have hci := hi.cells x l hl
    refine hci.mono hsub (fun d hd hdP hat => ?_)
    obtain ⟨l', hl', hk⟩ := (hnew d hd hdP hat.row).2 hat.cl (hi.odd_of_cell hl)
      (hat.cid ▸ hci.notSent)
    rw [hat.cid, (findCell_some hl).1, hl] at hl'
    cases hl'
    exact hk
  · by_cases hdP : d ∈ P
    · exact hi.has ho d hdP hat hns
    · obtain ⟨l, hl, _⟩ := (hnew d hd hdP hat.row).2 hat.cl ho hns
      exact ⟨l, hl⟩

theorem RowInv.congr (h : ∀ c, c ∈ P ↔ c ∈ Q) (hi : RowInv P t p o) : RowInv Q t p o := by
  cases o with
  | none => exact fun c hc => hi c ((h c).mpr hc)
  | some r => exact RowOK.mono hi (fun c hc => (h c).mp hc) (fun d hd hdP => absurd ((h d).mpr hd) hdP)

theorem Inv.congr (h : ∀ c, c ∈ P ↔ c ∈ Q) (hi : Inv db P) : Inv db Q :=
  fun t p => (hi t p).congr h

/-- `RowOK.mono` for one more change `c`: `hc` says that the row ignores `c` -/
theorem RowOK.cons (c : Chg) (hi : RowOK P t p r)
    (hc : c.atRow t p → c.cl ≤ r.cl ∧ (c.cl = r.cl → r.cl % 2 = 1 → c.cid ≠ sentinel →
      ∃ l, r.findCell c.cid = some l ∧ keyLt l.key c.key = false)) : RowOK (c :: P) t p r := by
  refine hi.mono (fun _ h => List.mem_cons_of_mem _ h) (fun d hd hdP => ?_)
  obtain rfl : d = c := (List.mem_cons.mp hd).resolve_right hdP
  exact hc

/-- a cell kept from an older incarnation: provenance in `P`, column version 0 -/
structure Leftover (P : List Chg) (t p : String) (l : Cell) : Prop where
  notSent : l.cid ≠ sentinel
  prov : ∃ c ∈ P, c.atRow t p ∧ c.cid = l.cid ∧ c.val = l.val ∧ c.site = l.clk.site ∧
    c.dbv = l.clk.dbv ∧ c.seq = l.clk.seq
  zero : l.clk.colv = 0

theorem resurrect_findCell (o : Option Row) (c : Chg) (x : String) :
    (resurrect o c).findCell x = match o with
      | some r => if r.cl % 2 = 1 then (r.findCell x).map Cell.zero else none
      | none => none := by
  unfold Row.findCell
  rw [resurrect_cells]
  cases o with
  | none => rfl
  | some r =>
    dsimp only
    split
    · exact find_map_zero r.cells x
    · rfl

theorem resurrect_leftover (c : Chg) (hi : RowInv P t p o)
    (hl : (resurrect o c).findCell x = some l) : Leftover P t p l := by
  rw [resurrect_findCell] at hl
  cases o with
  | none => cases hl
  | some r =>
    dsimp only at hl
    split at hl
    · cases h0 : r.findCell x with
      | none => rw [h0] at hl; cases hl
      | some l0 =>
        rw [h0] at hl
        cases hl
        have := hi.cells x l0 h0
        exact ⟨this.notSent, this.prov, rfl⟩
    · cases hl

theorem lclOf_bound (hi : RowInv P t p o) :
    ∀ d ∈ P, d.atRow t p → d.cl ≤ lclOf o := by
  intro d hd hat
  cases o with
  | none => exact Nat.le_of_eq (hi d hd hat)
  | some r => exact hi.ub d hd hat

theorem Leftover.cellInv (hl : Leftover P t p l)
    (hlt : ∀ d ∈ P, d.atRow t p → d.cl < c.cl) (hc : ¬ c.atCell t p l.cid c.cl) :
    CellInv (c :: P) t p c.cl l := by
  obtain ⟨c0, hc0, h0⟩ := hl.prov
  refine ⟨hl.notSent, ⟨c0, List.mem_cons_of_mem _ hc0, h0⟩, fun d hd hat => ?_, Or.inr hl.zero⟩
  rcases List.mem_cons.mp hd with rfl | hd
  · exact absurd hat hc
  · exact absurd hat.cl (Nat.ne_of_lt (hlt d hd hat.row))

theorem Chg.cell_key (c : Chg) : c.cell.key = c.key := rfl

theorem CellInv.single {P : List Chg} {t p : String} {c : Chg} (hrow : c.atRow t p)
    (hns : c.cid ≠ sentinel) (honly : ∀ d ∈ P, ¬ d.atCell t p c.cid c.cl) :
    CellInv (c :: P) t p c.cl c.cell := by
  refine ⟨hns, ⟨c, List.mem_cons_self, hrow, rfl, rfl, rfl, rfl, rfl⟩, ?_,
    Or.inl ⟨c, List.mem_cons_self, ⟨hrow.1, hrow.2, rfl, rfl⟩, rfl⟩⟩
  intro d hd hat
  rcases List.mem_cons.mp hd with rfl | hd
  · exact keyLt_strict.irrefl _
  · exact absurd hat (honly d hd)

/-- `r'` is a new incarnation started by `c`: `c` is above every change of the row in `P` (`hlt`); each
cell of `r'` is a leftover of another column or the cell of `c` (`hcells`), which is there if `c` is a
column change (`hhas`) -/
theorem RowOK.fresh {r' : Row} (hrow : c.atRow t p) (hlt : ∀ d ∈ P, d.atRow t p → d.cl < c.cl)
    (htbl : r'.tbl = t) (hpk : r'.pk = p) (hcl : r'.cl = c.cl) (hpos : 1 ≤ c.cl)
    (heven : c.cl % 2 = 0 → r'.cells = [])
    (hcells : ∀ x l, r'.findCell x = some l →
      (Leftover P t p l ∧ l.cid ≠ c.cid) ∨ (l = c.cell ∧ c.cid ≠ sentinel))
    (hhas : c.cl % 2 = 1 → c.cid ≠ sentinel → ∃ l, r'.findCell c.cid = some l) :
    RowOK (c :: P) t p r' := by
  have honly : ∀ d ∈ P, ∀ x, ¬ d.atCell t p x c.cl := fun d hd x hat =>
    absurd hat.cl (Nat.ne_of_lt (hlt d hd hat.row))
  refine ⟨htbl, hpk, hcl ▸ hpos, fun d hd hat => ?_, ⟨c, List.mem_cons_self, hrow, hcl.symm⟩,
    hcl ▸ heven, fun x l hl => ?_, fun ho d hd hat hns => ?_⟩
  · rw [hcl]
    rcases List.mem_cons.mp hd with rfl | hd
    · exact Nat.le_refl _
    · exact Nat.le_of_lt (hlt d hd hat)
  · rw [hcl]
    rcases hcells x l hl with ⟨hleft, hne⟩ | ⟨rfl, hns⟩
    · exact hleft.cellInv hlt (fun hat => hne hat.cid.symm)
    · exact CellInv.single hrow hns (fun d hd => honly d hd c.cid)
  · rw [hcl] at ho hat
    rcases List.mem_cons.mp hd with rfl | hd
    · exact hhas ho hns
    · exact absurd hat (honly d hd _)

theorem RowOK.setCell (hi : RowOK P t p r)
    (hrow : c.atRow t p) (hcl : r.cl = c.cl) (hodd : c.cl % 2 = 1)
    (hnew : CellInv (c :: P) t p r.cl c.cell) : RowOK (c :: P) t p (r.setCell c.cell) := by
  obtain ⟨c0, hc0, h0⟩ := hi.att
  have hcl' : (r.setCell c.cell).cl = r.cl := setCell_cl _ _
  refine ⟨(setCell_tbl _ _).trans hi.tbl, (setCell_pk _ _).trans hi.pk, hcl' ▸ hi.pos,
    fun d hd hat => ?_, ⟨c0, List.mem_cons_of_mem _ hc0, hcl' ▸ h0⟩, fun he => ?_,
    fun x l hl => ?_, fun ho d hd hat hns => ?_⟩
  · rw [hcl']
    rcases List.mem_cons.mp hd with rfl | hd
    · exact Nat.le_of_eq hcl.symm
    · exact hi.ub d hd hat
  · rw [hcl', hcl, hodd] at he; cases he
  · rw [hcl']
    by_cases hx : c.cid = x
    · subst hx
      rw [show c.cid = c.cell.cid from rfl, findCell_setCell_same] at hl
      cases hl
      exact hnew
    · rw [findCell_setCell_other r c.cell x hx] at hl
      refine (hi.cells x l hl).mono (fun _ h => List.mem_cons_of_mem _ h) (fun d hd hdP hat => ?_)
      obtain rfl : d = c := (List.mem_cons.mp hd).resolve_right hdP
      exact absurd (hat.cid.trans (findCell_some hl).1) hx
  · rw [hcl'] at hat ho
    by_cases hx : c.cid = d.cid
    · rw [← hx]; exact ⟨c.cell, findCell_setCell_same r c.cell⟩
    · rw [findCell_setCell_other r c.cell d.cid hx]
      rcases List.mem_cons.mp hd with rfl | hd
      · exact absurd rfl hx
      · exact hi.has ho d hd hat hns

theorem RowOK.store (hi : RowOK P t p r) (hrow : c.atRow t p) (hcl : r.cl = c.cl)
    (hodd : c.cl % 2 = 1) (hns : c.cid ≠ sentinel)
    (hw : ∀ l, r.findCell c.cid = some l → wins c l = true) :
    RowOK (c :: P) t p (r.setCell c.cell) := by
  refine hi.setCell hrow hcl hodd ⟨hns, ⟨c, List.mem_cons_self, hrow, rfl, rfl, rfl, rfl, rfl⟩,
    fun d hd hat => ?_, Or.inl ⟨c, List.mem_cons_self, ⟨hrow.1, hrow.2, rfl, hcl.symm⟩, rfl⟩⟩
  rcases List.mem_cons.mp hd with rfl | hd
  · exact keyLt_strict.irrefl _
  · -- the column has a cell (`has`); `d` is not above it, and it is below the new one
    obtain ⟨l, hl⟩ := hi.has (hcl ▸ hodd) d hd (by rw [hat.cid]; exact hat) (by rw [hat.cid]; exact hns)
    rw [hat.cid] at hl
    have h7 := (hi.cells c.cid l hl).ub d hd (by rw [(findCell_some hl).1]; exact hat)
    cases h8 : keyLt c.cell.key d.key with
    | false => rfl
    | true => rw [keyLt_strict.trans ((wins_eq_keyLt c l).symm.trans (hw l hl)) h8] at h7; cases h7

theorem RowInv.cons (hi : RowInv P t p o) (h : c.atRow t p → Ignored o c) :
    RowInv (c :: P) t p o := by
  cases o with
  | none =>
    intro d hd hat
    rcases List.mem_cons.mp hd with rfl | hd
    · exact Nat.le_zero.mp (h hat).1
    · exact hi d hd hat
  | some r =>
    refine RowOK.cons c hi (fun hat => ⟨(h hat).1, fun he ho hns => ?_⟩)
    rcases (h hat).2 he with h0 | hs | ⟨r', l, hr', hl, hw⟩
    · rw [← show c.cl = r.cl from he, h0] at ho; cases ho
    · exact absurd hs hns
    · cases hr'; exact ⟨l, hl, (wins_eq_keyLt c l).symm.trans hw⟩

theorem rowStep_inv (hi : RowInv P c.tbl c.pk o) :
    RowInv (c :: P) c.tbl c.pk (rowStep o c) := by
  have hrow : c.atRow c.tbl c.pk := ⟨rfl, rfl⟩
  unfold rowStep
  rcases mergeRow_cases o c with ⟨hig, hm⟩ | ⟨hgt, hm⟩ | ⟨r, rfl, hcl, hodd, hns, hw, hm⟩ <;> rw [hm]
  · exact hi.cons (fun _ => hig)
  · -- a new incarnation: leftovers of the old one, and the cell of `c`
    have hk := freshRow_key o c
    refine RowOK.fresh hrow
      (fun d hd hat => Nat.lt_of_le_of_lt (lclOf_bound hi d hd hat) hgt) hk.1 hk.2.1 hk.2.2
      (Nat.zero_lt_of_lt hgt) (fun he => by unfold freshRow; rw [if_pos he]) (fun x l hl => ?_)
      (fun ho hns => ⟨c.cell, by
        rw [freshRow_findCell, if_neg (by rw [ho]; exact Nat.one_ne_zero), if_pos ⟨hns, rfl⟩]⟩)
    rw [freshRow_findCell] at hl
    by_cases he : c.cl % 2 = 0
    · rw [if_pos he] at hl; cases hl
    rw [if_neg he] at hl
    by_cases hx : c.cid ≠ sentinel ∧ c.cid = x
    · rw [if_pos hx] at hl; cases hl; exact Or.inr ⟨rfl, hx.1⟩
    rw [if_neg hx] at hl
    have hleft := resurrect_leftover c hi hl
    exact Or.inl ⟨hleft, fun e => hx ⟨e ▸ hleft.notSent, e.symm.trans (findCell_some hl).1⟩⟩
  · exact RowOK.store hi hrow hcl hodd hns hw

theorem inv_empty (s : Nat) : Inv (Db.empty s) [] := by
  intro t p
  show RowInv [] t p none
  intro c hc; cases hc

theorem merge_inv (hi : Inv db P) (c : Chg) : Inv (merge db c) (c :: P) := by
  intro t p
  by_cases h : c.tbl = t ∧ c.pk = p
  · obtain ⟨rfl, rfl⟩ := h
    rw [findRow_merge_same]
    exact rowStep_inv (hi c.tbl c.pk)
  · rw [findRow_merge_other db c t p h]
    exact (hi t p).cons (fun hat => absurd hat h)

theorem merge_fold_inv {db : Db} {P : List Chg} (hi : Inv db P) (cs : List Chg) :
    Inv (mergeAll db cs) (cs.reverse ++ P) := by
  induction cs generalizing db P with
  | nil => exact hi
  | cons c cs ih =>
    have := ih (merge_inv hi c)
    simp only [List.reverse_cons, List.append_assoc, List.singleton_append]
    exact this

theorem inv_mergeAll_empty (s : Nat) (cs : List Chg) : Inv (mergeAll (Db.empty s) cs) cs :=
  (merge_fold_inv (inv_empty s) cs).congr (by simp)

end Corro.Crdt
