/-
For C04, `compute_available_needs` of the model `Corro.Needs`: the point-set meaning of each
intermediate set, membership in the three sources of needs, and the vocabulary of C04's statements
(`SyncState.WF`, `Holds`, `Lacks`, …).  What the requests cover asks of the peer only that its
`need` ranges are forward, so it applies to the states of the cluster's nodes too.
-/
import Corro.Model.Needs
import Corro.Lemmas.Ranges

namespace Corro.Needs
open Corro.RSet

theorem aget_mem {κ β : Type} [DecidableEq κ] {k : κ} {v : β} {m : List (κ × β)}
    (h : aget k m = some v) : (k, v) ∈ m := by
  fun_induction aget k m with
  | case1 => cases h
  | case2 v' t => cases h; exact List.mem_cons_self
  | case3 k' v' t _ ih => exact List.mem_cons_of_mem _ (ih h)

theorem aget_eq_none {κ β : Type} [DecidableEq κ] {k : κ} {m : List (κ × β)} :
    aget k m = none ↔ ∀ p ∈ m, p.1 ≠ k := by
  fun_induction aget k m with
  | case1 => exact ⟨fun _ _ hp => (List.not_mem_nil hp).elim, fun _ => rfl⟩
  | case2 v' t => exact ⟨(nomatch ·), fun h => absurd rfl (h _ List.mem_cons_self)⟩
  | case3 k' v' t hk ih =>
    rw [ih, List.forall_mem_cons]
    exact ⟨fun h => ⟨hk, h⟩, And.right⟩

/-- keys strictly increasing: the canonical list form of a map -/
def KeysSorted {β : Type} (m : List (Nat × β)) : Prop := (m.map (·.1)).Pairwise (· < ·)

instance {β : Type} (m : List (Nat × β)) : Decidable (KeysSorted m) := by
  unfold KeysSorted; infer_instance

theorem aget_of_mem {β : Type} {k : Nat} {v : β} {m : List (Nat × β)} (hs : KeysSorted m)
    (h : (k, v) ∈ m) : aget k m = some v := by
  induction m with
  | nil => cases h
  | cons p t ih =>
    obtain ⟨k', v'⟩ := p
    have hs' := List.pairwise_cons.mp hs
    rcases List.mem_cons.mp h with h1 | h1
    · cases h1; exact if_pos rfl
    · have hlt : k' < k := hs'.1 k (List.mem_map.mpr ⟨(k, v), h1, rfl⟩)
      exact (if_neg (Nat.ne_of_lt hlt)).trans (ih hs'.2 h1)

theorem aget_aset_same {κ β : Type} [DecidableEq κ] (k : κ) (v : β) (m : List (κ × β)) :
    aget k (aset k v m) = some v := by
  fun_induction aset k v m with
  | case1 => exact if_pos rfl
  | case2 => exact if_pos rfl
  | case3 k' v' t hk ih => exact (if_neg hk).trans ih

theorem aget_aset_other {κ β : Type} [DecidableEq κ] (k k2 : κ) (v : β) (m : List (κ × β))
    (hne : k2 ≠ k) : aget k2 (aset k v m) = aget k2 m := by
  fun_induction aset k v m with
  | case1 => exact if_neg hne.symm
  | case2 v' t => exact (if_neg hne.symm).trans (if_neg hne.symm).symm
  | case3 k' v' t hk ih => simp only [aget, ih]

instance (s : RSet) (x : Nat) : Decidable (Mem s x) := by unfold Mem; infer_instance

theorem mem_clip (r p : Nat × Nat) (x : Nat) :
    (clip r p).1 ≤ x ∧ x ≤ (clip r p).2 ↔ (r.1 ≤ x ∧ x ≤ r.2) ∧ (p.1 ≤ x ∧ x ≤ p.2) := by
  simp only [clip, Nat.max_le, Nat.le_min]
  exact ⟨fun ⟨⟨a, b⟩, c, d⟩ => ⟨⟨a, c⟩, b, d⟩, fun ⟨⟨a, c⟩, b, d⟩ => ⟨⟨a, b⟩, c, d⟩⟩

theorem mem_clip_overlapping (s : RSet) (r : Nat × Nat) (x : Nat) :
    (∃ p ∈ overlapping s r, (clip r p).1 ≤ x ∧ x ≤ (clip r p).2) ↔
      (r.1 ≤ x ∧ x ≤ r.2) ∧ Mem s x := by
  constructor
  · rintro ⟨p, hp, hx⟩
    have := (mem_clip r p x).mp hx
    exact ⟨this.1, p, ((mem_overlapping s r p).mp hp).1, this.2⟩
  · rintro ⟨hr, p, hp, hx⟩
    exact ⟨p, (mem_overlapping s r p).mpr ⟨hp, Nat.le_trans hx.1 hr.2, Nat.le_trans hr.1 hx.2⟩,
      (mem_clip r p x).mpr ⟨hr, hx⟩⟩

theorem clip_forward {s : RSet} {r p : Nat × Nat} (hr : r.1 ≤ r.2) (hpf : p.1 ≤ p.2)
    (hp : p ∈ overlapping s r) : (clip r p).1 ≤ (clip r p).2 := by
  have h := ((mem_overlapping s r p).mp hp).2
  exact Nat.le_min.mpr ⟨Nat.max_le.mpr ⟨hr, h.1⟩, Nat.max_le.mpr ⟨h.2, hpf⟩⟩

theorem otherHaves_wf (head : Nat) (hh : 1 ≤ head) (need : List (Nat × Nat))
    (parts : List (Nat × List (Nat × Nat))) (hn : ∀ r ∈ need, r.1 ≤ r.2) :
    WF (otherHaves head need parts) := by
  refine removeAll_wf _ _ (removeAll_wf _ _ (wf_singleton hh) hn) fun r hr => ?_
  obtain ⟨p, _, rfl⟩ := List.mem_map.mp hr
  exact Nat.le_refl _

theorem mem_otherHaves (head : Nat) (hh : 1 ≤ head) (need : List (Nat × Nat))
    (parts : List (Nat × List (Nat × Nat))) (hn : ∀ r ∈ need, r.1 ≤ r.2) (x : Nat) :
    Mem (otherHaves head need parts) x ↔
      (1 ≤ x ∧ x ≤ head) ∧ ¬ Mem need x ∧ ∀ p ∈ parts, p.1 ≠ x := by
  have hpf : ∀ r ∈ parts.map (fun p => (p.1, p.1)), r.1 ≤ r.2 := fun r hr => by
    obtain ⟨p, _, rfl⟩ := List.mem_map.mp hr
    exact Nat.le_refl _
  unfold otherHaves
  rw [mem_removeAll _ _ (removeAll_wf _ _ (wf_singleton hh) hn) hpf,
    mem_removeAll _ _ (wf_singleton hh) hn, mem_singleton, and_assoc]
  refine and_congr_right fun _ => and_congr_right fun _ => ?_
  constructor
  · exact fun h p hp heq => h ⟨_, List.mem_map.mpr ⟨p, hp, rfl⟩, Nat.le_of_eq heq, Nat.le_of_eq heq.symm⟩
  · rintro h ⟨r, hr, hx⟩
    obtain ⟨p, hp, rfl⟩ := List.mem_map.mp hr
    exact h p hp (Nat.le_antisymm hx.1 hx.2)

theorem maxEnd?_ge {rs : List (Nat × Nat)} {r : Nat × Nat} (h : r ∈ rs) :
    ∃ m, maxEnd? rs = some m ∧ r.2 ≤ m := by
  induction rs with
  | nil => cases h
  | cons q t ih =>
    unfold maxEnd?
    rcases List.mem_cons.mp h with rfl | h1
    · cases maxEnd? t with
      | none => exact ⟨_, rfl, Nat.le_refl _⟩
      | some m => exact ⟨_, rfl, Nat.le_max_left _ _⟩
    · obtain ⟨m, hm, hle⟩ := ih h1
      rw [hm]
      exact ⟨_, rfl, Nat.le_trans hle (Nat.le_max_right _ _)⟩

theorem optMax_right_ge (a : Option Nat) (m : Nat) : ∃ e, optMax a (some m) = some e ∧ m ≤ e := by
  cases a with
  | none => exact ⟨m, rfl, Nat.le_refl _⟩
  | some x => exact ⟨max x m, rfl, Nat.le_max_right _ _⟩

theorem partialSeqs_cases {ours others : List (Nat × Nat)} {q : Nat × Nat}
    (hq : q ∈ partialSeqs ours others) :
    ∃ e, ∃ r ∈ ours, ∃ p ∈ overlapping (removeAll [(0, e)] others) r, q = clip r p := by
  unfold partialSeqs at hq
  split at hq
  · cases hq
  · obtain ⟨r, hr, hq2⟩ := List.mem_flatMap.mp hq
    obtain ⟨p, hp, rfl⟩ := List.mem_map.mp hq2
    exact ⟨_, r, hr, p, hp, rfl⟩

theorem partialSeqs_sub {ours others : List (Nat × Nat)} {s : Nat}
    (h : Mem (partialSeqs ours others) s) : Mem ours s := by
  obtain ⟨q, hq, hx⟩ := h
  obtain ⟨e, r, hr, p, hp, rfl⟩ := partialSeqs_cases hq
  exact ⟨r, hr, ((mem_clip_overlapping _ r s).mp ⟨p, hp, hx⟩).1⟩

theorem mem_partialSeqs (ours others : List (Nat × Nat)) (ho : ∀ r ∈ others, r.1 ≤ r.2) (s : Nat) :
    Mem (partialSeqs ours others) s ↔ Mem ours s ∧ ¬ Mem others s := by
  constructor
  · refine fun h => ⟨partialSeqs_sub h, ?_⟩
    obtain ⟨q, hq, hx⟩ := h
    obtain ⟨e, r, hr, p, hp, rfl⟩ := partialSeqs_cases hq
    have := ((mem_clip_overlapping _ r s).mp ⟨p, hp, hx⟩).2
    exact ((mem_removeAll _ _ (wf_singleton (Nat.zero_le _)) ho s).mp this).2
  · rintro ⟨⟨r, hr, hx⟩, hno⟩
    -- the bound `e` is at least the end of the range of ours that holds `s`
    obtain ⟨m, hm, hle⟩ := maxEnd?_ge hr
    obtain ⟨e, he, hle'⟩ := optMax_right_ge (maxEnd? others) m
    unfold partialSeqs
    rw [hm, he]
    have hs : Mem (removeAll [(0, e)] others) s :=
      (mem_removeAll _ _ (wf_singleton (Nat.zero_le _)) ho s).mpr
        ⟨mem_singleton.mpr ⟨Nat.zero_le _, Nat.le_trans hx.2 (Nat.le_trans hle hle')⟩, hno⟩
    obtain ⟨p, hp, hx2⟩ := (mem_clip_overlapping _ r s).mpr ⟨hx, hs⟩
    exact ⟨clip r p, List.mem_flatMap.mpr ⟨r, hr, List.mem_map.mpr ⟨p, hp, rfl⟩⟩, hx2⟩

theorem partialSeqs_forward (ours others : List (Nat × Nat)) (hu : ∀ r ∈ ours, r.1 ≤ r.2)
    (ho : ∀ r ∈ others, r.1 ≤ r.2) : ∀ q ∈ partialSeqs ours others, q.1 ≤ q.2 := by
  intro q hq
  obtain ⟨e, r, hr, p, hp, rfl⟩ := partialSeqs_cases hq
  have hwf : WF (removeAll [(0, e)] others) := removeAll_wf _ _ (wf_singleton (Nat.zero_le _)) ho
  exact clip_forward (hu r hr) (wf_forward hwf p ((mem_overlapping _ _ _).mp hp).1) hp

theorem mem_fullFromNeed {haves : RSet} {ourNeed : List (Nat × Nat)} {n : Need} :
    n ∈ fullFromNeed haves ourNeed ↔
      ∃ r ∈ ourNeed, ∃ p ∈ overlapping haves r, n = Need.full (clip r p).1 (clip r p).2 := by
  unfold fullFromNeed
  simp only [List.mem_flatMap, List.mem_map]
  exact exists_congr fun r => and_congr_right fun _ => exists_congr fun p =>
    and_congr_right fun _ => eq_comm

theorem mem_partialNeeds {haves : RSet} {ours others : List (Nat × List (Nat × Nat))} {n : Need} :
    n ∈ partialNeeds haves ours others ↔
      ∃ p ∈ ours,
        (Mem haves p.1 ∧ n = Need.part p.1 p.2) ∨
        (¬ Mem haves p.1 ∧ ∃ os, aget p.1 others = some os ∧ partialSeqs p.2 os ≠ [] ∧
          n = Need.part p.1 (partialSeqs p.2 os)) := by
  unfold partialNeeds
  rw [List.mem_filterMap]
  refine exists_congr fun p => and_congr_right fun _ => ?_
  by_cases hm : Mem haves p.1
  · rw [if_pos ((contains_iff _ _).mpr hm), Option.some.injEq]
    simp only [hm, true_and, not_true_eq_false, false_and, or_false]
    exact eq_comm
  · rw [if_neg (fun hc => hm ((contains_iff _ _).mp hc))]
    simp only [hm, false_and, false_or, not_false_eq_true, true_and]
    cases aget p.1 others with
    | none => exact ⟨(nomatch ·), fun ⟨_, h, _⟩ => nomatch h⟩
    | some os =>
      simp only [Option.ite_none_left_eq_some, Option.some.injEq, List.isEmpty_iff, exists_eq_left']
      exact and_congr_right fun _ => eq_comm

theorem mem_needsFor {us peer : SyncState} {a : Actor} {head : Nat} {n : Need} :
    n ∈ needsFor us peer a head ↔
      n ∈ fullFromNeed (otherHaves head (needOf peer a) (partialsOf peer a)) (needOf us a) ∨
      n ∈ partialNeeds (otherHaves head (needOf peer a) (partialsOf peer a)) (partialsOf us a)
            (partialsOf peer a) ∨
      n ∈ missing (aget a us.heads) head := by
  unfold needsFor
  simp only [List.mem_append, or_assoc]

theorem mem_computeAvailableNeeds {us peer : SyncState} {a : Actor} {ns : List Need} :
    (a, ns) ∈ computeAvailableNeeds us peer ↔
      ∃ head, (a, head) ∈ peer.heads ∧ a ≠ us.actor ∧ head ≠ 0 ∧
        ns = needsFor us peer a head ∧ ns ≠ [] := by
  unfold computeAvailableNeeds
  simp only [List.mem_filterMap, Option.ite_none_left_eq_some, Option.some.injEq, Prod.mk.injEq,
    List.isEmpty_iff]
  constructor
  · rintro ⟨⟨a', head⟩, hm, h1, h2, h3, rfl, rfl⟩
    exact ⟨head, hm, h1, h2, rfl, h3⟩
  · rintro ⟨head, hm, h1, h2, rfl, h3⟩
    exact ⟨(a, head), hm, h1, h2, h3, rfl, rfl⟩

theorem mem_getD_aget {κ β : Type} [DecidableEq κ] {k : κ} {m : List (κ × List β)} {r : β}
    (h : r ∈ (aget k m).getD []) : ∃ rs, (k, rs) ∈ m ∧ r ∈ rs := by
  cases hg : aget k m with
  | none => rw [hg] at h; cases h
  | some rs => rw [hg] at h; exact ⟨rs, aget_mem hg, h⟩

theorem mem_compute_of_mem_needsFor {us peer : SyncState} {a : Actor} {head : Nat} {n : Need}
    (hm : (a, head) ∈ peer.heads) (ha : a ≠ us.actor) (hh : head ≠ 0)
    (hn : n ∈ needsFor us peer a head) :
    (a, needsFor us peer a head) ∈ computeAvailableNeeds us peer :=
  mem_computeAvailableNeeds.mpr ⟨head, hm, ha, hh, rfl, fun he => by rw [he] at hn; cases hn⟩

/-- the head a state advertises for an actor; `0` for an actor it does not list. -/
def headOf (s : SyncState) (a : Actor) : Nat := (aget a s.heads).getD 0

/-- Well-formed advertised state (the property's quantifier), as produced by `generate_sync`:
maps are maps (keys strictly increasing = canonical list form); every `need` range is a forward
range inside `1..=head`; every partial version lies in `1..=head`, is not also listed in `need`,
and its missing-seq ranges are forward.  (Nothing is assumed about the number of actors, about
which side knows which actor, about ordering/disjointness of the ranges, or about `head ≠ 0`.) -/
def SyncState.WF (s : SyncState) : Prop :=
  KeysSorted s.heads ∧ KeysSorted s.need ∧ KeysSorted s.partialNeed ∧
  (∀ e ∈ s.partialNeed, KeysSorted e.2) ∧
  (∀ e ∈ s.need, ∀ r ∈ e.2, 1 ≤ r.1 ∧ r.1 ≤ r.2 ∧ r.2 ≤ headOf s e.1) ∧
  (∀ e ∈ s.partialNeed, ∀ p ∈ e.2,
    1 ≤ p.1 ∧ p.1 ≤ headOf s e.1 ∧ ¬ Mem (needOf s e.1) p.1 ∧ ∀ r ∈ p.2, r.1 ≤ r.2)

instance (s : SyncState) : Decidable s.WF := by unfold SyncState.WF; infer_instance

/-- `s` advertises version `v` of actor `a` as (fully) held: within its head, neither needed nor
partial. -/
def Holds (s : SyncState) (a : Actor) (v : Nat) : Prop :=
  1 ≤ v ∧ v ≤ headOf s a ∧ ¬ Mem (needOf s a) v ∧ aget v (partialsOf s a) = none

/-- `s` lacks version `v` of actor `a` altogether: it is listed in `need`, or lies beyond the head
(an actor unknown to `s` has head 0, so every version `≥ 1` is beyond it). -/
def Lacks (s : SyncState) (a : Actor) (v : Nat) : Prop :=
  Mem (needOf s a) v ∨ headOf s a < v

instance (s : SyncState) (a : Actor) (v : Nat) : Decidable (Holds s a v) := by
  unfold Holds; infer_instance
instance (s : SyncState) (a : Actor) (v : Nat) : Decidable (Lacks s a v) := by
  unfold Lacks; infer_instance

/-- a request stays within what the peer advertised: `Full` ranges are forward and inside
`1..=head`; a `Partial` request names a version inside `1..=head`, forward seq ranges, and either
the peer holds the version fully or it holds it partially and none of the requested seqs is among
the seqs the peer itself is missing. -/
def Need.WithinAdvertised (peer : SyncState) (a : Actor) : Need → Prop
  | .full lo hi => 1 ≤ lo ∧ lo ≤ hi ∧ hi ≤ headOf peer a
  | .part v sq => 1 ≤ v ∧ v ≤ headOf peer a ∧ (∀ r ∈ sq, r.1 ≤ r.2) ∧
      (Holds peer a v ∨ ∃ os, aget v (partialsOf peer a) = some os ∧ ∀ s, Mem sq s → ¬ Mem os s)

/-- a request only names things we lack. -/
def Need.LackedBy (us : SyncState) (a : Actor) : Need → Prop
  | .full lo hi => ∀ x, lo ≤ x → x ≤ hi → Lacks us a x
  | .part v sq => ∃ seqs, (v, seqs) ∈ partialsOf us a ∧ ∀ s, Mem sq s → Mem seqs s

theorem mem_heads_of_pos {s : SyncState} {a : Actor} (h : 0 < headOf s a) :
    (a, headOf s a) ∈ s.heads := by
  unfold headOf at h ⊢
  cases hg : aget a s.heads with
  | none => rw [hg] at h; cases h
  | some hd => exact aget_mem hg

namespace SyncState.WF

theorem headOf_eq {s : SyncState} (h : s.WF) {a : Actor} {head : Nat}
    (hm : (a, head) ∈ s.heads) : headOf s a = head := by
  rw [headOf, aget_of_mem h.1 hm]; rfl

theorem need_forward {s : SyncState} (h : s.WF) (a : Actor) :
    ∀ r ∈ needOf s a, r.1 ≤ r.2 := fun r hr =>
  let ⟨_, hrs, hr2⟩ := mem_getD_aget hr
  -- the fifth clause of `WF`
  (h.2.2.2.2.1 _ hrs r hr2).2.1

theorem partial_bounds {s : SyncState} (h : s.WF) {a : Actor} {p : Nat × List (Nat × Nat)}
    (hp : p ∈ partialsOf s a) : 1 ≤ p.1 ∧ p.1 ≤ headOf s a ∧ ∀ r ∈ p.2, r.1 ≤ r.2 :=
  let ⟨_, hpm, hin⟩ := mem_getD_aget hp
  -- the sixth clause of `WF`
  let hw := h.2.2.2.2.2 _ hpm p hin
  ⟨hw.1, hw.2.1, hw.2.2.2⟩

theorem of_mem_compute {us peer : SyncState} (hp : peer.WF) {a : Actor}
    {ns : List Need} (h : (a, ns) ∈ computeAvailableNeeds us peer) :
    0 < headOf peer a ∧ ns = needsFor us peer a (headOf peer a) := by
  obtain ⟨head, hm, _, h0, rfl, _⟩ := mem_computeAvailableNeeds.mp h
  rw [hp.headOf_eq hm]
  exact ⟨Nat.pos_of_ne_zero h0, rfl⟩

end SyncState.WF

theorem haves_iff_holds {peer : SyncState} {a : Actor} (hfw : ∀ r ∈ needOf peer a, r.1 ≤ r.2)
    (hpos : 0 < headOf peer a) (v : Nat) :
    Mem (otherHaves (headOf peer a) (needOf peer a) (partialsOf peer a)) v ↔ Holds peer a v := by
  rw [mem_otherHaves _ hpos _ _ hfw, Holds, aget_eq_none, and_assoc]

theorem mem_missing_headOf {us : SyncState} {a : Actor} {head : Nat} {n : Need} (hh : head ≠ 0) :
    n ∈ missing (aget a us.heads) head ↔
      headOf us a < head ∧ n = Need.full (headOf us a + 1) head := by
  unfold headOf missing
  cases aget a us.heads with
  | none => simp [Nat.pos_of_ne_zero hh]
  | some oh => by_cases h : head > oh <;> simp [h]

theorem needsFor_lacked {us peer : SyncState} {a : Actor} {head : Nat} {n : Need} (hh : head ≠ 0)
    (hn : n ∈ needsFor us peer a head) : n.LackedBy us a := by
  rcases mem_needsFor.mp hn with h | h | h
  · obtain ⟨r, hr, p, hp, rfl⟩ := mem_fullFromNeed.mp h
    exact fun x h1 h2 => .inl ⟨r, hr, ((mem_clip_overlapping _ r x).mp ⟨p, hp, h1, h2⟩).1⟩
  · obtain ⟨q, hq, ⟨_, rfl⟩ | ⟨_, os, _, _, rfl⟩⟩ := mem_partialNeeds.mp h
    · exact ⟨q.2, hq, fun s hs => hs⟩
    · exact ⟨q.2, hq, fun s hs => partialSeqs_sub hs⟩
  · obtain ⟨_, rfl⟩ := (mem_missing_headOf hh).mp h
    exact fun x h1 _ => .inr h1

theorem needsFor_full_iff {us peer : SyncState} {a : Actor} (hfw : ∀ r ∈ needOf peer a, r.1 ≤ r.2)
    (hpos : 0 < headOf peer a) (x : Nat) :
    (∃ lo hi, Need.full lo hi ∈ needsFor us peer a (headOf peer a) ∧ lo ≤ x ∧ x ≤ hi) ↔
      (Holds peer a x ∧ Mem (needOf us a) x) ∨ (headOf us a < x ∧ x ≤ headOf peer a) := by
  constructor
  · rintro ⟨lo, hi, hn, h1, h2⟩
    rcases mem_needsFor.mp hn with h | h | h
    · obtain ⟨r, hr, p, hp', heq⟩ := mem_fullFromNeed.mp h
      cases heq
      have := (mem_clip_overlapping _ r x).mp ⟨p, hp', h1, h2⟩
      exact .inl ⟨(haves_iff_holds hfw hpos x).mp this.2, r, hr, this.1⟩
    · obtain ⟨q, _, ⟨_, h⟩ | ⟨_, _, _, _, h⟩⟩ := mem_partialNeeds.mp h <;> cases h
    · obtain ⟨_, heq⟩ := (mem_missing_headOf (Nat.ne_of_gt hpos)).mp h
      cases heq
      exact .inr ⟨h1, h2⟩
  · rintro (⟨hh, r, hr, hrx⟩ | ⟨h1, h2⟩)
    · obtain ⟨p, hp', hx⟩ :=
        (mem_clip_overlapping _ r x).mpr ⟨hrx, (haves_iff_holds hfw hpos x).mpr hh⟩
      exact ⟨_, _, mem_needsFor.mpr (.inl (mem_fullFromNeed.mpr ⟨r, hr, p, hp', rfl⟩)), hx⟩
    · exact ⟨_, _, mem_needsFor.mpr (.inr (.inr ((mem_missing_headOf (Nat.ne_of_gt hpos)).mpr
        ⟨Nat.lt_of_lt_of_le h1 h2, rfl⟩))), h1, h2⟩

theorem Holds.head_pos {s : SyncState} {a : Actor} {v : Nat} (h : Holds s a v) : 0 < headOf s a :=
  Nat.lt_of_lt_of_le h.1 h.2.1

theorem full_of_holds_lacks {us peer : SyncState} {a : Actor} {v : Nat}
    (hfw : ∀ r ∈ needOf peer a, r.1 ≤ r.2) (ha : a ≠ us.actor) (hh : Holds peer a v)
    (hl : Lacks us a v) :
    ∃ ns, (a, ns) ∈ computeAvailableNeeds us peer ∧
      ∃ lo hi, Need.full lo hi ∈ ns ∧ lo ≤ v ∧ v ≤ hi := by
  obtain ⟨lo, hi, hn, hx⟩ := (needsFor_full_iff hfw hh.head_pos v).mpr
    (hl.elim (fun h => .inl ⟨hh, h⟩) (fun h => .inr ⟨h, hh.2.1⟩))
  exact ⟨_, mem_compute_of_mem_needsFor (mem_heads_of_pos hh.head_pos) ha
    (Nat.ne_of_gt hh.head_pos) hn, lo, hi, hn, hx⟩

theorem part_of_holds {us peer : SyncState} {a : Actor} {v : Nat} {seqs : List (Nat × Nat)}
    (hfw : ∀ r ∈ needOf peer a, r.1 ≤ r.2) (ha : a ≠ us.actor) (hh : Holds peer a v)
    (hv : (v, seqs) ∈ partialsOf us a) :
    ∃ ns, (a, ns) ∈ computeAvailableNeeds us peer ∧ Need.part v seqs ∈ ns := by
  have hn := mem_needsFor.mpr (.inr (.inl (mem_partialNeeds.mpr
    ⟨(v, seqs), hv, .inl ⟨(haves_iff_holds hfw hh.head_pos v).mpr hh, rfl⟩⟩)))
  exact ⟨_, mem_compute_of_mem_needsFor (mem_heads_of_pos hh.head_pos) ha
    (Nat.ne_of_gt hh.head_pos) hn, hn⟩

end Corro.Needs
