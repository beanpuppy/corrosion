/-
C01, protocol level — the CRDT-level facts the cluster invariant needs, for histories WITHOUT
re-insertion (every change of the log has causal length 1 or 2, `ChgOK`).  Then every live entry of
`crsql_changes` is LITERALLY a merged change (`Lit`: zeroed leftovers and implicit sentinels need
`cl ≥ 3`), and `StoreOK db R` is all that the later files use of a store.  Two results:
`live_of_nondominated`, the relay lemma (a merged change that no other change of the log dominates is
a live entry of the store, hence is what the store serves for its `(site, version)`), and
`spec_of_held` (a set `R ⊆ G` holding every non-dominated change of `G` has the specification of `G`).
-/
import Corro.Lemmas.CrdtInv
import Corro.Lemmas.CrdtLocal

namespace Corro.ClusterSys
open Corro.Crdt

/-- a change as a local transaction produces it, in a history where no row is re-inserted after a
delete: causal length 1 (insert / update) or 2 (delete); a sentinel entry is `(-1, NULL,
col_version = cl)`; a delete is a sentinel; a column change has a positive column version; the seq
is below the bound `handle_need`'s model uses (`Node.live`). -/
def ChgOK (c : Chg) : Prop :=
  1 ≤ c.cl ∧ c.cl ≤ 2 ∧ (c.cid = sentinel → c.val = .null ∧ c.colv = c.cl) ∧
  (c.cl = 2 → c.cid = sentinel) ∧ (c.cid ≠ sentinel → 1 ≤ c.colv) ∧ c.seq ≤ 1000000000

instance (c : Chg) : Decidable (ChgOK c) := by unfold ChgOK; exact inferInstance

theorem ChgOK.colv_pos {c : Chg} (h : ChgOK c) (hns : c.cid ≠ sentinel) : 1 ≤ c.colv := h.2.2.2.2.1 hns

theorem ChgOK.seq_le {c : Chg} (h : ChgOK c) : c.seq ≤ 1000000000 := h.2.2.2.2.2

/-- **`Dom G c`**: some OTHER change `d` of the log `G`, for the same row, is at least as good as
`c`: it has a larger causal length; or `c` is a sentinel / delete and `d` carries the same causal
length; or `c` is a column change and `d` is a change of the same cell in the same incarnation whose
key `(col_version, value, site)` is not below `c`'s. -/
def Dom (G : List Chg) (c : Chg) : Prop :=
  ∃ d ∈ G, d ≠ c ∧ d.tbl = c.tbl ∧ d.pk = c.pk ∧
    (c.cl < d.cl ∨ (c.cid = sentinel ∧ d.cl = c.cl) ∨
      (c.cid ≠ sentinel ∧ d.cid = c.cid ∧ d.cl = c.cl ∧ keyLt d.key c.key = false))

instance (G : List Chg) (c : Chg) : Decidable (Dom G c) := by unfold Dom; exact inferInstance

theorem Dom.mono {G G' : List Chg} {c : Chg} (h : Dom G c) (hs : ∀ d ∈ G, d ∈ G') : Dom G' c := by
  obtain ⟨d, hd, h⟩ := h
  exact ⟨d, hs d hd, h⟩

/-- no two distinct changes of the log tie: two sentinels / deletes of the same row with the same
causal length, or two changes of the same cell and incarnation with the same key, are equal -/
def NoTies (G : List Chg) : Prop :=
  ∀ c ∈ G, ∀ d ∈ G, c.tbl = d.tbl → c.pk = d.pk → c.cl = d.cl → c.cid = d.cid →
    (c.cid = sentinel ∨ c.key = d.key) → c = d

instance (G : List Chg) : Decidable (NoTies G) := by unfold NoTies; exact inferInstance

def sentEntry (r : Row) (k : Clock) : Chg := ⟨r.tbl, r.pk, sentinel, .null, k.colv, r.cl, k.site, k.dbv, k.seq⟩
def cellEntry (r : Row) (l : Cell) : Chg :=
  ⟨r.tbl, r.pk, l.cid, l.val, l.clk.colv, r.cl, l.clk.site, l.clk.dbv, l.clk.seq⟩

theorem mem_changes {db : Db} {e : Chg} :
    e ∈ db.changes ↔ ∃ r ∈ db.rows, (∃ k, r.sent = some k ∧ e = sentEntry r k) ∨
      (∃ l ∈ r.cells, e = cellEntry r l) := by
  unfold Db.changes
  rw [List.mem_flatMap]
  constructor
  · rintro ⟨r, hr, he⟩
    refine ⟨r, hr, ?_⟩
    rcases List.mem_append.mp he with he | he
    · left
      cases hs : r.sent with
      | none => rw [hs] at he; cases he
      | some k =>
        rw [hs] at he
        simp only [List.mem_singleton] at he
        exact ⟨k, rfl, he⟩
    · right
      obtain ⟨l, hl, rfl⟩ := List.mem_map.mp he
      exact ⟨l, hl, rfl⟩
  · rintro ⟨r, hr, h⟩
    refine ⟨r, hr, ?_⟩
    rcases h with ⟨k, hk, rfl⟩ | ⟨l, hl, rfl⟩
    · apply List.mem_append_left
      rw [hk]
      exact List.mem_singleton.mpr rfl
    · apply List.mem_append_right
      exact List.mem_map.mpr ⟨l, hl, rfl⟩

/-- every live entry of the row is literally one of the changes `R`; a row without a sentinel clock
has a cell -/
structure RowLit (R : List Chg) (r : Row) : Prop where
  sent : ∀ k, r.sent = some k → sentEntry r k ∈ R
  cells : ∀ l ∈ r.cells, cellEntry r l ∈ R
  some : r.sent = none → r.cells ≠ []

/-- **every live entry of the store is literally a merged change** -/
def Lit (db : Db) (R : List Chg) : Prop := ∀ r ∈ db.rows, RowLit R r

theorem RowLit.mono {R R' : List Chg} {r : Row} (h : RowLit R r) (hs : ∀ e ∈ R, e ∈ R') : RowLit R' r :=
  ⟨fun k hk => hs _ (h.sent k hk), fun l hl => hs _ (h.cells l hl), h.some⟩

theorem Lit.mono {db : Db} {R R' : List Chg} (h : Lit db R) (hs : ∀ e ∈ R, e ∈ R') : Lit db R' :=
  fun r hr => (h r hr).mono hs

theorem Lit.mem {db : Db} {R : List Chg} (h : Lit db R) {e : Chg} (he : e ∈ db.changes) : e ∈ R := by
  obtain ⟨r, hr, h1 | h1⟩ := mem_changes.mp he
  · obtain ⟨k, hk, rfl⟩ := h1; exact (h r hr).sent k hk
  · obtain ⟨l, hl, rfl⟩ := h1; exact (h r hr).cells l hl

theorem lit_empty (s : Nat) : Lit (Db.empty s) [] := by
  intro r hr; cases hr

theorem chg_eta_sent {c : Chg} (h1 : c.cid = sentinel) (h2 : c.val = .null) (h3 : c.colv = c.cl) :
    (⟨c.tbl, c.pk, sentinel, .null, c.cl, c.cl, c.site, c.dbv, c.seq⟩ : Chg) = c := by
  cases c
  simp only at h1 h2 h3
  subst h1 h2 h3
  rfl

theorem rowLit_mergeRow {R : List Chg} {o : Option Row} {c : Chg} (hc : ChgOK c)
    (ho : ∀ r, o = some r → RowLit R r ∧ r.tbl = c.tbl ∧ r.pk = c.pk) :
    ∀ r', mergeRow o c = some r' → RowLit (c :: R) r' := by
  obtain ⟨hc1, hc2, hc3, hc4, hc5, _⟩ := hc
  have hset : ∀ r : Row, (∀ k, r.sent = some k → sentEntry r k ∈ R) → (∀ l ∈ r.cells, cellEntry r l ∈ R) →
      r.tbl = c.tbl → r.pk = c.pk → r.cl = c.cl → RowLit (c :: R) (r.setCell c.cell) := by
    intro r hsent hcells ht hp hcl
    refine ⟨?_, ?_, ?_⟩
    · intro k hk
      have hs : (r.setCell c.cell).sent = r.sent := by unfold Row.setCell; split <;> rfl
      rw [hs] at hk
      have := hsent k hk
      apply List.mem_cons_of_mem
      simpa [sentEntry] using this
    · intro l hl
      rw [Row.setCell_cells] at hl
      rcases mem_upsert _ hl with rfl | hl
      · apply List.mem_cons.mpr
        left
        simp only [cellEntry, setCell_tbl, setCell_pk, setCell_cl, ht, hp, hcl]
        cases c; rfl
      · apply List.mem_cons_of_mem
        simpa [cellEntry] using hcells l hl
    · intro _ he
      have := findCell_setCell_same r c.cell
      unfold Row.findCell at this
      rw [he] at this
      cases this
  have hsent : ∀ r : Row, r.tbl = c.tbl → r.pk = c.pk → r.cl = c.cl →
      r.sent = some ⟨c.cl, c.site, c.dbv, c.seq⟩ → r.cells = [] → c.cid = sentinel →
      RowLit (c :: R) r := by
    intro r ht hp hcl hs hcells hcs
    obtain ⟨hv, hcv⟩ := hc3 hcs
    refine ⟨fun k hk => ?_, fun l hl => (by rw [hcells] at hl; cases hl),
      fun h => (by rw [hs] at h; cases h)⟩
    rw [hs] at hk
    cases hk
    apply List.mem_cons.mpr
    left
    simp only [sentEntry, ht, hp, hcl]
    exact chg_eta_sent hcs hv hcv
  intro r' hr'
  rcases mergeRow_cases o c with ⟨_, hm⟩ | ⟨hgt, hm⟩ | ⟨r, hr, hcl, _, _, _, hm⟩ <;>
    rw [hm] at hr' <;> cases hr'
  · -- a new incarnation: with `cl ≤ 2` the delete or the first insert, and nothing is resurrected
    unfold freshRow
    by_cases h2 : c.cl = 2
    · rw [if_pos (by rw [h2])]
      exact hsent _ rfl rfl rfl rfl rfl (hc4 h2)
    have h1 : c.cl = 1 := by omega
    have h0 : lclOf o = 0 := by omega
    rw [if_neg (by rw [h1]; exact Nat.one_ne_zero)]
    by_cases hs : c.cid = sentinel
    · rw [if_pos hs]
      exact hsent _ rfl rfl rfl rfl (resurrect_cells_of_zero c h0) hs
    · rw [if_neg hs, if_pos ⟨h0, h1⟩]
      exact hset _ nofun nofun rfl rfl h1.symm
  · obtain ⟨h1, h2, h3⟩ := ho r hr
    exact hset r h1.sent h1.cells h2 h3 hcl

theorem lit_merge {db : Db} {R : List Chg} {c : Chg} (hl : Lit db R) (hc : ChgOK c) :
    Lit (merge db c) (c :: R) := by
  rcases merge_cases db c with ⟨_, h⟩ | ⟨x, hm, _, _, h⟩
  · rw [h]; exact hl.mono (fun e he => List.mem_cons_of_mem _ he)
  · rw [h]
    intro r' hr'
    rw [Db.setRow_rows] at hr'
    rcases mem_upsert _ hr' with rfl | h'
    · refine rowLit_mergeRow hc ?_ _ hm
      intro r hr
      obtain ⟨h1, h2, h3⟩ := findRow_some hr
      exact ⟨hl r h3, h1, h2⟩
    · exact (hl r' h').mono (fun e he => List.mem_cons_of_mem _ he)

/-- the store `db` is a merge of exactly the set `R`, keys are unique, every live entry is
literally a change of `R` -/
structure StoreOK (db : Db) (R : List Chg) : Prop where
  inv : Inv db R
  nodup : db.NoDup
  lit : Lit db R

theorem storeOK_empty (s : Nat) : StoreOK (Db.empty s) [] :=
  ⟨inv_empty s, ⟨List.Pairwise.nil, fun _ h => by cases h⟩, lit_empty s⟩

theorem StoreOK.merge {db : Db} {R : List Chg} (h : StoreOK db R) {c : Chg} (hc : ChgOK c) :
    StoreOK (merge db c) (c :: R) :=
  ⟨merge_inv h.inv c, merge_noDup c h.nodup, lit_merge h.lit hc⟩

theorem StoreOK.congr {db : Db} {R R' : List Chg} (h : StoreOK db R) (hs : ∀ c, c ∈ R ↔ c ∈ R') :
    StoreOK db R' :=
  ⟨h.inv.congr hs, h.nodup, h.lit.mono (fun e he => (hs e).mp he)⟩

theorem mergeAll_append (db : Db) (xs ys : List Chg) : mergeAll (mergeAll db xs) ys = mergeAll db (xs ++ ys) := by
  unfold mergeAll; rw [List.foldl_append]

theorem StoreOK.mergeAll {db : Db} {R : List Chg} (h : StoreOK db R) {cs : List Chg}
    (hcs : ∀ c ∈ cs, ChgOK c) : StoreOK (mergeAll db cs) (cs ++ R) := by
  induction cs generalizing db R with
  | nil => exact h
  | cons c cs ih =>
    exact (ih (h.merge (hcs c List.mem_cons_self)) (fun d hd => hcs d (List.mem_cons_of_mem _ hd))).congr
      (by intro e; simp [or_left_comm])

theorem StoreOK.of_rows {db db' : Db} {R : List Chg} (h : StoreOK db R) (hr : db'.rows = db.rows) :
    StoreOK db' R := by
  refine ⟨?_, ?_, ?_⟩
  · intro t p
    have : db'.findRow t p = db.findRow t p := by unfold Db.findRow; rw [hr]
    rw [this]; exact h.inv t p
  · unfold Db.NoDup; rw [hr]; exact h.nodup
  · unfold Lit; rw [hr]; exact h.lit

theorem mem_changes_of_sent {db : Db} {r : Row} {k : Clock} (hr : r ∈ db.rows) (hk : r.sent = some k) :
    sentEntry r k ∈ db.changes :=
  mem_changes.mpr ⟨r, hr, Or.inl ⟨k, hk, rfl⟩⟩

theorem live_of_nondominated {db : Db} {R G : List Chg} (hs : StoreOK db R) (hRG : ∀ e ∈ R, e ∈ G)
    {c : Chg} (hok : ChgOK c) (hcR : c ∈ R) (hnd : ¬ Dom G c) : c ∈ db.changes := by
  obtain ⟨hc1, hc2, hc3, hc4, hc5, _⟩ := hok
  have hrow : c.atRow c.tbl c.pk := ⟨rfl, rfl⟩
  have hi := hs.inv c.tbl c.pk
  cases ho : db.findRow c.tbl c.pk with
  | none =>
    -- `Inv` of a key without a row: every merged change of the key has causal length 0, but `1 ≤ c.cl`
    rw [ho] at hi
    have := hi c hcR hrow
    omega
  | some r =>
    rw [ho] at hi
    obtain ⟨hrt, hrp, hrmem⟩ := findRow_some ho
    have hle := hi.ub c hcR hrow
    obtain ⟨c', hc'R, hc'row, hc'cl⟩ := hi.att
    have hcl : r.cl = c.cl := by
      by_cases hlt : c.cl < r.cl
      · exfalso
        apply hnd
        refine ⟨c', hRG c' hc'R, ?_, hc'row.1, hc'row.2, Or.inl (by omega)⟩
        intro he; rw [he] at hc'cl; omega
      · omega
    have hlit := hs.lit r hrmem
    by_cases hsent : c.cid = sentinel
    · -- sentinel / delete
      cases hk : r.sent with
      | some k =>
        have he := hlit.sent k hk
        have heq : sentEntry r k = c := by
          apply Classical.byContradiction
          intro hne
          apply hnd
          exact ⟨sentEntry r k, hRG _ he, hne, hrt, hrp, Or.inr (Or.inl ⟨hsent, hcl⟩)⟩
        rw [← heq]
        exact mem_changes_of_sent hrmem hk
      | none =>
        exfalso
        have hne := hlit.some hk
        cases hcells : r.cells with
        | nil => exact hne hcells
        | cons l ls =>
          have hl : l ∈ r.cells := by rw [hcells]; exact List.mem_cons_self
          have he := hlit.cells l hl
          have hfc := findCell_of_mem (hs.nodup.2 r hrmem) hl
          have hns := (hi.cells l.cid l hfc).notSent
          apply hnd
          refine ⟨cellEntry r l, hRG _ he, ?_, hrt, hrp, Or.inr (Or.inl ⟨hsent, hcl⟩)⟩
          intro heq
          have : (cellEntry r l).cid = c.cid := by rw [heq]
          simp only [cellEntry] at this
          exact hns (this.trans hsent)
    · -- column change
      have hodd : c.cl = 1 := by
        by_cases h2 : c.cl = 2
        · exact absurd (hc4 h2) hsent
        · omega
      obtain ⟨l, hl⟩ := hi.has (by omega) c hcR ⟨rfl, rfl, rfl, hcl.symm⟩ hsent
      obtain ⟨hlc, hlmem⟩ := findCell_some hl
      have hub := (hi.cells c.cid l hl).ub c hcR ⟨rfl, rfl, hlc.symm, hcl.symm⟩
      have he := hlit.cells l hlmem
      have heq : cellEntry r l = c := by
        apply Classical.byContradiction
        intro hne
        apply hnd
        exact ⟨cellEntry r l, hRG _ he, hne, hrt, hrp,
          Or.inr (Or.inr ⟨hsent, hlc, hcl, hub⟩)⟩
      rw [← heq]
      exact mem_changes_of_cell hrmem hlmem

theorem exists_top_cell {G R : List Chg} (hheld : ∀ c ∈ G, c ∈ R ∨ Dom G c) (hnt : NoTies G)
    (t p x : String) (hx : x ≠ sentinel) (hd : ∃ d ∈ G, d.atCell t p x (specCl G t p)) :
    ∃ c ∈ R, c ∈ G ∧ c.atCell t p x (specCl G t p) ∧
      ∀ d ∈ G, d.atCell t p x (specCl G t p) → keyLt c.key d.key = false := by
  obtain ⟨cs, hcsG, hcsat, hub⟩ := exists_max_cell hd
  have hnd : ¬ Dom G cs := by
    rintro ⟨d', hd', hne', ht', hp', h⟩
    have hd'row : d'.atRow t p := ⟨ht'.trans hcsat.1, hp'.trans hcsat.2.1⟩
    rcases h with h | h | h
    · have := specCl_ge hd' hd'row
      have := hcsat.2.2.2
      omega
    · exact hx (hcsat.2.2.1.symm.trans h.1)
    · obtain ⟨_, h2, h3, h4⟩ := h
      have hd'at : d'.atCell t p x (specCl G t p) :=
        ⟨hd'row.1, hd'row.2, h2.trans hcsat.2.2.1, h3.trans hcsat.2.2.2⟩
      have hkeq : d'.key = cs.key := keyLt_total h4 (hub d' hd' hd'at)
      exact hne' (hnt d' hd' cs hcsG ht' hp' h3 h2 (Or.inr hkeq))
  rcases hheld cs hcsG with h | h
  · exact ⟨cs, h, hcsG, hcsat, hub⟩
  · exact absurd h hnd

theorem exists_top {G R : List Chg} (hheld : ∀ c ∈ G, c ∈ R ∨ Dom G c)
    (hnt : NoTies G) (hpos : ∀ c ∈ G, 1 ≤ c.cl) (t p : String) (hne : ∃ c ∈ G, c.atRow t p) :
    ∃ c ∈ R, c.atRow t p ∧ c.cl = specCl G t p := by
  rcases specCl_attained G t p with ⟨c0, hc0, hc0row, hc0cl⟩ | h0
  · by_cases hcol : ∃ d ∈ G, d.atRow t p ∧ d.cl = specCl G t p ∧ d.cid ≠ sentinel
    · obtain ⟨d, hd, hdrow, hdcl, hdns⟩ := hcol
      obtain ⟨c, hcR, _, hcat, _⟩ := exists_top_cell hheld hnt t p d.cid hdns
        ⟨d, hd, hdrow.1, hdrow.2, rfl, hdcl⟩
      exact ⟨c, hcR, ⟨hcat.1, hcat.2.1⟩, hcat.2.2.2⟩
    · -- only sentinels / deletes carry the top causal length
      have hsent : ∀ d ∈ G, d.atRow t p → d.cl = specCl G t p → d.cid = sentinel := by
        intro d hd hdrow hdcl
        apply Classical.byContradiction
        intro hns
        exact hcol ⟨d, hd, hdrow, hdcl, hns⟩
      have hnd : ¬ Dom G c0 := by
        rintro ⟨d', hd', hne', ht', hp', h⟩
        have hd'row : d'.atRow t p := ⟨ht'.trans hc0row.1, hp'.trans hc0row.2⟩
        rcases h with h | h | h
        · have := specCl_ge hd' hd'row; omega
        · have hd's := hsent d' hd' hd'row (h.2.trans hc0cl)
          exact hne' (hnt d' hd' c0 hc0 ht' hp' h.2 (hd's.trans h.1.symm) (Or.inl hd's))
        · exact h.1 (hsent c0 hc0 hc0row hc0cl)
      rcases hheld c0 hc0 with h | h
      · exact ⟨c0, h, hc0row, hc0cl⟩
      · exact absurd h hnd
  · obtain ⟨c, hc, hrow⟩ := hne
    have hle := specCl_ge hc hrow
    have := hpos c hc
    omega

theorem specCl_eq_of_held {G R : List Chg} (hRG : ∀ e ∈ R, e ∈ G)
    (hheld : ∀ c ∈ G, c ∈ R ∨ Dom G c) (hnt : NoTies G) (hpos : ∀ c ∈ G, 1 ≤ c.cl) (t p : String) :
    specCl R t p = specCl G t p := by
  apply specCl_unique
  · intro c hc hrow; exact specCl_ge (hRG c hc) hrow
  · by_cases hne : ∃ c ∈ G, c.atRow t p
    · obtain ⟨c, hc, hrow, hcl⟩ := exists_top hheld hnt hpos t p hne
      exact Or.inl ⟨c, hc, hrow, hcl⟩
    · right
      rcases specCl_attained G t p with ⟨c, hc, hr, _⟩ | h0
      · exact absurd ⟨c, hc, hr⟩ hne
      · exact h0

theorem specCell_eq_of_held {G R : List Chg} (hRG : ∀ e ∈ R, e ∈ G)
    (hheld : ∀ c ∈ G, c ∈ R ∨ Dom G c) (hnt : NoTies G) (hpos : ∀ c ∈ G, 1 ≤ c.cl) (t p x : String) :
    specCell R t p x = specCell G t p x := by
  have hcl := specCl_eq_of_held hRG hheld hnt hpos t p
  by_cases hg : specCl G t p % 2 = 0 ∨ x = sentinel
  · rw [specCell_none hg, specCell_none (hcl ▸ hg)]
  have hodd := Nat.mod_two_ne_zero.mp (fun e => hg (Or.inl e))
  have hx : x ≠ sentinel := fun h => hg (Or.inr h)
  by_cases hd : ∃ d ∈ G, d.atCell t p x (specCl G t p)
  · -- the largest change of the cell is held, and is the largest of `R` too
    obtain ⟨c, hcR, hcG, hcat, hub⟩ := exists_top_cell hheld hnt t p x hx hd
    rw [specCell_unique hodd hx hcG hcat hub, specCell_unique (hcl ▸ hodd) hx hcR (hcl ▸ hcat)
      (fun d hdR hdat => hub d (hRG d hdR) (hcl ▸ hdat))]
  · rw [specCell_absent (fun d hdG hdat => hd ⟨d, hdG, hdat⟩),
      specCell_absent (fun d hdR hdat => hd ⟨d, hRG d hdR, hcl ▸ hdat⟩)]

theorem spec_of_held {G R : List Chg} (hRG : ∀ e ∈ R, e ∈ G) (hok : ∀ c ∈ G, ChgOK c)
    (hheld : ∀ c ∈ G, c ∈ R ∨ Dom G c) (hnt : NoTies G) (hcs : CompleteStrong G) :
    spec R = spec G ∧ CompleteStrong R := by
  have hpos : ∀ c ∈ G, 1 ≤ c.cl := fun c hc => (hok c hc).1
  constructor
  · funext t p
    show RowView.mk _ _ = RowView.mk _ _
    congr 1
    · exact specCl_eq_of_held hRG hheld hnt hpos t p
    · funext x
      exact specCell_eq_of_held hRG hheld hnt hpos t p x
  · intro c hc hns hodd
    rw [specCl_eq_of_held hRG hheld hnt hpos] at hodd ⊢
    obtain ⟨d0, hd0, hd0at, _⟩ := hcs c (hRG c hc) hns hodd
    obtain ⟨cs, hcsR, hcsG, hcsat, _⟩ := exists_top_cell hheld hnt c.tbl c.pk c.cid hns ⟨d0, hd0, hd0at⟩
    refine ⟨cs, hcsR, hcsat, (hok cs hcsG).colv_pos ?_⟩
    rw [hcsat.2.2.1]; exact hns

end Corro.ClusterSys
