/-
C01 with crashes — `kill` and `restart` preserve the node invariants.
`kill` changes nothing but the `alive` flag.  A restart is a reload followed by applies.  After
`from_conn` for every known actor the bookkeeping is an exact image of the durable rows (head = max of
the db-version row and the row versions, which `dbv_le` and `rows_le` keep ≤ the head in memory; a
partial per version with sequence rows, made of exactly those rows), so a version held after the reload
was held before.  The reloaded node is an alive node in the state a batch leaves before its applies run
(`gi_reloaded`: `Full.GI` with the re-scheduled applies pending, every partial backed by its rows), and the
re-scheduled applies are run by the lemma that runs those of a batch (`Full.applyAll_gi`); the ghost
list of the restart is theirs.
-/
import Corro.Lemmas.ClusterFullGI

namespace Corro.ClusterSys
open Corro.Crdt Corro.Node

theorem ninv_kill {L : Log} {n : Node} {R : List Chg} (h : NInv L n R) : NInv L n.kill R :=
  ⟨h.store, h.rsub, h.bufsub⟩

/-- one re-scheduled apply, on the ghost list and the buffer -/
def rmStep (s : List Chg × List Chg) (t : Nat × Nat) : List Chg × List Chg :=
  (s.1 ++ sortBySeq (s.2.filter (fun c => c.site = t.1 ∧ c.dbv = t.2)),
    s.2.filter (fun c => !decide (c.site = t.1 ∧ c.dbv = t.2)))

theorem restartMerged_eq (n : Node) : restartMerged n = ((restartTasks n).foldl rmStep ([], n.buf)).1 := rfl

end Corro.ClusterSys

namespace Corro.ClusterSys.Crash
open Corro.Crdt Corro.Node Corro.ClusterSys

theorem CInv.transfer {P : Nat → Nat → Prop} {L : Log} {n n' : Node} {R : List Chg} (h : CInv P L n R)
    (h1 : n'.book = n.book) (h2 : n'.seqRows = n.seqRows) (h3 : n'.buf = n.buf) (h4 : n'.dbv = n.dbv) :
    CInv P L n' R := by
  obtain ⟨id, db, book, rows, buf, dbv, alive⟩ := n
  obtain ⟨id', db', book', rows', buf', dbv', alive'⟩ := n'
  simp only at h1 h2 h3 h4
  subst h1 h2 h3 h4
  exact ⟨h.sorted, h.needed_wf, h.pwf, h.keys, h.rows_fwd, h.rows_le, h.head_le, h.part_known, h.part_state,
    h.cover, h.last_rows, h.last_part, h.held, h.rgot, h.rows_part, h.buf_rows, h.dbv_le⟩

theorem kinv_kill {L : Log} {n : Node} {R : List Chg} (h : KInv L n R) : KInv L n.kill R :=
  (h.transfer (n' := n.kill) rfl rfl rfl rfl).mono (fun _ _ _ => rfl)

theorem held_kill (n : Node) (a v : Nat) : Held n.kill a v ↔ Held n a v := Iff.rfl

section Reload
variable {P : Nat → Nat → Prop} {L : Log} {n : Node} {R : List Chg}

theorem rowsForward (hI : CInv P L n R) (a : Nat) : n.ActorRowsForward a :=
  fun r hr _ => hI.rows_fwd r hr

theorem reloaded_needed (n : Node) (a : Nat) :
    ((reloaded n).booked a).needed = (n.booked a).needed := by
  rw [reloaded_booked]
  split
  · exact fromConn_needed n a
  · rename_i hk
    show ([] : RSet) = _
    unfold Node.booked
    cases hf : n.book.find? (·.1 = a) with
    | none => rfl
    | some e =>
      have hm := List.mem_of_find?_eq_some hf
      have he := List.find?_some hf
      simp only [decide_eq_true_eq] at he
      have : e.2.needed.isEmpty = true := by
        cases hx : e.2.needed.isEmpty with
        | true => rfl
        | false => exact absurd (mem_knownActors.mpr (Or.inr (Or.inr ⟨e, hm, he, hx⟩))) hk
      show [] = e.2.needed
      exact (List.isEmpty_iff.mp this).symm

theorem reloaded_partial_isSome (hI : CInv P L n R) (a v : Nat) :
    (((reloaded n).booked a).partial? v).isSome = true ↔ HasRows n a v := by
  rw [reloaded_booked]
  split
  · exact fromConn_partial_isSome n a v (rowsForward hI a)
  · rename_i hk
    constructor
    · intro h; cases h
    · rintro ⟨r, hr, hs, _⟩
      exact absurd (mem_knownActors.mpr (Or.inr (Or.inl ⟨r, hr, hs⟩))) hk

theorem reloaded_partial_spec (hI : CInv P L n R) {a v : Nat} {p : Partial}
    (hp : ((reloaded n).booked a).partial? v = some p) :
    a ∈ n.knownActors ∧ (n.fromConn a).partial? v = some p ∧
    RSet.WF p.seqs ∧ (∀ x, RSet.Mem p.seqs x ↔ SeqMem n.seqRows a v x) ∧
      ∃ r ∈ n.seqRows, r.site = a ∧ r.ver = v ∧ p.last = r.last := by
  rw [reloaded_booked] at hp
  split at hp
  · rename_i hk
    exact ⟨hk, hp, fromConn_partial_spec n a v (rowsForward hI a) hp⟩
  · cases hp

theorem dbvOf_unknown {a : Nat} (hk : a ∉ n.knownActors) : dbvOf n a = 0 := by
  unfold dbvOf
  cases hf : n.dbv.find? (·.1 = a) with
  | none => rfl
  | some e =>
    have hm := List.mem_of_find?_eq_some hf
    have he := List.find?_some hf
    simp only [decide_eq_true_eq] at he
    exact absurd (mem_knownActors.mpr (Or.inl ⟨e, hm, he⟩)) hk

theorem reloaded_max (hI : CInv P L n R) (a : Nat) :
    dbvOf n a ≤ ((reloaded n).booked a).max ∧
    (∀ r ∈ n.seqRows, r.site = a → r.ver ≤ ((reloaded n).booked a).max) ∧
    ((reloaded n).booked a).max ≤ (n.booked a).max := by
  rw [reloaded_booked]
  split
  · have hi := fromConn_inv n a (rowsForward hI a)
    rw [fromConn_max]
    refine ⟨hi.max_ge.1, ?_, ?_⟩
    · intro r hr hs
      exact hi.max_ge.2 r (mem_actorRows.mpr ⟨hr, hs⟩)
    · rcases hi.max_att with h | ⟨r, hr, h⟩
      · rw [h]; exact hI.dbv_le a
      · rw [h]
        obtain ⟨hr1, hr2⟩ := mem_actorRows.mp hr
        have := hI.rows_le r hr1
        rw [hr2] at this; exact this
  · rename_i hk
    refine ⟨by rw [dbvOf_unknown hk]; exact Nat.zero_le _, ?_, Nat.zero_le _⟩
    intro r hr hs
    exact absurd (mem_knownActors.mpr (Or.inr (Or.inl ⟨r, hr, hs⟩))) hk

theorem reloaded_pwf_keys (hI : CInv P L n R) (a : Nat) :
    ((reloaded n).booked a).PWF ∧ ((reloaded n).booked a).KeysSorted := by
  rw [reloaded_booked]
  split
  · have hi := fromConn_inv n a (rowsForward hI a)
    exact ⟨hi.pwf, hi.keys⟩
  · exact ⟨fun e he => (by cases he), List.Pairwise.nil⟩

theorem reloaded_sorted (n : Node) : (reloaded n).book.Pairwise (fun x y => x.1 < y.1) := by
  show (restartBook n).Pairwise _
  unfold restartBook
  rw [List.pairwise_map]
  exact knownActors_sorted n

theorem hasRows_reloaded (n : Node) (a v : Nat) : HasRows (reloaded n) a v ↔ HasRows n a v := Iff.rfl

theorem held_of_reloaded (hI : CInv P L n R) {a v : Nat} (hh : Held (reloaded n) a v) : Held n a v := by
  have hnr : ¬ HasRows n a v := by
    intro hr
    have := (reloaded_partial_isSome hI a v).mpr hr
    cases hp : ((reloaded n).booked a).partial? v with
    | none => rw [hp] at this; cases this
    | some p => exact (hh.2 p hp).2 hr
  obtain ⟨h1, h2⟩ := (containsVersion_iff _ _).mp hh.1
  rw [reloaded_needed] at h1
  have h3 := (reloaded_max hI a).2.2
  refine ⟨(containsVersion_iff _ _).mpr ⟨h1, by omega⟩, ?_⟩
  intro q hq
  rcases hI.part_state a v q hq with h | ⟨_, h, _⟩ | ⟨_, _, h⟩
  · exact h
  · exact absurd h hnr
  · exact absurd h hnr

theorem gi_reloaded (hN : NInv L n R) (hI : CInv P L n R) :
    Full.GI False L (reloaded n).booked (reloaded n).seqRows (reloaded n).buf R [] (restartTasks n) := by
  refine ⟨?_, ?_, ?_, hI.rows_fwd, ?_, ?_, ?_, ?_, hI.cover, hI.last_rows, ?_, hI.rgot, ?_, hI.buf_rows,
    hN.bufsub, fun a v h => absurd h (not_inClears_nil a v)⟩
  · -- needed_wf
    intro a; rw [reloaded_needed]; exact hI.needed_wf a
  · -- pwf
    intro a; exact (reloaded_pwf_keys hI a).1
  · -- keys
    intro a; exact (reloaded_pwf_keys hI a).2
  · -- rows_le
    intro r hr; exact (reloaded_max hI r.site).2.1 r hr rfl
  · -- head_le
    intro a
    have := (reloaded_max hI a).2.2
    have := hI.head_le a
    omega
  · -- part_known: a reloaded partial comes from a row, whose version was known
    intro a v p hp
    obtain ⟨_, _, _, _, r, hr, h1, h2, _⟩ := reloaded_partial_spec hI hp
    obtain ⟨q, hq⟩ := hI.rows_part r hr
    rw [h1, h2] at hq
    have hcv := (containsVersion_iff _ _).mp (hI.part_known a v q hq)
    refine (containsVersion_iff _ _).mpr ⟨by rw [reloaded_needed]; exact hcv.1, ?_⟩
    have := (reloaded_max hI a).2.1 r hr h1
    omega
  · -- part_state: every partial is backed by its rows; a complete one has its apply re-scheduled
    intro a v p hp
    obtain ⟨hk, hp', _, hm, r, hr, h1, h2, h3⟩ := reloaded_partial_spec hI hp
    have hb : SeqsBacked L n.seqRows a v p := by
      refine ⟨fun x hx => (hm x).mp hx, fun c hc hlt => ?_⟩
      have := hI.last_rows r hr
      rw [h1, h2] at this
      exact this c hc (by omega)
    cases hc : p.complete with
    | true =>
      exact Or.inr (Or.inr ⟨rfl, ⟨r, hr, h1, h2⟩, Or.inr ⟨mem_restartTasks.mpr ⟨hk, p, hp', hc⟩, Or.inr hb⟩⟩)
    | false => exact Or.inr (Or.inl ⟨rfl, ⟨r, hr, h1, h2⟩, hb⟩)
  · -- held
    intro a v hh
    exact hI.held a v (held_of_reloaded hI hh)
  · -- rows_part
    intro r hr
    have := (reloaded_partial_isSome hI r.site r.ver).mpr ⟨r, hr, rfl, rfl⟩
    cases hp : ((reloaded n).booked r.site).partial? r.ver with
    | none => rw [hp] at this; cases this
    | some p => exact Or.inl ⟨p, rfl⟩

end Reload

theorem rmStep_fold_eq (T : List (Nat × Nat)) (m : Node) (acc : List Chg)
    (hT : ∀ t ∈ T, ∃ p, (m.booked t.1).partial? t.2 = some p ∧ p.complete = true) :
    (T.foldl rmStep (acc, m.buf)).1 = acc ++ applyMerged m T := by
  induction T generalizing m acc with
  | nil => exact (List.append_nil acc).symm
  | cons t T ih =>
    obtain ⟨p, hp, hpc⟩ := hT t List.mem_cons_self
    have hstep : rmStep (acc, m.buf) t = (acc ++ appliedBy m t.1 t.2, (m.applyBuffered t.1 t.2).buf) := by
      rw [appliedBy_complete hp hpc, applyBuffered_complete m t.1 t.2 p hp hpc, clearMeta_buf_single,
        applyCore_buf]
      rfl
    rw [List.foldl_cons, hstep, applyMerged_cons, ← List.append_assoc]
    exact ih _ _ (fun t' ht' => by
      rw [partial?_applyBuffered]
      exact hT t' (List.mem_cons_of_mem _ ht'))

theorem restartMerged_eq_applyMerged (n : Node) :
    restartMerged n = applyMerged (reloaded n) (restartTasks n) := by
  rw [restartMerged_eq]
  exact (rmStep_fold_eq (restartTasks n) (reloaded n) [] (restartTasks_complete n)).trans (List.nil_append _)

/-- **restart**, in this order: it preserves the node invariant, with nothing pending; the restarted node
is alive; it holds whatever the reloaded bookkeeping held -/
theorem cinv_restart {P : Nat → Nat → Prop} {L : Log} {n : Node} {R : List Chg} (hN : NInv L n R)
    (hI : CInv P L n R) (hL : LogOK L) :
    CInv NoneP L n.restart (restartMerged n ++ R) ∧ (n.restart).alive = true ∧
    (∀ a w, Held (reloaded n) a w → Held n.restart a w) := by
  obtain ⟨hG, hdbv⟩ := Full.applyAll_gi hL id (restartTasks n) (reloaded n) [] (gi_reloaded hN hI)
  rw [List.nil_append, ← restartMerged_eq_applyMerged] at hG
  refine ⟨?_, (restart_effect n).2.2, ?_⟩
  all_goals rw [restart_eq']
  · exact Full.cinv_of_gi hG (fun _ => rfl) (Full.applyAll_sorted (reloaded_sorted n) _)
      (hdbv fun a => (reloaded_max hI a).1)
  · -- the applies leave the partials alone and only remove sequence rows
    intro a w hh
    refine ⟨applyAll_cv ((gi_reloaded hN hI).needed_wf a) _ w hh.1, fun p hp => ?_⟩
    rw [partial?_applyAll] at hp
    exact ⟨(hh.2 p hp).1, fun h => (hh.2 p hp).2 (hasRows_applyAll_sub h)⟩

theorem kinv_restart {L : Log} {n : Node} {R : List Chg} (hN : NInv L n R) (hI : KInv L n R) (hL : LogOK L) :
    KInv L n.restart (restartMerged n ++ R) :=
  (cinv_restart hN hI hL).1.mono (fun _ _ h => absurd h id)

end Corro.ClusterSys.Crash

namespace Corro.ClusterSys
open Corro.Crdt Corro.Node

/-- restart, store level: the re-scheduled applies merge buffered rows, as the applies of a batch do -/
theorem ninv_restart {L : Log} {n : Node} {R : List Chg} (h : NInv L n R) (hL : LogOK L) :
    NInv L n.restart (restartMerged n ++ R) := by
  rw [restart_eq', Crash.restartMerged_eq_applyMerged]
  exact (applyAll_dbInv [] (restartTasks n) (reloaded n)).ninv (n := reloaded n)
    ⟨h.store, h.rsub, h.bufsub⟩ hL (fun _ h => absurd h List.not_mem_nil)

end Corro.ClusterSys
