/-
C04 — sync requests ask for everything the peer can give and nothing it cannot:
"Given its own sync state and a peer's advertised state, a node requests from that peer every
version, and every missing sequence range of a partially held version, that the peer advertises as
held and the node lacks.  Every request stays within the peer's advertised head, and a node never
asks a peer for versions it authored itself."  (The docstrings number these sentences.)  Model:
`Corro/Model/Needs.lean`; the vocabulary of the statements is in `Corro/Lemmas/Needs*.lean`.
-/
import Corro.Lemmas.NeedsSession
import Corro.Gen.SyncConsts

namespace Corro.Needs
open Corro.RSet

/-- **C04, sentence 1 (versions).**  Every version the peer advertises as held and we lack (listed
in our `need`, or beyond our head, or of an actor we do not know) is covered by a `Full` request —
for every foreign actor. -/
theorem full_complete (us peer : SyncState) (hp : peer.WF) (a : Actor) (v : Nat)
    (ha : a ≠ us.actor) (hh : Holds peer a v) (hl : Lacks us a v) :
    ∃ ns, (a, ns) ∈ computeAvailableNeeds us peer ∧
      ∃ lo hi, Need.full lo hi ∈ ns ∧ lo ≤ v ∧ v ≤ hi :=
  full_of_holds_lacks (hp.need_forward a) ha hh hl

/-- **C04, sentence 1 (sequence ranges).**  For a version we hold partially, every seq we miss
(`s` inside one of our advertised missing ranges) that the peer can give — because it holds the
version fully, or holds it partially and `s` is not among the seqs it is missing itself — is
covered by a `Partial` request for that version. -/
theorem partial_complete (us peer : SyncState) (hp : peer.WF) (a : Actor) (v s : Nat)
    (seqs : List (Nat × Nat)) (ha : a ≠ us.actor)
    (hv : (v, seqs) ∈ partialsOf us a) (hs : Mem seqs s)
    (hpeer : Holds peer a v ∨ ∃ os, aget v (partialsOf peer a) = some os ∧ ¬ Mem os s) :
    ∃ ns, (a, ns) ∈ computeAvailableNeeds us peer ∧
      ∃ sq, Need.part v sq ∈ ns ∧ Mem sq s := by
  rcases hpeer with hh | ⟨os, hos, hnot⟩
  · -- all our missing ranges are requested
    obtain ⟨ns, h1, h2⟩ := part_of_holds (hp.need_forward a) ha hh hv
    exact ⟨ns, h1, seqs, h2, hs⟩
  · have hb := hp.partial_bounds (aget_mem hos)
    have hpos : 0 < headOf peer a := Nat.lt_of_lt_of_le hb.1 hb.2.1
    have hnh : ¬ Holds peer a v := fun hh => nomatch hh.2.2.2.symm.trans hos
    have hsm := (mem_partialSeqs seqs os hb.2.2 s).mpr ⟨hs, hnot⟩
    have hn := mem_needsFor.mpr (.inr (.inl (mem_partialNeeds.mpr ⟨(v, seqs), hv, .inr
      ⟨mt (haves_iff_holds (hp.need_forward a) hpos v).mp hnh, os, hos,
        fun he => mem_nil s (he ▸ hsm), rfl⟩⟩)))
    exact ⟨_, mem_compute_of_mem_needsFor (mem_heads_of_pos hpos) ha (Nat.ne_of_gt hpos) hn,
      _, hn, hsm⟩

/-- **C04, sentence 2.**  Every request stays within the peer's advertised head (and is a forward
range starting at version 1 or later); `Partial` requests name only seqs the peer advertised as
received. -/
theorem requests_within_head (us peer : SyncState) (hu : us.WF) (hp : peer.WF) :
    ∀ a ns, (a, ns) ∈ computeAvailableNeeds us peer → ∀ n ∈ ns, n.WithinAdvertised peer a := by
  intro a ns hmem n hn
  obtain ⟨hpos, rfl⟩ := hp.of_mem_compute hmem
  have hholds := haves_iff_holds (hp.need_forward a) hpos
  rcases mem_needsFor.mp hn with h | h | h
  · -- overlap of our need with the peer's haves: a forward range whose ends the peer holds
    obtain ⟨r, hr, p, hp', rfl⟩ := mem_fullFromNeed.mp h
    have hpf := wf_forward (otherHaves_wf _ hpos _ _ (hp.need_forward a)) p
      ((mem_overlapping _ _ _).mp hp').1
    have hf := clip_forward (hu.need_forward a r hr) hpf hp'
    have hlo := (mem_clip_overlapping _ r _).mp ⟨p, hp', Nat.le_refl _, hf⟩
    have hhi := (mem_clip_overlapping _ r _).mp ⟨p, hp', hf, Nat.le_refl _⟩
    exact ⟨((hholds _).mp hlo.2).1, hf, ((hholds _).mp hhi.2).2.1⟩
  · obtain ⟨q, hq, h⟩ := mem_partialNeeds.mp h
    have hqf := (hu.partial_bounds hq).2.2
    rcases h with ⟨hm, rfl⟩ | ⟨_, os, hos, _, rfl⟩
    · -- the peer holds the version fully
      have hh := (hholds q.1).mp hm
      exact ⟨hh.1, hh.2.1, hqf, .inl hh⟩
    · -- both partial
      have hw := hp.partial_bounds (aget_mem hos)
      exact ⟨hw.1, hw.2.1, partialSeqs_forward _ _ hqf hw.2.2, .inr ⟨os, hos, fun s hs =>
        ((mem_partialSeqs _ _ hw.2.2 s).mp hs).2⟩⟩
  · -- beyond our head
    obtain ⟨hlt, rfl⟩ := (mem_missing_headOf (Nat.ne_of_gt hpos)).mp h
    exact ⟨Nat.succ_le_succ (Nat.zero_le _), hlt, Nat.le_refl _⟩

/-- **C04, sentence 1, "…and the node lacks".**  Nothing is requested that we already have: every
version of a `Full` request is listed in our `need` or lies beyond our head, every seq of a
`Partial` request lies in one of our missing ranges of that version.  (No hypothesis needed.) -/
theorem requests_are_lacked (us peer : SyncState) :
    ∀ a ns, (a, ns) ∈ computeAvailableNeeds us peer → ∀ n ∈ ns, n.LackedBy us a := by
  intro a ns hmem n hn
  obtain ⟨head, _, _, hh0, rfl, _⟩ := mem_computeAvailableNeeds.mp hmem
  exact needsFor_lacked hh0 hn

/-- The stronger reading "every requested version is one the peer advertises as **held**"
is false of the code: the range beyond our head, `our_head+1 ..= head`, is requested
whole, including versions the peer lists in its own `need`.  Concrete input: we know actor 2 up to
version 1; the peer advertises head 3 for actor 2 and needs version 2 itself.  The code asks the
peer for versions 2..=3. -/
theorem full_requests_held_counterexample :
    ∃ us peer : SyncState, us.WF ∧ peer.WF ∧
      ∃ a ns lo hi x, (a, ns) ∈ computeAvailableNeeds us peer ∧ Need.full lo hi ∈ ns ∧
        lo ≤ x ∧ x ≤ hi ∧ ¬ Holds peer a x :=
  ⟨⟨1, [(2, 1)], [], []⟩, ⟨9, [(2, 3)], [(2, [(2, 2)])], []⟩, by decide +kernel, by decide +kernel,
    2, [Need.full 2 3], 2, 3, 2, by decide +kernel, by decide +kernel, by decide +kernel,
    by decide +kernel, by decide +kernel⟩

/-- What does hold for every `Full` request: each requested version is either held by the peer and
listed in our `need`, or lies in `our_head+1 ..= peer's head` (where the peer may or may not hold
it). -/
theorem full_requests_held_partial (us peer : SyncState) (hp : peer.WF) :
    ∀ a ns, (a, ns) ∈ computeAvailableNeeds us peer → ∀ lo hi, Need.full lo hi ∈ ns →
      ∀ x, lo ≤ x → x ≤ hi →
        (Holds peer a x ∧ Mem (needOf us a) x) ∨ (headOf us a < x ∧ x ≤ headOf peer a) := by
  intro a ns hmem lo hi hn x h1 h2
  obtain ⟨hpos, rfl⟩ := hp.of_mem_compute hmem
  exact (needsFor_full_iff (hp.need_forward a) hpos x).mp ⟨lo, hi, hn, h1, h2⟩

/-- **C04, sentence 3.**  No request is ever made for the versions we authored ourselves, whatever
the peer advertises about them.  (No hypothesis needed.) -/
theorem never_own_actor (us peer : SyncState) :
    ∀ a ns, (a, ns) ∈ computeAvailableNeeds us peer → a ≠ us.actor := by
  intro a ns hmem
  obtain ⟨_, _, ha, _⟩ := mem_computeAvailableNeeds.mp hmem
  exact ha

/-! Request chunking and de-duplication on the client (`parallel_sync`).

`syncSession k d us peers` is everything put on the wire, as `(server, actor, need)`, in one
session with the peers whose handshake succeeded (a peer whose handshake fails is not in `peers`):
the needs computed per peer are cut with `chunk_range(_, k)`, queued per server, popped `d` at a
time from the back, server after server, and filtered through `req_full` / `req_partials`, which
are shared by all servers of the session.  The theorems hold for all `k, d ≥ 1`; the code's values
are those of `Corro/Gen/SyncConsts.lean` (`codeSession`, `code_consts_admissible`,
`code_session_sound` below).

Tie to the code.  The code is inline in a task spawned by `parallel_sync`, so the harness
(`harness/src/c04.rs`, op `session`) runs the real `parallel_sync` against fake peers that record
every `SyncMessageV1::Request` they receive, and the driver prints `syncSession` at the constants of
`Corro/Gen/SyncConsts.lean`, which is `codeSession us peers`.  The servers come in handshake
completion order in the code and in list order here, the `Partial` needs of one actor in the
iteration order of a `HashMap` there and by ascending version here; what the comparison does about
the orders that cannot be forced is said in `harness/src/c04.rs`.  The three theorems below are
also checked as an oracle on the real messages of every session.  Not modelled and not exercised: a
failing `encode_sync_msg` / `write_buf` in the sending task (the server is dropped for the session
while its ranges stay in `req_full`/`req_partials`). -/

/-- **C04, observation "Request messages sent by parallel_sync".**  The union of what is actually
sent over a session equals the union of the computed needs — per actor for versions, per actor and
version for seqs: nothing computed is dropped by the chunking or the de-duplication, and nothing
outside the computed needs is sent. -/
theorem dedup_preserves_union (k d : Nat) (hk : 1 ≤ k) (hd : 1 ≤ d) (us : SyncState)
    (peers : List SyncState) (hu : us.WF) (hp : ∀ p ∈ peers, p.WF) :
    (∀ a x, (∃ srv lo hi, (srv, a, Need.full lo hi) ∈ syncSession k d us peers ∧ lo ≤ x ∧ x ≤ hi) ↔
        ∃ p ∈ peers, ∃ ns lo hi, (a, ns) ∈ computeAvailableNeeds us p ∧ Need.full lo hi ∈ ns ∧
          lo ≤ x ∧ x ≤ hi) ∧
    (∀ a v s, (∃ srv sq, (srv, a, Need.part v sq) ∈ syncSession k d us peers ∧ Mem sq s) ↔
        ∃ p ∈ peers, ∃ ns sq, (a, ns) ∈ computeAvailableNeeds us p ∧ Need.part v sq ∈ ns ∧
          Mem sq s) := by
  have h := (session_spec k d hk hd us peers fun p hpp =>
    requests_within_head us p hu (hp p hpp)).1
  exact ⟨fun a x => by simpa only [Sent, exists_kind_none, exists_and_left] using h a none x,
    fun a v s => by simpa only [Sent, exists_kind_some, exists_and_left] using h a (some v) s⟩

/-- Each server is only ever asked for (a sub-range of) something that was computed as available
from *that* server; so sentences 2 and 3 of the property carry over from the computed needs to the
messages on the wire. -/
theorem dedup_within_server (k d : Nat) (hk : 1 ≤ k) (hd : 1 ≤ d) (us : SyncState)
    (peers : List SyncState) (hu : us.WF) (hp : ∀ p ∈ peers, p.WF) :
    ∀ srv a n, (srv, a, n) ∈ syncSession k d us peers →
      ∃ p ∈ peers, p.actor = srv ∧ ∃ ns n0, (a, ns) ∈ computeAvailableNeeds us p ∧ n0 ∈ ns ∧
        n.SubOf n0 :=
  (session_spec k d hk hd us peers fun p hpp =>
    requests_within_head us p hu (hp p hpp)).2.1

/-- Within one session nothing is asked for twice, from whichever server: any two entries on the
wire for the same actor are disjoint (`Full` ranges share no version; `Partial` needs of the same
version share no seq).  In particular the one-version overlap of consecutive `chunk_range` blocks
never reaches the wire. -/
theorem dedup_no_duplicates (k d : Nat) (hk : 1 ≤ k) (hd : 1 ≤ d) (us : SyncState)
    (peers : List SyncState) (hu : us.WF) (hp : ∀ p ∈ peers, p.WF) :
    (syncSession k d us peers).Pairwise DisjointReq :=
  (session_spec k d hk hd us peers fun p hpp =>
    requests_within_head us p hu (hp p hpp)).2.2

/-- the session exactly as the code runs it: chunk size and drain count as extracted from
`parallel_sync` (`chunk_range(versions, k)`, `while drained < d`).  This is what the driver prints. -/
def codeSession (us : SyncState) (peers : List SyncState) : List (Actor × Actor × Need) :=
  syncSession Corro.Gen.SyncConsts.syncChunkSize Corro.Gen.SyncConsts.syncDrainPerRound us peers

/-- The side conditions `k ≥ 1`, `d ≥ 1` of the three theorems above hold for the constants found in
the source (re-checked on every run against the regenerated file; a retune to `0` — `step_by(0)`
panics, `while drained < 0` never sends — is the only retune that fails here). -/
theorem code_consts_admissible :
    1 ≤ Corro.Gen.SyncConsts.syncChunkSize ∧ 1 ≤ Corro.Gen.SyncConsts.syncDrainPerRound := by decide

/-- Instantiation of `dedup_preserves_union`, `dedup_within_server`, `dedup_no_duplicates` at the
code's own constants, with no hypothesis left on them. -/
theorem code_session_sound (us : SyncState) (peers : List SyncState) (hu : us.WF)
    (hp : ∀ p ∈ peers, p.WF) :
    ((∀ a x, (∃ srv lo hi, (srv, a, Need.full lo hi) ∈ codeSession us peers ∧ lo ≤ x ∧ x ≤ hi) ↔
        ∃ p ∈ peers, ∃ ns lo hi, (a, ns) ∈ computeAvailableNeeds us p ∧ Need.full lo hi ∈ ns ∧
          lo ≤ x ∧ x ≤ hi) ∧
     (∀ a v s, (∃ srv sq, (srv, a, Need.part v sq) ∈ codeSession us peers ∧ Mem sq s) ↔
        ∃ p ∈ peers, ∃ ns sq, (a, ns) ∈ computeAvailableNeeds us p ∧ Need.part v sq ∈ ns ∧
          Mem sq s)) ∧
    (∀ srv a n, (srv, a, n) ∈ codeSession us peers →
      ∃ p ∈ peers, p.actor = srv ∧ ∃ ns n0, (a, ns) ∈ computeAvailableNeeds us p ∧ n0 ∈ ns ∧
        n.SubOf n0) ∧
    (codeSession us peers).Pairwise DisjointReq :=
  ⟨dedup_preserves_union _ _ code_consts_admissible.1 code_consts_admissible.2 us peers hu hp,
   dedup_within_server _ _ code_consts_admissible.1 code_consts_admissible.2 us peers hu hp,
   dedup_no_duplicates _ _ code_consts_admissible.1 code_consts_admissible.2 us peers hu hp⟩

/-! Non-vacuity: concrete well-formed states exercising every branch. -/

/-- we: actor 1; know actor 2 up to 3, need its version 1, hold version 3 partially. -/
def exUs : SyncState :=
  ⟨1, [(1, 5), (2, 3)], [(2, [(1, 1)])], [(2, [(3, [(0, 1), (3, 3)])])]⟩
/-- peer 9: lists our own actor, actor 2 up to 6 (needs 5, partial 3 and 4), actor 3 (unknown to us). -/
def exPeer : SyncState :=
  ⟨9, [(1, 7), (2, 6), (3, 2)], [(2, [(5, 5)])], [(2, [(3, [(1, 4)]), (4, [(0, 0)])])]⟩
/-- peer 8: holds all of actor 2 up to 25. -/
def exPeer2 : SyncState := ⟨8, [(2, 25)], [], []⟩

example : exUs.WF ∧ exPeer.WF ∧ exPeer2.WF := by decide +kernel
example : computeAvailableNeeds exUs exPeer =
    [(2, [Need.full 1 1, Need.part 3 [(0, 0)], Need.full 4 6]), (3, [Need.full 1 2])] := by decide +kernel
example : Holds exPeer 2 1 ∧ Lacks exUs 2 1 ∧ Holds exPeer 2 6 ∧ Lacks exUs 2 6 ∧
    Holds exPeer 3 2 ∧ Lacks exUs 3 2 := by decide +kernel
example : computeAvailableNeeds exUs exPeer2 =
    [(2, [Need.full 1 1, Need.part 3 [(0, 1), (3, 3)], Need.full 4 25])] := by decide +kernel
/-- a session with both peers (at `k = d = 10`): the second server is asked only for what the first was not. -/
example : syncSession 10 10 exUs [exPeer, exPeer2] =
    [(9, 3, Need.full 1 2), (9, 2, Need.full 4 6), (9, 2, Need.part 3 [(0, 0)]), (9, 2, Need.full 1 1),
     (8, 2, Need.full 24 25), (8, 2, Need.full 14 23), (8, 2, Need.full 7 13),
     (8, 2, Need.part 3 [(1, 1), (3, 3)])] := by decide +kernel

end Corro.Needs
