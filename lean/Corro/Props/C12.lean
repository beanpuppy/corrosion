/-
C12 — attaching or resuming a subscription never skips or repeats a change silently (model
`Corro/Model/CatchUp.lean`).  A run is `run cfg (e0, attach e0 mode) acts`: the subscriber has just
called `tx.subscribe()` in an arbitrary matcher/pipe/log state `e0`, `acts` is an arbitrary
interleaving of matcher, pipe, purge and `catch_up_sub` task steps, `cfg` any capacities.  Other
subscribers share with this one only the matcher and the broadcast stream, which the schedule already
drives arbitrarily, so every statement holds for each of any number of subscribers.
-/
import Corro.Lemmas.CatchUp
import Corro.Lemmas.CatchUpSnap
import Corro.Lemmas.CatchUpPause

namespace Corro.CatchUp

/-- **C12, "receives a consistent snapshot".**  For EVERY schedule (no side condition) the output
of an attach from scratch is: nothing yet, or the rows of one version `v` of the materialised
query, or those rows followed by the end-of-query event carrying the SAME `v` (rows and
`EndOfQuery.change_id` come from one log state) and then no further snapshot item; a resume or a
`skip_rows` attach never sends snapshot items. -/
theorem snapshot_consistent (cfg : Cfg) (e0 : Env) (mode : Mode) (acts : List Act) :
    let s := (run cfg (e0, attach e0 mode) acts).2
    (mode = .anew →
        s.out = [] ∨ (∃ v, s.out = [.rows v]) ∨
        (∃ v rest, s.out = .rows v :: .eoq v :: rest ∧ snapPart rest = [])) ∧
    (mode ≠ .anew → snapPart s.out = []) :=
  (run_readInv cfg acts (e0, attach e0 mode) (readInv_attach e0 mode)).snapshot

/-- **C12, "change events whose ids are strictly increasing, start right after the snapshot's or N,
and contain no duplicates, however its attachment races with changes being produced … when
continuity cannot be provided the stream stops, with an error event or by closing".**

For EVERY schedule whose log reads start inside the retained log (`SchedOk`: the property's
"every resume point within the retained change log"), for the code since cb48448 (`cfg.fixed`),
through ALL phases — subscribe/buffer, snapshot or `changes_since`, reconcile with its re-reads,
pending event, buffer drain, join, the hand-over and live forwarding; including queue overflow, a
lagged receiver, uncommitted batches, events in flight at the hand-over:

* once the first read is done there is a base `b` — the snapshot's id (`anew`; it is the `v` of
  `snapshot_consistent`), `N` (`since N`) or `max_change_id` (`skip`) — and the change ids delivered
  are exactly `b+1, b+2, …` in this order: no gap, no repeat, starting right after `b`;
* before that no change has been delivered;
* `error` is followed by `closed` only and `closed` by nothing (the stream ends, it never continues
  past a gap), and a stream that has ended is never written to again (`done_frozen`). -/
theorem ids_strictly_increasing_from (cfg : Cfg) (hf : cfg.fixed = true) (e0 : Env) (mode : Mode)
    (acts : List Act) (he : EnvOk e0) (hs : SchedOk cfg (e0, attach e0 mode) acts) :
    let s := (run cfg (e0, attach e0 mode) acts).2
    (∀ b, s.base = some b → chg s.out = idsFrom b (b + (chg s.out).length)) ∧
    (s.base = none → chg s.out = []) ∧
    TermOk s.out :=
  (run_inv cfg acts (e0, attach e0 mode) he (inv_attach cfg e0 mode) hs).ids (.inr hf)

/-- The base of a resume is its `from`: with `ids_strictly_increasing_from`, the ids delivered after
`from = N` are exactly `N+1, N+2, …`. -/
theorem resume_base (cfg : Cfg) (e0 : Env) (n : Nat) (acts : List Act) :
    let s := (run cfg (e0, attach e0 (.since n)) acts).2
    s.base = none ∨ s.base = some n :=
  (run_readInv cfg acts (e0, attach e0 (.since n)) (readInv_attach e0 (.since n))).base

/-- The same statement for the phases BEFORE the hand-over holds for the code before cb48448 as well
(any `cfg`): what `handover_duplicate_before_fix` shows is a defect of the hand-over only. -/
theorem ids_strictly_increasing_before_handover (cfg : Cfg) (e0 : Env) (mode : Mode) (acts : List Act)
    (he : EnvOk e0) (hs : SchedOk cfg (e0, attach e0 mode) acts) :
    let s := (run cfg (e0, attach e0 mode) acts).2
    s.handed = false →
      (∀ b, s.base = some b → chg s.out = idsFrom b (b + (chg s.out).length)) ∧
      (s.base = none → chg s.out = []) ∧ TermOk s.out :=
  fun hh => (run_inv cfg acts (e0, attach e0 mode) he (inv_attach cfg e0 mode) hs).ids (.inl hh)

/-- **C12, "the stream stops … instead of continuing past a gap".**  A stream that has ended is
never written to again, whatever is scheduled. -/
theorem done_frozen (cfg : Cfg) (acts : List Act) (e : Env) (s : Sub) (h : s.pc = .done) :
    (run cfg (e, s) acts).2.out = s.out ∧ (run cfg (e, s) acts).2.pc = .done := by
  let P (s' : Sub) : Prop := s'.out = s.out ∧ s'.pc = .done
  exact run_preserves (P := fun _ => P) cfg (fun e _ h' => by rw [stepMain_done cfg e h'.2]; exact h')
    (fun _ _ h' => stepQRecv_frame _ _ fun _ _ _ => h') (fun _ _ h' => stepQCancel_frame fun _ => h')
    (fun _ _ _ h' => h') acts (e, s) ⟨rfl, h⟩

/-- The environment step of the pause hook — the driver's `wpause` (a batch of ANY size `n` sent, the
matcher held before its commit) and the `commit` that lets it go — is no behaviour beyond the
model's: wherever it occurs in a run it IS the schedule `emit × n` (resp. `[commit]`) of the
`Act`s over which `snapshot_consistent`, `ids_strictly_increasing_from`, `resume_base`,
`ids_strictly_increasing_before_handover` and `done_frozen` quantify (all lists of `Act`), so those
theorems cover every run in which a subscriber subscribes, reads, reconciles, is released or goes
live before, during and after such a batch. -/
theorem paused_batch_is_schedule (cfg : Cfg) (st : State) (before after : List Act) (n : Nat) :
    run cfg st (before ++ List.replicate n .emit ++ after)
      = run cfg (sendBatch cfg (run cfg st before).1 n, (run cfg st before).2) after ∧
    run cfg st (before ++ [.commit] ++ after)
      = run cfg (commitBatch cfg (run cfg st before).1, (run cfg st before).2) after ∧
    (∀ e : Env, sendBatch cfg e n = { e with sent := e.sent + n }) ∧
    (∀ e : Env, commitBatch cfg e = { e with committed := e.sent }) := by
  refine ⟨?_, ?_, sendBatch_eq cfg n, fun e => rfl⟩
  · rw [run_append, run_append, run_replicate_emit]
  · rw [run_append, run_append]
    rfl

/-- **C12, "however its attachment races with changes being produced", the window between the
matcher's send and its commit.**  A subscriber subscribes in ANY state in which at least one change
is sent and not committed (`committed < sent`, any number of them, any part of them already
broadcast) — snapshot, `skip_rows`, or a resume point up to the head of the log — and then runs
alone, in any interleaving of its two tasks, while the matcher stays before its commit and the pipe
delivers nothing more.  Then it is NEVER declared caught up: it never reaches the pending-event /
drain / hand-over phases or live forwarding, it delivers no change above `committed`, and when it
ends, it ends with the error event followed by the end of the stream (`ok ended` of the harness).
In particular `last_change_id_sent = last + 1` with nothing buffered is not "nothing missed". -/
theorem never_caught_up_between_send_and_commit (cfg : Cfg) (e : Env) (mode : Mode) (acts : List Act)
    (hun : e.committed < e.sent) (hm : ∀ n, mode = .since n → n ≤ e.committed)
    (ha : ∀ a ∈ acts, SubOnly a) :
    let s := (run cfg (e, attach e mode) acts).2
    s.pc ≠ .sendPending ∧ s.pc ≠ .cancel ∧ s.pc ≠ .drain ∧ s.pc ≠ .join ∧ s.pc ≠ .live ∧
    s.handed = false ∧ (∀ k ∈ chg s.out, k ≤ e.committed) ∧
    (s.pc = .done → ∃ pre, s.out = pre ++ [.error, .closed]) := by
  have h := (run_pinv cfg acts e (attach e mode) hun (pinv_attach e mode hm) ha).2
  exact ⟨h.at, h.at, h.at, h.at, h.at, h.not_handed, h.ids, h.at⟩

/-- the window of the seeded change C12-1 (corpus/C12/attach_between_send_and_commit.ops): changes
1, 2 committed, change 3 sent and broadcast before the subscriber exists, not committed; resume
from 2 with nothing buffered: the reconcile re-reads the log five times and ends the stream … -/
example : (run {} ({ sent := 3, committed := 2, published := 3 },
      attach { sent := 3, committed := 2, published := 3 } (.since 2)) (List.replicate 9 .main)).2.out
    = [.error, .closed] := by decide +kernel

/-- … so does an attach from scratch (after a consistent snapshot at change 2) -/
example : (run {} ({ sent := 3, committed := 2, published := 3 },
      attach { sent := 3, committed := 2, published := 3 } .anew) (List.replicate 10 .main)).2.out
    = [.rows 2, .eoq 2, .error, .closed] := by decide +kernel

/-- … and when the commit comes while the first read is still open, the re-read delivers the change:
3 committed, 4 sent and broadcast before the subscriber exists; resume from 0, commit after the first
read; one re-read fetches 4, hand-over, then change 5 arrives live: 1, 2, 3, 4, 5 -/
example : (run {} ({ sent := 4, committed := 3, published := 4 },
      attach { sent := 4, committed := 3, published := 4 } (.since 0))
      [.main, .commit, .main, .main, .main, .main, .main, .main, .main, .qcancel, .main, .main,
       .emit, .commit, .publish, .main]).2.out
    = [.change 1, .change 2, .change 3, .change 4, .change 5] := by decide +kernel

example : SubOnly .main ∧ SubOnly .qrecv ∧ SubOnly .qcancel := by simp [SubOnly]

/-- the F9 schedule: one change sent and committed but still in the pipe; resume from 0 reads it
from the log, reconciles (queue empty, `last_change_id_sent = 1 ≤ last`), cancels the buffering
task, hands over; then the pipe delivers change 1. -/
def f9Schedule : List Act :=
  [.emit, .commit, .main, .main, .main, .main, .qcancel, .main, .main, .publish, .main]

/-- **F9 (DESIGN §6), confirmed on the real code before cb48448** (corpus/C12/f9_handover_duplicate.ops):
a schedule inside the property's quantifier on which the code before the fix delivered change 1
twice (regression witness: `fixed := false`). -/
theorem handover_duplicate_before_fix :
    SchedOk { fixed := false } ({}, attach {} (.since 0)) f9Schedule ∧
    (run { fixed := false } ({}, attach {} (.since 0)) f9Schedule).2.out = [.change 1, .change 1] := by
  exact ⟨by decide +kernel, by decide +kernel⟩

/-- … and the code since cb48448 delivers it once on the same schedule. -/
theorem handover_duplicate_fixed :
    (run {} ({}, attach {} (.since 0)) f9Schedule).2.out = [.change 1] ∧
    (run {} ({}, attach {} (.since 0)) f9Schedule).2.pc = .live := by
  exact ⟨by decide +kernel, by decide +kernel⟩

/-- broadcast capacity 2; after the reconcile found nothing to wait for, a burst of three changes
is published before the buffering task runs: its `recv` returns `Lagged`. -/
def lagSchedule : List Act :=
  [.emit, .commit, .main, .main, .emit, .emit, .emit, .commit, .publish, .publish, .publish, .publish,
   .qrecv, .main, .main, .qcancel, .main, .main, .main, .main]

/-- Before cb48448 the lag was swallowed by the buffering task (it waited for the cancellation and
returned the receiver positioned at the oldest retained change): 1, 3, 4 were delivered — change 2
skipped, stream continued (regression witness). -/
theorem lag_swallowed_gap_before_fix :
    SchedOk { bcap := 2, fixed := false } ({}, attach {} (.since 0)) lagSchedule ∧
    (run { bcap := 2, fixed := false } ({}, attach {} (.since 0)) lagSchedule).2.out
      = [.change 1, .change 3, .change 4] := by
  exact ⟨by decide +kernel, by decide +kernel⟩

/-- … since cb48448 the same schedule ends the stream with the error event. -/
theorem lag_swallowed_gap_fixed :
    (run { bcap := 2 } ({}, attach {} (.since 0)) lagSchedule).2.out = [.change 1, .error, .closed] := by
  decide +kernel

/-- **F14 (observation; outside the property's quantifier).**  A resume point older than the
retained log: `changes_since` simply starts at the oldest retained id.  The first step of the
catch-up delivers `pruned+1 ..= committed`, no error event, and the catch-up goes on. -/
theorem resume_outside_log (cfg : Cfg) (e : Env) (n : Nat) (hn : n < e.pruned) :
    let s := stepMain cfg e (attach e (.since n))
    s.out = (idsFrom e.pruned e.committed).map Item.change ∧ s.pc = .tryRecv ∧ s.base = some n := by
  simp [stepMain, attach, logRead, Nat.max_eq_right (Nat.le_of_lt hn)]

/-- … and the client library does report it: the first change it is handed is not `n + 1`. -/
theorem resume_outside_log_reported (e : Env) (n : Nat) (hn : n < e.pruned) (hc : e.pruned < e.committed) :
    (clientRun (some n) (idsFrom e.pruned e.committed)).head? = some (some (n + 1, e.pruned + 1)) := by
  obtain ⟨k, hk⟩ : ∃ k, e.committed = e.pruned + (k + 1) := ⟨e.committed - e.pruned - 1, by omega⟩
  rw [hk, idsFrom_cons]
  simp only [clientRun, handleChange]
  have : ¬ n = e.pruned := by omega
  simp [this]

/-- **C12, "the client library reports any gap it does observe".**  `handle_change` over any id
sequence, starting after `s`: nothing is reported iff the sequence is exactly `s+1, s+2, …`. -/
theorem client_detects (s : Nat) (ids : List Nat) :
    (∀ r ∈ clientRun (some s) ids, r = none) ↔ ids = idsFrom s (s + ids.length) := by
  constructor
  · exact clientRun_silent ids s
  · intro h r hr
    rw [h, clientRun_good] at hr
    exact (List.mem_replicate.mp hr).2

/-- … and the first report is made exactly at the first id that is not `last + 1`
(`MissedChange { expected, got }`), for every sequence: a well-formed prefix of any length, then an
id `x` that does not continue it, then anything. -/
theorem client_detects_first (s k x : Nat) (rest : List Nat) (hx : x ≠ s + k + 1) :
    clientRun (some s) (idsFrom s (s + k) ++ x :: rest) =
      List.replicate k none ++ some (s + k + 1, x) :: clientRun (some (s + k)) rest := by
  rw [clientRun_good_append]
  simp only [clientRun, handleChange]
  have : s + k + 1 ≠ x := fun h => hx h.symm
  simp [this]

/-! ### the hypotheses are satisfiable, the statements say something -/

/-- a schedule with a race: two changes sent, committed and published right after the snapshot
read (both buffered; the first buffered id is `last + 1`, so the log is re-read); reads inside the
log, hand-over, then live forwarding of a third change -/
def demoSchedule : List Act :=
  [.main, .main, .emit, .emit, .commit, .publish, .publish, .qrecv, .qrecv, .main, .main, .main, .main, .main,
   .main, .qcancel, .main, .main, .main, .emit, .commit, .publish, .main]

example : SchedOk {} ({}, attach {} .anew) demoSchedule := by decide +kernel

example : (run {} ({}, attach {} .anew) demoSchedule).2.out
    = [.rows 0, .eoq 0, .change 1, .change 2, .change 3] := by decide +kernel

example : (run {} ({}, attach {} .anew) demoSchedule).2.handed = true := by decide +kernel

example : EnvOk {} := by simp [EnvOk]

/-- an uncommitted batch: the first buffered change is `last + 1` and never committed → five
re-reads, then the error event and the end of the stream -/
example : (run {} ({ sent := 3, committed := 3, published := 3 }, attach { sent := 3, committed := 3, published := 3 } .anew)
    [.main, .main, .emit, .publish, .qrecv, .main, .main, .main, .main, .main, .main, .main, .main]).2.out
    = [.rows 3, .eoq 3, .error, .closed] := by decide +kernel

/-- the queue overflows (capacity 2 here): the buffered changes are delivered, then the error -/
example : (run { qcap := 2 } ({}, attach {} .skip)
    [.main, .emit, .emit, .emit, .commit, .publish, .publish, .publish, .qrecv, .qrecv, .qrecv,
     .main, .main, .main, .main, .main, .main, .main, .main, .main]).2.out
    = [.change 1, .change 2, .change 3, .error, .closed] := by decide +kernel

example : clientRun (some 3) [4, 5, 7, 8, 6] = [none, none, some (6, 7), some (6, 8), none] := by decide +kernel
example : clientRun (some 5) [6, 6, 7] = [none, some (7, 6), none] := by decide +kernel

end Corro.CatchUp
