/-
C01 — the protocol-level theorems of `Props/C01Cluster.lean` WITHOUT restriction R1: changesets reach
`process_multiple_changes` in BATCHES of several changesets of several actors.  Property theorems
and the concrete runs they are shown on.  The model is `Model/ClusterSysBatch.lean`; the invariant and
its preservation are proved once for runs with and without crashes (`Lemmas/ClusterFull*.lean`,
`Lemmas/Cluster{ReachInv,Session,Conv}.lean`): a crash-free run through clean states is a run in the
sense of `Props/C01ClusterFull.lean` in which every node is alive.

The batched cluster model (`ClusterSys.stepB`) has the state of `ClusterSys` (nodes, global log `L`,
ghost received-lists `R i`) and the steps

* `write i stmts`, `kill i`, `restart i` — as in `ClusterSys.step`;
* `deliverOrigins i chunks` — node `i` receives, in ONE call `Node.deliver batch`, the original chunks
  `(site, ver, lo, hi)` listed: several chunks of several transactions of several sites, any order,
  repeats allowed (each with the original `last_seq`; entries that name no transaction of the log or
  no range inside `0..=last_seq` are dropped);
* `syncB i j batches` — a sync session: the server's answers are computed once (`answers`, as in the
  one-per-batch model); the client then runs one `Node.deliver` per element of `batches`, each batch
  being any list of picks — an answer by index (any sub-list, any order, repeats, inside a batch and
  across batches), or an original chunk that arrives by broadcast at the same time.

`Node.deliver batch` is the model of the WHOLE of `process_multiple_changes` (`Model/Node.lean`):
de-duplication of the batch, the first pass dropping what is known, per actor one pass with the
`seen` map against the bookkeeping as of BEFORE the batch, the in-memory update after the commit
(`insert_db` of all processed versions, then `insert_partial` / removal of stale partials), the clear
jobs and the applies after the whole batch.

Two classes of runs: `ReachB` (any steps, kill / restart included; `store_from_log`, `received_set`)
and `ReachLiveB` (no kill / restart, through `clean` states; everything from `held_inv` on).

A batch is NOT simulated by singleton deliveries — that is false
(`batch_is_no_sequence_of_singletons_counterexample`, `empty_after_chunk_dropped_counterexample`).
At node level the invariant (`NInv`, `LInv` with `held_inv`) is shown preserved by `n.deliver batch`
for an ARBITRARY batch of changesets satisfying `ChunkOK` (`batch_preserves_inv`), through a
generalised invariant that holds at every point inside the call (`GI` of `Lemmas/ClusterBatchGI`,
proved in the form `Full.GI` of `Lemmas/ClusterFullGI`).  The theorems about `ReachLiveB` runs are read off
`Full.reachF_inv`, not off `batch_preserves_inv`.

RESTRICTIONS (R2–R6 of `Props/C01Cluster.lean`; not R1):
R2 `LogOK c.log` (no re-insertion of a deleted row), R3 `OpOKB` (the local write path agrees with
merging its own change list), R4 (`held_inv`, convergence; `ReachLiveB`) no kill / restart and the run
passes only through `clean` states, R5 (convergence) `NoTies`, R6 (liveness) fairness is a HYPOTHESIS, and a
session counts as LOSSLESS (`LosslessB`) when the client's batches contain answers of the server
only — every answer in at least one batch, any split into batches, any order, repeats — and NO
broadcast chunk.  The last clause is necessary: `empty_after_chunk_dropped_counterexample` (an
`Empty` answer that shares a batch with an earlier broadcast chunk of its version is dropped inside
the transaction, the version stays partial until the next round).
-/
import Corro.Lemmas.ClusterConv
import Corro.Props.C01Cluster

namespace Corro.ClusterSys
open Corro.Crdt Corro.Node

/-! ### 0. one batch, node level -/

/-- **the ghost list of a batch is exact** (any node state, any batch): `n.deliver batch` merges
exactly `mergedByBatch n batch` — the complete changesets applied inside the transactions, per actor
in batch order, then the buffered rows of the versions applied after the batch — in that order,
and nothing else. -/
theorem received_set_exact_batch (n : Node) (batch : List Item) :
    (n.deliver batch).db = mergeAll n.db (mergedByBatch n batch) :=
  mergedByBatch_spec n batch

/-- **one batch preserves the full node invariant.**  Let `n` be an alive node satisfying the node
invariant `FullInv L n R` (store = merge of the ghost list `R` ⊆ log; bookkeeping sound; every
received seq range backed by buffered rows or dominated changes; `held_inv`: every change of a
version booked as held is in `R` or dominated).  Let `batch` be ANY list of changesets each of which
satisfies `ChunkOK L` (what original chunks and everything a clean reachable server sends satisfy):
several actors, several versions per actor, complete changesets, incomplete chunks of the same
version in any order and with different `last_seq`, `Empty` ranges, duplicates.  Then
`n.deliver batch` satisfies the invariant with the ghost list extended by `mergedByBatch n batch`.

In particular no version is booked as held by a batch unless every non-dominated change of it was
merged — the `seen` map, the bookkeeping frozen at the start of the batch, the deferred clear jobs
and the deferred applies cannot produce a wrongly held version. -/
theorem batch_preserves_inv {L : Log} {n : Node} {R : List Chg} (h : FullInv L n R) (hL : LogOK L)
    (batch : List Item) (hck : ∀ it ∈ batch, ChunkOK L it) :
    FullInv L (n.deliver batch) (mergedByBatch n batch ++ R) :=
  ⟨ninv_deliverB h.1 hL (fun it hit => chunkOK_changes hL (hck it hit)), Full.linv_deliverB h.1 h.2 hL hck⟩

/-! ### 1. nothing is invented -/

/-- **`store_from_log`, batched.**  In EVERY reachable state of the batched cluster model (any steps,
including kill / restart; R2, R3) every live entry of every node's `crsql_changes` is literally a
change of some transaction of the global log, and so is every buffered row.

Without R2 the statement is false (`held_inv_needs_no_reinsertion_counterexample`). -/
theorem store_from_log_batch_partial {k : Nat} {c : Cluster} (h : ReachB k c) (hL : LogOK c.log) (i : Nat)
    (n : Node) (hi : c.nodes[i]? = some n) :
    (∀ e ∈ n.db.changes, e ∈ c.log.all) ∧ (∀ e ∈ n.buf, e ∈ c.log.all) := by
  have hN := (reachB_ninv h hL).node i n hi
  exact ⟨fun e he => hN.rsub e (hN.store.lit.mem he), hN.bufsub⟩

/-- the same, read on the stored rows -/
theorem no_invented_values_batch_partial {k : Nat} {c : Cluster} (h : ReachB k c) (hL : LogOK c.log)
    (i : Nat) (n : Node) (hi : c.nodes[i]? = some n) :
    ∀ r ∈ n.db.rows,
      (∃ ch ∈ c.log.all, ch.tbl = r.tbl ∧ ch.pk = r.pk ∧ ch.cl = r.cl) ∧
      ∀ l ∈ r.cells, ∃ ch ∈ c.log.all, ch.tbl = r.tbl ∧ ch.pk = r.pk ∧ ch.cid = l.cid ∧
        ch.val = l.val ∧ ch.colv = l.clk.colv ∧ ch.cl = r.cl ∧ ch.site = l.clk.site ∧
        ch.dbv = l.clk.dbv ∧ ch.seq = l.clk.seq := by
  intro r hr
  have hN := (reachB_ninv h hL).node i n hi
  constructor
  · obtain ⟨ch, hch, h1, h2⟩ := hN.store.inv.row_prov (findRow_of_mem hN.store.nodup hr)
    exact ⟨ch, hN.rsub ch hch, h1, h2⟩
  · intro l hl
    exact ⟨_, hN.rsub _ ((hN.store.lit r hr).cells l hl), rfl, rfl, rfl, rfl, rfl, rfl, rfl, rfl, rfl⟩

/-! ### 2. the received set -/

/-- **`received_set`, batched.**  In every reachable state of the batched model the store of node `i`
is a merge of exactly the set `R i` of changes it has merged so far (`Inv`), and `R i` consists of
changes of the log. -/
theorem received_set_batch_partial {k : Nat} {c : Cluster} (h : ReachB k c) (hL : LogOK c.log) (i : Nat)
    (n : Node) (hi : c.nodes[i]? = some n) :
    Inv n.db (c.R i) ∧ n.db.NoDup ∧ ∀ e ∈ c.R i, e ∈ c.log.all := by
  have hN := (reachB_ninv h hL).node i n hi
  exact ⟨hN.store.inv, hN.store.nodup, hN.rsub⟩

/-! ### 3. `held_inv` -/

/-- **`held_inv`, batched (the core).**  In every state of the batched cluster model reachable under
R2–R4: if node `i` books `(a, v)` as held then every change `ch` of the transaction `L(a, v)` is in
`R i` — merged into the node's store — or is dominated in the log (`Dom`).

Preserved by every step, the delivery steps handing whole BATCHES to `process_multiple_changes`:
several original chunks of several transactions in one batch, several answers of a sync session in
one batch (any split of the session into consecutive batches, loss / duplication / reordering inside
and across batches), answers and broadcast chunks mixed in one batch.

With kill / restart between the steps: `held_inv_full_partial` (`Props/C01ClusterFull.lean`).  Without R2
it is false (`held_inv_needs_no_reinsertion_counterexample`). -/
theorem held_inv_batch_partial {k : Nat} {c : Cluster} (h : ReachLiveB k c) (hL : LogOK c.log) (i : Nat)
    (n : Node) (hi : c.nodes[i]? = some n) (a v : Nat) (hh : Held n a v) :
    ∀ ch ∈ c.log.get a v, ch ∈ c.R i ∨ Dom c.log.all ch :=
  ((Full.reachF_inv (Full.reachF_of_reachLiveB h) hL).node i n hi).2.held a v hh

/-- **the relay lemma**, batched: what a node that holds `(a, v)` serves for it — its live entries
attributed to `(a, v)` — contains every change of `L(a, v)` that is not dominated -/
theorem relay_serves_nondominated_batch_partial {k : Nat} {c : Cluster} (h : ReachLiveB k c)
    (hL : LogOK c.log) (j : Nat) (n : Node) (hj : c.nodes[j]? = some n) (a v : Nat) (hh : Held n a v) :
    ∀ ch ∈ c.log.get a v, ch ∈ n.live a v ∨ Dom c.log.all ch := by
  have := (Full.reachF_inv (Full.reachF_of_reachLiveB h) hL).node j n hj
  exact fun ch hch => Crash.live_covers this.1 this.2 hL hh hch

/-- everything a server sends in a session from a clean state of the batched model satisfies
`ChunkOK` -/
theorem served_chunks_ok_batch_partial {k : Nat} {c : Cluster} (h : ReachLiveB k c) (hL : LogOK c.log)
    (hcl : c.clean = true) (j : Nat) (nj : Node) (hj : c.nodes[j]? = some nj) (ni : Node) :
    ∀ it ∈ answers ni nj, ChunkOK c.log it := by
  have := (Full.reachF_inv (Full.reachF_of_reachLiveB h) hL).node j nj hj
  exact fun it hit => Crash.chunkOK_answers this.1 this.2 hL (clean_node hcl hj) hit

/-! ### 4. convergence at quiescence -/

/-- **`converged_at_quiescence`, batched.**  In a state of the batched cluster model reachable under
R2–R4 in which every node holds every transaction of the log, every node shows the view that is the
specification of the set of ALL changes of the log, provided the log has no ties (R5) and is
incarnation-complete (`CompleteStrong`). -/
theorem converged_at_quiescence_batch_partial {k : Nat} {c : Cluster} (h : ReachLiveB k c)
    (hL : LogOK c.log) (hnt : NoTies c.log.all) (hcs : CompleteStrong c.log.all) (hq : AllHeld c) (i : Nat)
    (n : Node) (hi : c.nodes[i]? = some n) : view n.db = spec c.log.all :=
  Full.converged_node (Full.reachF_of_reachLiveB h) hL hnt hcs i n hi (hq i n hi)

/-- **all replicas agree**, batched -/
theorem replicas_agree_at_quiescence_batch_partial {k : Nat} {c : Cluster} (h : ReachLiveB k c)
    (hL : LogOK c.log) (hnt : NoTies c.log.all) (hcs : CompleteStrong c.log.all) (hq : AllHeld c)
    (i j : Nat) (ni nj : Node) (hi : c.nodes[i]? = some ni) (hj : c.nodes[j]? = some nj) :
    view ni.db = view nj.db := by
  rw [converged_at_quiescence_batch_partial h hL hnt hcs hq i ni hi,
    converged_at_quiescence_batch_partial h hL hnt hcs hq j nj hj]

/-- `converged_at_quiescence`, batched, with quiescence read off the bookkeeping ("all heads equal
the log's, no needs, no partials") -/
theorem converged_when_quiescent_batch_partial {k : Nat} {c : Cluster} (h : ReachLiveB k c)
    (hL : LogOK c.log) (hnt : NoTies c.log.all) (hcs : CompleteStrong c.log.all) (hq : Quiescent c) (i : Nat)
    (n : Node) (hi : c.nodes[i]? = some n) : view n.db = spec c.log.all :=
  converged_at_quiescence_batch_partial h hL hnt hcs (allHeld_of_quiescent hL hq) i n hi

/-! ### 5. liveness under a fairness hypothesis -/

/-- **what is held stays held**, one batch: delivering any batch of changesets satisfying `ChunkOK` to
an alive node satisfying the node invariant loses nothing the node holds -/
theorem batch_keeps_held {L : Log} {n : Node} {R : List Chg} (h : FullInv L n R) (hL : LogOK L)
    (batch : List Item) (hck : ∀ it ∈ batch, ChunkOK L it) (a v : Nat) (hh : Held n a v) :
    Held (n.deliver batch) a v :=
  Full.deliverB_held_mono (Full.gi_of_linv h.1 h.2) h.2.sorted h.2.alive hL hck hh

/-- **`sync_round_progress`, batched.**  From a clean state of a cluster reachable in the batched
model under R2–R4, one LOSSLESS session of client `i` with server `j` — the client's batches contain
answers of the server only, and every answer is in at least one batch (`LosslessB`: ANY split of the
session into batches, any order inside and across batches, repeats allowed) — leaves `i` holding
every version of every actor other than `i` itself that `j` holds, and everything `i` held before.

Batch-specific content: a version is settled by a complete changeset or an `Empty` although the
bookkeeping the changesets are checked against is frozen at the start of the batch; a partial grows
by every chunk of the batch although the `seen` map only remembers the last one; the apply of a
version completed in the batch runs after the batch.

Not covered (and false, `empty_after_chunk_dropped_counterexample`): sessions whose batches also
contain broadcast chunks. -/
theorem sync_round_progress_batch_partial {k : Nat} {c : Cluster} (h : ReachLiveB k c) (hL : LogOK c.log)
    (hcl : c.clean = true) {i j : Nat} (hij : i ≠ j) {ni nj : Node} (hi : c.nodes[i]? = some ni)
    (hj : c.nodes[j]? = some nj) {batches : List (List Pick)} (hless : LosslessB (answers ni nj) batches) :
    ∃ ni', (stepB c (.syncB i j batches)).nodes[i]? = some ni' ∧
      (∀ a v, a ≠ i → 1 ≤ v → Held nj a v → Held ni' a v) ∧ (∀ a v, Held ni a v → Held ni' a v) := by
  obtain ⟨ni', h1, _, h2⟩ := Full.sync_step_progressF (Full.reachF_of_reachLiveB h) hL hij hi hj (clean_node hcl hj)
    (Full.allAlive_of_reachLiveB h i ni hi) hless.covers
  exact ⟨ni', h1, h2⟩

/-- **every node always holds its own versions**, batched model -/
theorem origin_holds_own_batch_partial {k : Nat} {c : Cluster} (h : ReachLiveB k c) (hL : LogOK c.log)
    (i : Nat) (n : Node) (hi : c.nodes[i]? = some n) (v : Nat) (h1 : 1 ≤ v) (h2 : v ≤ c.log.head i) :
    Held n i v :=
  (((Full.reachF_own (Full.reachF_of_reachLiveB h) hL).node i n hi).own v h1 h2).held

/-- **`eventual_convergence`, batched.**  Let `c` be reachable in the batched model under R2–R4 with a
well-formed log without ties that is incarnation-complete.  Writes stop; the cluster runs ANY schedule
`ops` of lossless sync sessions, each from a clean state and each processed by its client in any
split into batches (`LosslessRunB`), that contains for every ordered pair of distinct nodes `(i, a)`
at least one session `i ← a` (`hcov`).  Then the log is unchanged, every node holds every version of
it, and every node shows the specification of all acknowledged changes: all replicas agree.

The existence of such a schedule is the fairness ASSUMPTION of C01's liveness (R6). -/
theorem eventual_convergence_batch_partial {k : Nat} {c : Cluster} (h : ReachLiveB k c) (hL : LogOK c.log)
    (hnt : NoTies c.log.all) (hcs : CompleteStrong c.log.all) (ops : List OpB) (hrun : LosslessRunB c ops)
    (hcov : ∀ i a, i < k → a < k → i ≠ a → ∃ batches, OpB.syncB i a batches ∈ ops) :
    (runB c ops).log = c.log ∧ AllHeld (runB c ops) ∧
    ∀ (i : Nat) (n : Node), (runB c ops).nodes[i]? = some n → view n.db = spec c.log.all :=
  have hc := Full.eventual_convergence (Full.reachF_of_reachLiveB h) hL hnt hcs (Full.allAlive_of_reachLiveB h) ops
    hrun.covers hcov
  ⟨hc.1, fun i n hi => (hc.2 i n hi).1, fun i n hi => (hc.2 i n hi).2⟩

/-! ### concrete runs (non-vacuity) and counterexamples

Field order of `Chg`: `tbl pk cid val colv cl site dbv seq`. -/

namespace ExB

/-- Three nodes.  Node 0 inserts row `t/1` (version 1, seqs 0..1), updates `a` twice (versions 2 and
3; version 2 is then entirely dominated) and inserts row `t/2` (version 4, seqs 0..1).  Node 1 receives
all four versions as ONE batch of original chunks (plus a chunk of a transaction that does not exist,
which is dropped).  Node 2 then syncs with node 1, whose answers are: version 4 complete, version 3
complete, version 1 complete (only `b@1` is live), `Empty` for version 2. -/
def opsD : List OpB := [
  .write 0 [.ins "t" "1" [("a", .int 1), ("b", .int 2)]],
  .write 0 [.upd "t" "1" [("a", .int 7)]],
  .write 0 [.upd "t" "1" [("a", .int 8)]],
  .write 0 [.ins "t" "2" [("a", .int 5), ("b", .int 6)]],
  .deliverOrigins 1 [(0, 4, 0, 1), (0, 1, 0, 1), (0, 3, 0, 0), (0, 2, 0, 0), (0, 9, 0, 0)]]

/-- the client's single batch: a complete changeset (answer 1 = version 3), two chunks of another
version (version 4, by broadcast, second half first), an `Empty` (answer 3 = version 2), a duplicate
(answer 1 again), and another complete changeset (answer 2 = version 1) -/
def batchD : List Pick := [.ans 1, .orig 0 4 1 1, .orig 0 4 0 0, .ans 3, .ans 1, .ans 2]

def cD : Cluster := runB (Cluster.init 3) opsD

def cD2 : Cluster := runB (Cluster.init 3) (opsD ++ [.syncB 2 1 [batchD]])

set_option maxRecDepth 100000 in
/-- the server's answers, and the batch as the client's `process_multiple_changes` receives it -/
example : answers (Ex.nodeOf cD 2) (Ex.nodeOf cD 1) =
      [Item.full 0 4 0 1 1 [⟨"t", "2", "a", .int 5, 1, 1, 0, 4, 0⟩, ⟨"t", "2", "b", .int 6, 1, 1, 0, 4, 1⟩],
       Item.full 0 3 0 0 0 [⟨"t", "1", "a", .int 8, 3, 1, 0, 3, 0⟩],
       Item.full 0 1 0 1 1 [⟨"t", "1", "b", .int 2, 1, 1, 0, 1, 1⟩],
       Item.empty 0 2 2] ∧
    pickBatch cD.log (answers (Ex.nodeOf cD 2) (Ex.nodeOf cD 1)) batchD =
      [Item.full 0 3 0 0 0 [⟨"t", "1", "a", .int 8, 3, 1, 0, 3, 0⟩],
       Item.full 0 4 1 1 1 [⟨"t", "2", "b", .int 6, 1, 1, 0, 4, 1⟩],
       Item.full 0 4 0 0 1 [⟨"t", "2", "a", .int 5, 1, 1, 0, 4, 0⟩],
       Item.empty 0 2 2,
       Item.full 0 3 0 0 0 [⟨"t", "1", "a", .int 8, 3, 1, 0, 3, 0⟩],
       Item.full 0 1 0 1 1 [⟨"t", "1", "b", .int 2, 1, 1, 0, 1, 1⟩]] := by decide +kernel

set_option maxRecDepth 100000 in
set_option synthInstance.maxSize 4096 in
/-- the run satisfies R3 and R4 at every step, its log satisfies R2 and R5 and is
incarnation-complete; after the batch node 2 holds all four versions (no needs, no partials, no
rows), and what the batch merged — the ghost list — is: versions 3 and 1 inside the transaction, then
the two buffered rows of version 4 by the apply after the batch -/
example : runOKB (Cluster.init 3) (opsD ++ [.syncB 2 1 [batchD]]) ∧ LogOK cD2.log ∧ NoTies cD2.log.all ∧
    CompleteStrong cD2.log.all ∧
    Ex.books cD2 1 = [(0, 4, [], [])] ∧ Ex.books cD2 2 = [(0, 4, [], [])] ∧
    (Ex.nodeOf cD2 2).seqRows = [] ∧ (Ex.nodeOf cD2 2).buf = [] ∧
    cD2.R 2 = [⟨"t", "1", "a", .int 8, 3, 1, 0, 3, 0⟩, ⟨"t", "1", "b", .int 2, 1, 1, 0, 1, 1⟩,
      ⟨"t", "2", "a", .int 5, 1, 1, 0, 4, 0⟩, ⟨"t", "2", "b", .int 6, 1, 1, 0, 4, 1⟩] := by decide +kernel

theorem nodeOf_some {c : Cluster} {i : Nat} (h : (c.nodes[i]?).isSome = true) :
    c.nodes[i]? = some (Ex.nodeOf c i) := by
  unfold Ex.nodeOf
  cases hn : c.nodes[i]? with
  | none => rw [hn] at h; cases h
  | some n => rfl

theorem cD2_reach : ReachLiveB 3 cD2 := reachLiveB_run ReachLiveB.init _ (by decide +kernel)

/-- `held_inv_batch_partial` applied to that run: node 2 holds version `(0, 2)` — booked by the
`Empty` of the batch — and indeed its only change `a = 7` is not in `R 2` but dominated (by `a = 8`) -/
example : ∀ ch ∈ cD2.log.get 0 2, ch ∈ cD2.R 2 ∨ Dom cD2.log.all ch :=
  held_inv_batch_partial cD2_reach (by decide +kernel) 2 (Ex.nodeOf cD2 2) (nodeOf_some (by decide +kernel)) 0 2 (by decide +kernel)

set_option maxRecDepth 100000 in
set_option synthInstance.maxSize 4096 in
/-- … and all three nodes show the same rows: `t/1` with `a = 8` (column version 3), `b = 2`, and
`t/2` with `a = 5` -/
example : (view (Ex.nodeOf cD2 0).db "t" "1").cell "a" = some (.int 8, 3) ∧
    (view (Ex.nodeOf cD2 1).db "t" "1").cell "a" = some (.int 8, 3) ∧
    (view (Ex.nodeOf cD2 2).db "t" "1").cell "a" = some (.int 8, 3) ∧
    (view (Ex.nodeOf cD2 2).db "t" "1").cell "b" = some (.int 2, 1) ∧
    (view (Ex.nodeOf cD2 2).db "t" "2").cell "a" = some (.int 5, 1) ∧
    (spec cD2.log.all "t" "1").cell "a" = some (.int 8, 3) := by decide +kernel

/-! #### liveness, concretely -/

/-- stop after node 1 has received everything (node 2 knows nothing) and let node 1 delete row `t/2`.
The examples below then run ONE round of sessions over all ordered pairs (`allPairsB 3 8`), every client
processing the answers of its session in two batches (odd-numbered answers in reverse order, then the
even-numbered ones) -/
def opsF : List OpB := opsD ++ [.write 1 [.del "t" "2"]]

def cF : Cluster := runB (Cluster.init 3) opsF

theorem cF_reach : ReachLiveB 3 cF := reachLiveB_run ReachLiveB.init opsF (by decide +kernel)

set_option maxRecDepth 100000 in
set_option synthInstance.maxSize 4096 in
/-- the hypotheses of `eventual_convergence_batch_partial` hold (6 sessions, each lossless from a
clean state); before the round node 2 holds nothing, afterwards every node holds everything and shows
row `t/2` deleted -/
example : LogOK cF.log ∧ NoTies cF.log.all ∧ CompleteStrong cF.log.all ∧
    losslessCheckB cF (allPairsB 3 8) = true ∧
    Ex.books cF 2 = [] ∧
    Ex.books (runB cF (allPairsB 3 8)) 0 = [(0, 4, [], []), (1, 1, [], [])] ∧
    Ex.books (runB cF (allPairsB 3 8)) 1 = [(0, 4, [], []), (1, 1, [], [])] ∧
    Ex.books (runB cF (allPairsB 3 8)) 2 = [(0, 4, [], []), (1, 1, [], [])] ∧
    (view (Ex.nodeOf (runB cF (allPairsB 3 8)) 0).db "t" "2").cl = 2 ∧
    (view (Ex.nodeOf (runB cF (allPairsB 3 8)) 2).db "t" "2").cl = 2 := by decide +kernel

/-- the theorem applied to that run -/
example : ∀ (i : Nat) (n : Node), (runB cF (allPairsB 3 8)).nodes[i]? = some n →
    view n.db = spec cF.log.all :=
  (eventual_convergence_batch_partial cF_reach (by decide +kernel) (by decide +kernel) (by decide +kernel) (allPairsB 3 8)
    (losslessRunB_of_check (by decide +kernel))
    (fun _ _ hi ha hne => ⟨_, allPairsB_covers hi ha hne⟩)).2.2

/-! #### counterexample 1: a batch is not a sequence of singleton deliveries -/

def chg (k : Nat) : Chg := ⟨"t", "1", "a", .int 1, 1, 1, 0, 1, k⟩

/-- three incomplete chunks of version `(0, 1)`: two original chunks (`last_seq = 9`) and the chunk
`[0, 0]` as a relay that has lost the tail of the version serves it (`last_seq = 8`) -/
def iA : Item := .full 0 1 0 1 9 [chg 0, chg 1]
def iB : Item := .full 0 1 5 6 9 [chg 5, chg 6]
def iC : Item := .full 0 1 0 0 8 [chg 0]

/-- all lists of length `k` over `xs` -/
def seqsLen (xs : List Item) : Nat → List (List Item)
  | 0 => [[]]
  | k + 1 => (seqsLen xs k).flatMap (fun l => xs.map (fun x => l ++ [x]))

/-- all lists of length at most 3 over `xs`: every sub-list of a 3-element batch, in every order,
with repetitions -/
def seqsUpTo3 (xs : List Item) : List (List Item) :=
  seqsLen xs 0 ++ seqsLen xs 1 ++ seqsLen xs 2 ++ seqsLen xs 3

/-- delivering the changesets one per batch -/
def singles (n : Node) (its : List Item) : Node := its.foldl (fun n it => n.deliver [it]) n

/-! #### counterexample 2: an `Empty` that shares a batch with an earlier chunk of its version -/

/-- Node 0 inserts row `t/1` (version 1, seqs 0..1) and overwrites both columns (version 2): version 1
is entirely dominated.  Node 1 receives both.  Node 2 syncs with node 1 — answers: version 2 complete,
`Empty` for version 1 — LOSSLESSLY (both answers delivered), but the chunk `[0, 0]` of version 1
arrives by broadcast in the same batch, before the `Empty`. -/
def opsE : List OpB := [
  .write 0 [.ins "t" "1" [("a", .int 1), ("b", .int 2)]],
  .write 0 [.upd "t" "1" [("a", .int 7), ("b", .int 8)]],
  .deliverOrigins 1 [(0, 1, 0, 1), (0, 2, 0, 1)]]

def cE : Cluster := runB (Cluster.init 3) opsE

/-- the same session, mixed batch / the answers alone -/
def cE1 : Cluster := runB (Cluster.init 3) (opsE ++ [.syncB 2 1 [[.orig 0 1 0 0, .ans 0, .ans 1]]])
def cE2 : Cluster := runB (Cluster.init 3) (opsE ++ [.syncB 2 1 [[.ans 0, .ans 1]]])

end ExB

/-- **a batch is NOT a sequence of singleton deliveries** (so R1 cannot be lifted by simulation).  An
alive fresh node receives the batch `[iA, iB, iC]`: three incomplete chunks of version `(0, 1)` — `[0,1]`
and `[5,6]` with `last_seq = 9`, then `[0,0]` with `last_seq = 8`.  Inside the transaction the `seen`
map keeps, per version, only the range of the LAST chunk processed (`[5,6]`), so `iC` is not
recognised as covered by `iA` and is buffered again: its sequence row replaces `iA`'s and carries
`last_seq = 8`.  Delivered one per batch, in ANY order, ANY sub-list, with ANY repetitions (all 40
lists of length ≤ 3 over the three changesets), `iC` is either skipped (after `iA`: the committed
partial covers it) or merged into `iA`'s row with `last_seq = 9`: no such sequence produces the
sequence row `(0, 1, [0,1], last_seq = 8)` the batch produces.  (Both outcomes satisfy the node
invariant; only the simulation fails.) -/
theorem batch_is_no_sequence_of_singletons_counterexample :
    ((Node.fresh 1).deliver [ExB.iA, ExB.iB, ExB.iC]).seqRows = [⟨0, 1, 5, 6, 9⟩, ⟨0, 1, 0, 1, 8⟩] ∧
    (ExB.singles (Node.fresh 1) [ExB.iA, ExB.iB, ExB.iC]).seqRows = [⟨0, 1, 0, 1, 9⟩, ⟨0, 1, 5, 6, 9⟩] ∧
    (ExB.seqsUpTo3 [ExB.iA, ExB.iB, ExB.iC]).length = 40 ∧
    ∀ its ∈ ExB.seqsUpTo3 [ExB.iA, ExB.iB, ExB.iC],
      (⟨0, 1, 0, 1, 8⟩ : SeqRow) ∉ (ExB.singles (Node.fresh 1) its).seqRows := by decide +kernel

set_option synthInstance.maxSize 4096 in
/-- **`sync_round_progress` is FALSE for mixed batches.**  The run `ExB.opsE` followed by a LOSSLESS
session of client 2 with server 1 (both answers delivered: version 2 complete, `Empty` for the
entirely dominated version 1) satisfies R2–R4.  If the answers are the whole batch, node 2 holds both
versions afterwards (`cE2`).  If the original chunk `[0, 0]` of version 1 arrives by broadcast in the
same batch BEFORE the `Empty` (`cE1`), the `Empty` is dropped inside the transaction ("already seen":
the `seen` map has an entry — a partial one — for the version) and node 2 is left with version 1
held only PARTIALLY although the server holds it and every answer was delivered: one more round is
needed.  Safety is not affected (`held_inv_batch_partial` covers `cE1`). -/
theorem empty_after_chunk_dropped_counterexample :
    runOKB (Cluster.init 3) (ExB.opsE ++ [.syncB 2 1 [[.orig 0 1 0 0, .ans 0, .ans 1]]]) ∧
    LogOK ExB.cE1.log ∧ NoTies ExB.cE1.log.all ∧
    answers (Ex.nodeOf ExB.cE 2) (Ex.nodeOf ExB.cE 1) =
      [Item.full 0 2 0 1 1 [⟨"t", "1", "a", .int 7, 2, 1, 0, 2, 0⟩, ⟨"t", "1", "b", .int 8, 2, 1, 0, 2, 1⟩],
       Item.empty 0 1 1] ∧
    Held (Ex.nodeOf ExB.cE 1) 0 1 ∧
    Held (Ex.nodeOf ExB.cE2 2) 0 1 ∧ Held (Ex.nodeOf ExB.cE2 2) 0 2 ∧
    ¬ Held (Ex.nodeOf ExB.cE1 2) 0 1 ∧ Held (Ex.nodeOf ExB.cE1 2) 0 2 ∧
    Ex.books ExB.cE1 2 = [(0, 2, [], [1])] ∧ Ex.books ExB.cE2 2 = [(0, 2, [], [])] := by decide +kernel

end Corro.ClusterSys
