/-
C06 — a crash at any point loses no acknowledged write and no sync obligation.
Property theorems, the predicate `Held` they use and concrete runs, about `Node.restart` / `Node.fromConn` / `Node.knownActors` / `Node.kill`
of the executable node model `Corro/Model/Node.lean` (`from_conn` for every discovered actor,
re-scheduling of fully buffered versions; a crash is `Node.kill`: the durable fields `db`, `seqRows`,
`buf`, `dbv` — and the gap rows, which the model keeps as the committed `needed` — survive, the
apply loop is gone, and `restart` forgets the in-memory bookkeeping).  What the statements are written
in: `Corro/Lemmas/NodeRestart.lean` (`restartTasks`, `applyTask`), `NodeConsistent.lean` (`ItemWF`,
`Consistent`, `NoPending`).

**`Consistent L n`** ("the durable state is consistent with the memory"; `L actor version` is the
true `last_seq` of every version) says, for every actor `a` with in-memory bookkeeping
`b = n.booked a` (`ConsA L n a`, fields of `ConsP` with no clear job pending):
* the partials of `b` have canonical seq ranges and are sorted by version; the actor map is sorted;
* every sequence row of `a` is forward and carries `last_seq = L a ver`; so does every partial;
* a version with sequence rows has a partial whose seq set is exactly the points of its rows;
* a partial without sequence rows is complete (it was applied and its rows cleared);
* every buffered row of `a` lies inside a sequence row of its version;
* `b.max` is the maximum of `a`'s db-version row and the versions that have sequence rows;
* `b.needed` is canonical and no version with a partial is needed or above `b.max`.
It is what `localWrite`, `deliver` (for `ItemWF L` inputs), the background applies and `restart`
maintain (`fresh_consistent`, `localWrite_consistent`, `deliver_consistent`, `restart_consistent`).
-/
import Corro.Lemmas.NodeCrash
import Corro.Lemmas.NodeExFacts

namespace Corro.Node
open Corro.Crdt

/-- **C06 (actor discovery, /repo commit b2a98dc).**  Every actor that has a db-version row, a sequence row, or a
non-empty `needed` set (gap rows) is reloaded at start — and nobody else is. -/
theorem known_actors_complete (n : Node) (a : Nat) :
    a ∈ n.knownActors ↔
      (∃ e ∈ n.dbv, e.1 = a) ∨ (∃ r ∈ n.seqRows, r.site = a) ∨
        (∃ e ∈ n.book, e.1 = a ∧ e.2.needed.isEmpty = false) :=
  mem_knownActors

/-- the discovered actors are listed once each, in increasing order (so the reloaded bookkeeping is
a map) -/
theorem known_actors_sorted (n : Node) : n.knownActors.Pairwise (fun x y => x < y) :=
  knownActors_sorted n

/-- the discovery query as it was before /repo commit b2a98dc: sites with a winning change in the store
(`crsql_site_id` with `ordinal > 0`) ∪ sites with sequence rows -/
def preFixActors (n : Node) : List Nat :=
  dedupSorted (n.db.changes.map (·.site) ++ n.seqRows.map (·.site))

/-- **C06 (the counterexample of DESIGN §4, as an example).**  A node that knows actor 1 only
through a cleared version range has a db-version row for it, no winning change and no sequence row:
`preFixActors` misses the actor, `knownActors` reloads it with the right head. -/
example : Ex.clearedOnly.dbv = [(1, 2)] ∧ preFixActors Ex.clearedOnly = [] ∧
    Ex.clearedOnly.knownActors = [1] ∧ (Ex.clearedOnly.restart).syncState = Ex.clearedOnly.syncState ∧
    Ex.clearedOnly.syncState.heads = [(1, 2)] := by decide +kernel

/-- the same for an actor known only through gap rows and a LOSING version: node 9 holds a newer
value of the row, version 2 of actor 1 loses on merge, version 1 is still needed -/
example :
    let n := ((Node.fresh 9).deliver [Item.full 7 1 0 0 0 [⟨"t", "1", "a", .int 5, 3, 1, 7, 1, 0⟩]]).deliver
      [Item.full 1 2 0 0 0 [⟨"t", "1", "a", .int 1, 1, 1, 1, 2, 0⟩]]
    preFixActors n = [7] ∧ n.knownActors = [1, 7] ∧ (n.booked 1).needed = [(1, 1)] ∧
    (n.restart).syncState = n.syncState := by decide +kernel

/-- **C06 ("Versions that were completely buffered but not yet applied are applied after
restart").**  For ANY node state: `restart` reloads the bookkeeping and then runs one
`process_fully_buffered_changes` per task of `restartTasks n`, where

* the tasks are exactly the `(actor, version)` pairs of discovered actors whose reloaded partial
  is complete;
* each task merges the buffered rows of its version sorted by seq into the store and deletes them
  (`applyTask`), in task order;
* afterwards no sequence row and no buffered row of a task's version is left, and every other
  durable row is kept;
* the apply loop is running again. -/
theorem restart_reschedules (n : Node) :
    (∀ a v, (a, v) ∈ restartTasks n ↔
      a ∈ n.knownActors ∧ ∃ p, (n.fromConn a).partial? v = some p ∧ p.complete = true) ∧
    ((n.restart).db, (n.restart).buf) = (restartTasks n).foldl applyTask (n.db, n.buf) ∧
    (∀ r, r ∈ (n.restart).seqRows ↔
      r ∈ n.seqRows ∧ ∀ t ∈ restartTasks n, ¬ (r.site = t.1 ∧ r.ver = t.2)) ∧
    (∀ c, c ∈ (n.restart).buf ↔
      c ∈ n.buf ∧ ∀ t ∈ restartTasks n, ¬ (c.site = t.1 ∧ c.dbv = t.2)) ∧
    (n.restart).alive = true := by
  obtain ⟨h1, h2, h3⟩ := restart_effect n
  refine ⟨fun a v => mem_restartTasks, h1, ?_, ?_, h3⟩
  · intro r; rw [h2]; exact mem_foldl_filter_rows _ _
  · intro c
    have : (n.restart).buf = ((restartTasks n).foldl applyTask (n.db, n.buf)).2 := by rw [← h1]
    rw [this]; exact applyTask_foldl_buf _ _

/-- **C06 (which versions are re-scheduled).**  A version whose sequence rows (forward, all
carrying the same `last_seq = L`) cover `0..=L` is a task of the restart: its actor is discovered
(it has sequence rows) and `from_conn` rebuilds a complete partial for it. -/
theorem restart_reschedules_covered (n : Node) (a v L : Nat) (hf : n.ActorRowsForward a)
    (hex : ∃ r ∈ n.seqRows, r.site = a ∧ r.ver = v)
    (hlast : ∀ r ∈ n.seqRows, r.site = a → r.ver = v → r.last = L)
    (hcov : ∀ x, x ≤ L → SeqMem n.seqRows a v x) :
    (a, v) ∈ restartTasks n :=
  (mem_restartTasks_rows n a v L hf hlast).mpr ⟨hex, hcov⟩

/-- conversely a version with an uncovered point of `0..=L` is not re-scheduled (it stays partial) -/
theorem restart_not_rescheduled_if_gap (n : Node) (a v L x : Nat) (hf : n.ActorRowsForward a)
    (hlast : ∀ r ∈ n.seqRows, r.site = a → r.ver = v → r.last = L)
    (hx : x ≤ L) (hgap : ¬ SeqMem n.seqRows a v x) : (a, v) ∉ restartTasks n :=
  fun ht => hgap (((mem_restartTasks_rows n a v L hf hlast).mp ht).2 x hx)

/-- the one-task case spelled out: if `(a, v)` is the only fully buffered version, the restarted
store is the old store with the buffered rows of `(a, v)` merged in seq order -/
theorem restart_reschedules_single (n : Node) (a v : Nat) (h : restartTasks n = [(a, v)]) :
    (n.restart).db = mergeAll n.db (sortBySeq (bufOf n.buf a v)) ∧
    (n.restart).buf = n.buf.filter (fun c => !decide (c.site = a ∧ c.dbv = v)) := by
  obtain ⟨h1, _, _⟩ := restart_effect n
  rw [h] at h1
  simp only [List.foldl_cons, List.foldl_nil, applyTask, Prod.mk.injEq] at h1
  exact h1

/-- nothing fully buffered: restart does not touch the durable state -/
theorem restart_reschedules_none (n : Node) (h : restartTasks n = []) :
    (n.restart).db = n.db ∧ (n.restart).buf = n.buf ∧ (n.restart).seqRows = n.seqRows := by
  obtain ⟨h1, h2, _⟩ := restart_effect n
  rw [h] at h1 h2
  simp only [List.foldl_nil, Prod.mk.injEq] at h1 h2
  exact ⟨h1.1, h1.2, h2⟩

namespace Ex

/-- `pending` (`Lemmas/NodeEx.lean`): the node crashed after storing the last chunk of version 3
and before applying it — version 3 is fully buffered (rows `0..=3`, four buffered changes), its
changes are not in the store; restart finds the task, applies it and clears the rows -/
example : pending.alive = false ∧ pending.seqRows = [⟨1, 3, 0, 3, 3⟩] ∧ pending.buf = v3 ∧
    (pending.live 1 3).isEmpty = true ∧ pending.ActorRowsForward 1 ∧
    restartTasks pending = [(1, 3)] ∧
    (pending.restart).live 1 3 = v3 ∧ (pending.restart).seqRows = [] ∧ (pending.restart).buf = [] := by
  unfold Node.ActorRowsForward
  decide +kernel

/-- `srv` holds version 3 only in part: no task, restart leaves the durable state alone and the
rebuilt sync state is the one before -/
example : restartTasks srv = [] ∧ (srv.restart).syncState = srv.syncState := by decide +kernel

end Ex

theorem fresh_consistent' (L : Nat → Nat → Nat) (i : Nat) : Consistent L (Node.fresh i) :=
  fresh_consistent L i

/-- **C06 ("every local transaction it acknowledged …": the local write keeps memory and durable
state together).**  `localWrite` preserves `Consistent`. -/
theorem localWrite_consistent {L : Nat → Nat → Nat} {n n' : Node} {stmts : List Stmt}
    {out : Option (Nat × List Chg)} (hc : Consistent L n) (h : n.localWrite stmts = .ok (n', out)) :
    Consistent L n' := by
  unfold Node.localWrite at h
  split at h
  · cases h
  · simp only [Except.ok.injEq, Prod.mk.injEq] at h
    rw [← h.1]; exact hc
  · rename_i db' ver chs _
    simp only [Except.ok.injEq, Prod.mk.injEq] at h
    obtain ⟨rfl, _⟩ := h
    refine ⟨fun a => ?_, setBooked_sorted (by rw [bumpDbv_book]; exact hc.sorted) _ _⟩
    -- `hdbv`: the db-version row of `a` after `bumpDbv`, carried across `setBooked`
    have hdbv := dbvOf_bumpDbv { n with db := db' } n.id ver a
    rw [← dbvOf_congr (setBooked_dbv _ n.id (({ n with db := db' } : Node).booked n.id |>.insertDb [(ver, ver)]))]
      at hdbv
    by_cases ha : a = n.id
    · subst ha
      rw [if_pos rfl] at hdbv
      exact (hc.actor n.id).record (booked_setBooked_same _ _ _)
        (by rw [setBooked_seqRows, bumpDbv_seqRows]) (by rw [setBooked_buf, bumpDbv_buf]) hdbv
    · rw [if_neg ha] at hdbv
      exact (hc.actor a).transfer ⟨by rw [booked_setBooked_other _ _ _ _ ha, booked_bumpDbv]; rfl,
        fun _ _ => by rw [setBooked_seqRows, bumpDbv_seqRows],
        fun _ _ => by rw [setBooked_buf, bumpDbv_buf], hdbv⟩

/-- **C06 (every remote delivery — complete, partial, empty, any batch, any actors — keeps memory
and durable state together).**  `deliver` (one `process_multiple_changes` batch, its clear jobs
and, on an alive node, its re-applies) preserves `Consistent`, for inputs that are well formed
relative to the versions' true `last_seq` (`ItemWF L`).  The node may be dead or alive. -/
theorem deliver_consistent {L : Nat → Nat → Nat} {n : Node} (hc : Consistent L n) (batch : List Item)
    (hwf : ∀ it ∈ batch, ItemWF L it) : Consistent L (n.deliver batch) :=
  deliver_consistent' hc batch hwf

/-- an alive node on which every complete partial has been applied (`NoPending`) is in the same
situation after `deliver` -/
theorem deliver_noPending {L : Nat → Nat → Nat} {n : Node} (hc : Consistent L n) (batch : List Item)
    (hwf : ∀ it ∈ batch, ItemWF L it) (hal : n.alive = true) (hnp : NoPending n) :
    NoPending (n.deliver batch) :=
  deliver_noPending' hc batch hwf hal hnp

/-- **C06 (restart).**  The restarted node is consistent, alive, and has nothing pending. -/
theorem restart_consistent {L : Nat → Nat → Nat} {n : Node} (hc : Consistent L n) :
    Consistent L n.restart ∧ NoPending n.restart ∧ (n.restart).alive = true :=
  ⟨restart_consistent' hc, restart_noPending hc, (restart_effect n).2.2⟩

/-- a crash (`kill`) does not touch what `Consistent` speaks about -/
theorem kill_consistent {L : Nat → Nat → Nat} {n : Node} (hc : Consistent L n) : Consistent L n.kill :=
  ⟨fun a => (hc.actor a).transfer ⟨rfl, fun _ _ => Iff.rfl, fun _ _ => Iff.rfl, rfl⟩, hc.sorted⟩

/-- **C06 ("the sync state it rebuilds advertises as held only versions whose changes are durably
stored, while every version it lacks is again listed as needed, partial or beyond its head").**
For a consistent node — dead or alive, with or without fully buffered versions waiting for their
apply — the restart rebuilds, actor by actor:
* the same head, and it is the maximum of the actor's db-version row and the versions that have
  sequence rows;
* the same `needed`;
* for a version with sequence rows, the partial that was in memory; for a version without, none
  (in memory there may be a complete, applied partial — it is not advertised either);
and therefore **literally the same sync state** `generate_sync` gave before the crash. -/
theorem restart_roundtrip {L : Nat → Nat → Nat} {n : Node} (hc : Consistent L n) :
    (n.restart).syncState = n.syncState ∧
    ∀ a, ((n.restart).booked a).max = (n.booked a).max ∧
      (dbvOf n a ≤ (n.booked a).max ∧ (∀ r ∈ n.seqRows, r.site = a → r.ver ≤ (n.booked a).max) ∧
        ((n.booked a).max ≤ dbvOf n a ∨ ∃ r ∈ n.seqRows, r.site = a ∧ (n.booked a).max ≤ r.ver)) ∧
      ((n.restart).booked a).needed = (n.booked a).needed ∧
      (∀ v, HasRows n a v → ((n.restart).booked a).partial? v = (n.booked a).partial? v) ∧
      (∀ v, ¬ HasRows n a v → ((n.restart).booked a).partial? v = none) := by
  refine ⟨restart_syncState hc, ?_⟩
  intro a
  rw [restart_booked hc]
  obtain ⟨h1, h2, h3, h4, _, _⟩ := reloaded_spec hc a
  have ha := hc.actor a
  refine ⟨h1, ⟨ha.dbv_le, ha.rows_le, ?_⟩, h2, h3, h4⟩
  rcases ha.max_att with h5 | ⟨r, hr, hs, h5, _⟩
  · exact Or.inl h5
  · exact Or.inr ⟨r, hr, hs, h5⟩

/-- "`m` counts `(a, v)` as held": at or below the head, not needed, not an incomplete partial -/
def Held (m : Node) (a v : Nat) : Prop :=
  v ≤ (m.booked a).max ∧ ¬ RSet.Mem (m.booked a).needed v ∧
    ∀ p, (m.booked a).partial? v = some p → p.complete = true

/-- **C06.**  The restarted node counts a version as held iff the
node before the crash did; and the store after the restart is the store before with the fully
buffered versions (`restartTasks n`) applied — nothing else changed, nothing is dropped. -/
theorem restart_never_claims_unheld {L : Nat → Nat → Nat} {n : Node} (hc : Consistent L n) (a v : Nat) :
    (Held n.restart a v ↔ Held n a v) ∧
    (n.restart).db = ((restartTasks n).foldl applyTask (n.db, n.buf)).1 := by
  obtain ⟨_, hrt⟩ := restart_roundtrip hc
  obtain ⟨h1, _, h2, h3, h4⟩ := hrt a
  refine ⟨?_, by rw [← (restart_effect n).1]⟩
  unfold Held
  rw [h1, h2]
  constructor
  · rintro ⟨k1, k2, k3⟩
    refine ⟨k1, k2, ?_⟩
    intro p hp
    by_cases hr : HasRows n a v
    · exact k3 p (by rw [h3 v hr]; exact hp)
    · exact (hc.actor a).norows_part v p hp hr
  · rintro ⟨k1, k2, k3⟩
    refine ⟨k1, k2, ?_⟩
    intro p hp
    by_cases hr : HasRows n a v
    · exact k3 p (by rw [← h3 v hr]; exact hp)
    · rw [h4 v hr] at hp; cases hp

/-- **C06 ("no sync obligation is lost").**  Every version that the
node needed is needed after the restart; every version it held as an incomplete partial is the same
incomplete partial after the restart (and still has its rows); a version it held as a complete
partial with rows (fully buffered, not applied) is a restart task and has no rows afterwards. -/
theorem restart_keeps_obligations {L : Nat → Nat → Nat} {n : Node} (hc : Consistent L n) (a v : Nat) :
    (RSet.Mem ((n.restart).booked a).needed v ↔ RSet.Mem (n.booked a).needed v) ∧
    (∀ p, (n.booked a).partial? v = some p → p.complete = false →
      ((n.restart).booked a).partial? v = some p ∧ HasRows n a v) ∧
    (∀ p, (n.booked a).partial? v = some p → p.complete = true → HasRows n a v →
      (a, v) ∈ restartTasks n ∧ ¬ HasRows n.restart a v) := by
  obtain ⟨_, hrt⟩ := restart_roundtrip hc
  obtain ⟨_, _, h2, h3, _⟩ := hrt a
  refine ⟨by rw [h2], ?_, ?_⟩
  · intro p hp hinc
    have hr : HasRows n a v := (hc.actor a).rows_of_incomplete hp hinc
    exact ⟨by rw [h3 v hr]; exact hp, hr⟩
  · intro p hp hcomp hr
    refine ⟨(mem_restartTasks_cons hc a v).mpr ⟨hr, p, hp, hcomp⟩, ?_⟩
    exact restart_noPending hc a v p (by rw [h3 v hr]; exact hp) hcomp

/-- **C06 ("a crash placed … between the commit that stores data and the in-memory update / the
apply that follows it").**  For an alive consistent node and ANY batch of well-formed changesets:
killing the node right before the delivery (so that the transaction commits, the clear jobs run,
but the background apply of the versions completed by the batch never happens) and restarting it
afterwards ends in **the same sync state** as the uninterrupted delivery. -/
theorem kill_then_deliver_then_restart {L : Nat → Nat → Nat} {n : Node} (hc : Consistent L n)
    (batch : List Item) (hwf : ∀ it ∈ batch, ItemWF L it) (hal : n.alive = true) :
    (((n.kill).deliver batch).restart).syncState = (n.deliver batch).syncState := by
  have hX := preApply_consistent hc batch hwf
  rw [kill_deliver, restart_syncState (kill_consistent hX), kill_syncState, deliver_eq_preApply,
    preApply_alive hc batch hwf, hal]
  simp only [if_true]
  rw [applyAll_syncState hX]

/-- … and, when the batch consists of changesets of one version `(s, v)` (any chunks of it, in any
order, with duplicates) and nothing was pending before, in **the same store**: the apply that the
crash prevented is re-scheduled by the restart and merges the same buffered rows in the same order.
(For batches completing several versions the two runs apply them in different orders — batch order
vs. `(actor, version)` order — so the stores agree as CRDT states (C01) but this literal equality of
the row lists is only claimed for one version.) -/
theorem kill_then_deliver_then_restart_db {L : Nat → Nat → Nat} {n : Node} (hc : Consistent L n)
    (batch : List Item) (hwf : ∀ it ∈ batch, ItemWF L it) (hal : n.alive = true) (hnp : NoPending n)
    (s v : Nat) (hone : ∀ it ∈ batch, it.site = s ∧ it.versions.1 = v) :
    (((n.kill).deliver batch).restart).db = (n.deliver batch).db := by
  have hX := preApply_consistent hc batch hwf
  have happs : ∀ t ∈ (deliverFold n batch).2.1, t = (s, v) := by
    intro t ht
    obtain ⟨it, hit, h1, h2⟩ := deliverFold_apps_from n batch t ht
    exact Prod.ext (h1 ▸ (hone it hit).1) (h2 ▸ (hone it hit).2)
  have htasks : ∀ t ∈ restartTasks (preApply n batch), t ∈ (deliverFold n batch).2.1 := by
    intro t ht
    obtain ⟨hr, p, hp, hcomp⟩ := (mem_restartTasks_cons hX t.1 t.2).mp ht
    exact preApply_np hc batch hwf hnp t.1 t.2 p hp hcomp hr
  rw [kill_deliver, deliver_eq_preApply, preApply_alive hc batch hwf, hal, if_pos rfl]
  generalize preApply n batch = X at hX htasks ⊢
  -- on the store, the restart of the killed node is the run of its tasks on the node itself
  have hL : (X.kill.restart).db = (applyAll X (restartTasks X)).db :=
    congrArg Prod.fst ((restart_effect X.kill).1.trans (applyAll_tasks X (restartTasks X)
      (fun t ht => ((mem_restartTasks_cons hX t.1 t.2).mp ht).2)).1.symm)
  rw [hL]
  generalize (deliverFold n batch).2.1 = ap at happs htasks
  by_cases hT : restartTasks X = []
  · -- nothing re-scheduled: `(s, v)` has no rows, or no complete partial
    rw [hT]
    refine (Inert.applyAll_db ?_ ap happs).symm
    by_cases hr : HasRows X s v
    · refine Or.inl (fun p hp => ?_)
      cases hcomp : p.complete with
      | false => rfl
      | true =>
        have := (mem_restartTasks_cons hX s v).mpr ⟨hr, p, hp, hcomp⟩
        rw [hT] at this; cases this
    · exact Or.inr (noBuf_of_not_hasRows (hX.actor s) hr)
  · have hap : ap ≠ [] := by
      obtain ⟨t, ht⟩ := List.exists_mem_of_ne_nil _ hT
      exact List.ne_nil_of_mem (htasks t ht)
    rw [applyAll_same_db X s v (fun t ht => happs t (htasks t ht)) hT, applyAll_same_db X s v happs hap]

/-- what the killed node looks like in between: the transaction and the clear jobs happened, the
re-applies did not -/
theorem kill_deliver_is_preApply (n : Node) (batch : List Item) :
    (n.kill).deliver batch = (preApply n batch).kill :=
  kill_deliver n batch

namespace Ex

/-- the hypotheses of `kill_then_deliver_then_restart(_db)` hold for `srv` and the last chunk of
version 3; both runs end with version 3 applied and the same sync state -/
example : Consistent L srv ∧ srv.alive = true ∧ NoPending srv ∧
    (∀ it ∈ [Item.full 1 3 2 3 3 v3hi], ItemWF L it ∧ it.site = 1 ∧ it.versions.1 = 3) ∧
    ((srv.kill).deliver [Item.full 1 3 2 3 3 v3hi]).restart.db.rows =
      (srv.deliver [Item.full 1 3 2 3 3 v3hi]).db.rows ∧
    ((srv.deliver [Item.full 1 3 2 3 3 v3hi]).live 1 3) = v3 := by
  refine ⟨srv_consistent, by decide +kernel, srv_noPending, ?_, by decide +kernel⟩
  intro it hit
  simp only [List.mem_singleton] at hit
  subst hit
  exact ⟨⟨rfl, by decide +kernel, by decide +kernel⟩, rfl, rfl⟩

/-- why `kill_then_deliver_then_restart_db` is stated for one version: a batch that completes
versions 2 and 1 of actor 1 in that order is applied in batch order by the live node and in
`(actor, version)` order by the restart, so the row LISTS of the model differ (same rows, same
sync state, same CRDT view) -/
example :
    let c : String → Nat → Nat → Chg := fun pk v s => ⟨"t", pk, "a", .int 1, 1, 1, 1, v, s⟩
    let base := ((Node.fresh 9).deliver [Item.full 1 1 0 0 1 [c "1" 1 0]]).deliver
      [Item.full 1 2 0 0 1 [c "2" 2 0]]
    let batch := [Item.full 1 2 1 1 1 [c "2b" 2 1], Item.full 1 1 1 1 1 [c "1b" 1 1]]
    (base.deliver batch).db.rows.map (·.pk) = ["2", "2b", "1", "1b"] ∧
    ((base.kill).deliver batch).restart.db.rows.map (·.pk) = ["1", "1b", "2", "2b"] ∧
    (base.deliver batch).syncState = ((base.kill).deliver batch).restart.syncState := by decide +kernel

/-- **Observation (outside `ItemWF`): a relay that lost the tail of a version answers with a
smaller `last_seq`.**  Node 9 holds seqs 0..1 of version 3 (`last_seq = 3`, from the origin); a relay
whose live changes of version 3 end at seq 2 answers the request for `2..=2` with `last_seq = 2`.
In memory the partial keeps `last_seq = 3` and stays incomplete (seq 3 missing); the stored row
`0..=2` now carries `last_seq = 2`, so after a crash `from_conn` rebuilds a COMPLETE partial and the
restart applies seqs 0..2 and advertises version 3 as held — the obligation for seq 3 is gone.
(Harmless for convergence only because seq 3 was overwritten by a later version that the node will
also receive; `restart_keeps_obligations` assumes inputs with the true `last_seq`.) -/
example :
    let n := (srv.kill).deliver [Item.full 1 3 2 2 2 [ch "4" "a" 1 3 2]]
    ((n.booked 1).partial? 3 = some ⟨[(0, 2)], 3⟩) ∧ n.seqRows = [⟨1, 3, 0, 2, 2⟩] ∧
    n.syncState.partialNeed = [(1, [(3, [(3, 3)])])] ∧
    restartTasks n = [(1, 3)] ∧ (n.restart).syncState.partialNeed = [] ∧ (n.restart).seqRows = [] := by
  decide +kernel

end Ex

end Corro.Node
