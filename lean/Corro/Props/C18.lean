/-
C18 — the membership view follows the newest identity of each peer (model `Corro/Model/Members.lean`).
The member table after a notification / sample sequence is compared with `specRun`, the fold keeping
per actor the newest identity heard of and whether the last notification about it was an up.
`Admissible` (no up older than an identity already reported down) is the property's side condition:
nothing else is assumed about timestamps (equal, out of order), addresses or cluster ids.
`NoSharedAddr` (the SWIM layer, foca, keeps one identity per address) is needed only for the
completeness of the address index and the rings read through it.
-/
import Corro.Lemmas.Members
import Corro.Gen.MembersGlue

namespace Corro.Members

/- Every theorem below holds for EVERY bucket table and every (positive) sample window `cfg`; the
values in the source (`Corro/Gen/MembersConsts.lean`) only instantiate the driver. -/
variable {cfg : Cfg}

/-- the table the concrete examples and counterexamples below are evaluated with (fixed here, so that a
retune of the source's `RING_BUCKETS` does not touch them) -/
def demoCfg : Cfg := ⟨[(0, 6), (6, 15), (15, 50), (50, 100), (100, 200), (200, 300)], 20, by decide⟩

/-! `Corro.Gen.MembersGlue` is regenerated from `handle_notifications` (handlers.rs) and `impl Identity for
Actor` (actor.rs) at the start of every check; these theorems are about the tables the source gives now. -/

open Corro.Gen.MembersGlue in
/-- **The glue.**  One iteration of `handle_notifications` — for the dispatch table read off the source —
is exactly the model step of the corresponding op: a `MemberUp(actor)` is `add_member(&actor)`, a
`MemberDown(actor)` is `remove_member(&actor)`, and no other notification (`Rename`, `Active`, `Idle`,
`Defunct`, `Rejoin`, anything newer) changes the member table. -/
theorem notifications_are_ops (m : Members) (id a t c : Nat) :
    applyNotif cfg notifTable m .memberUp id a t c = step cfg m (.up id a t c) ∧
    applyNotif cfg notifTable m .memberDown id a t c = step cfg m (.down id a t c) ∧
    ∀ k, k ≠ .memberUp → k ≠ .memberDown → applyNotif cfg notifTable m k id a t c = m := by
  refine ⟨rfl, rfl, fun k h1 h2 => ?_⟩
  cases k <;> first | rfl | exact absurd rfl h1 | exact absurd rfl h2

/-- the op a notification stands for: ups and downs; every other kind is dropped -/
def opOf : NotifKind × Nat × Nat × Nat × Nat → Option Op
  | (.memberUp, id, a, t, c) => some (.up id a t c)
  | (.memberDown, id, a, t, c) => some (.down id a t c)
  | _ => none

open Corro.Gen.MembersGlue in
/-- A whole stream of notifications through `handle_notifications` is the run of the ops it stands for
(`opOf`). -/
theorem notification_stream_is_run (ns : List (NotifKind × Nat × Nat × Nat × Nat)) (m : Members) :
    ns.foldl (fun m n => applyNotif cfg notifTable m n.1 n.2.1 n.2.2.1 n.2.2.2.1 n.2.2.2.2) m =
      runFrom cfg m (ns.filterMap opOf) := by
  induction ns generalizing m with
  | nil => rfl
  | cons n ns ih =>
    obtain ⟨k, id, a, t, c⟩ := n
    obtain ⟨hu, hd, ho⟩ := notifications_are_ops (cfg := cfg) m id a t c
    rw [List.foldl_cons, ih]
    by_cases h1 : k = .memberUp
    · subst h1; rw [hu]; rfl
    · by_cases h2 : k = .memberDown
      · subst h2; rw [hd]; rfl
      · rw [ho k h1 h2]
        cases k <;> first | rfl | exact absurd rfl h1 | exact absurd rfl h2

open Corro.Gen.MembersGlue in
/-- **Identity renewal.**  With the comparison `win_addr_conflict` has in the source, an identity renewed
at a later wall-clock reading keeps the actor id, address and cluster, wins the address conflict against
the identity it replaces and never loses it back: the renewed identity is the *newest* one in the sense
of sentence 1 (this is what makes the property's side condition — no up older than an identity already
reported down — the behaviour of the SWIM layer; the clock moving forward is the assumption). -/
theorem renewed_identity_wins (a : ActorM) (now : Nat) (h : a.ts < now) :
    ∃ r, renew a now = some r ∧ r.id = a.id ∧ r.addr = a.addr ∧ r.cluster = a.cluster ∧ a.ts < r.ts ∧
      winAddrConflict winCmp r a = true ∧ winAddrConflict winCmp a r = false := by
  refine ⟨{ a with ts := now }, rfl, rfl, rfl, rfl, h, ?_, ?_⟩
  · simp [winAddrConflict, winCmp, Cmp.holds, h]
  · simp [winAddrConflict, winCmp, Cmp.holds]; omega

/-- **C18, sentence 1.**  For every admissible sequence and every actor, what the member table lists
(`address, identity timestamp, cluster`, or nothing) is exactly what the fold by newest identity
says: listed iff the last notification about the newest identity was an up, and then with that
identity's address and cluster. -/
theorem states_follow_newest (ops : List Op) (h : Admissible ops) (id : Nat) :
    view (run cfg ops) id = specView (specRun ops) id := by
  induction ops using snoc_induction generalizing id with
  | nil => rfl
  | snoc ops op ih =>
    rw [run_snoc, specRun_snoc]
    exact agree_step _ _ op (ih (List.pairwise_append.mp h).1)
      (fun _ _ _ _ _ hop he hu => down_record_older (hop ▸ h) he hu) id

/-- The record of the specification fold carries the highest identity timestamp any notification of
the sequence has for that actor ("newest identity"). -/
theorem spec_newest_is_max (ops : List Op) (id : Nat) :
    (get (specRun ops) id).map (·.ts) = maxTs id ops :=
  (spec_ok ops id).newest

/-- … and its `up` flag says whether the last notification about that newest identity was an up. -/
theorem spec_up_is_last (ops : List Op) (id : Nat) (e : Ident) (he : get (specRun ops) id = some e) :
    lastAbout id e.ts ops = some e.up :=
  (spec_ok ops id).last e he

/-- **C18, sentence 1 without the fold.**  An actor is listed iff the last notification about its
highest identity timestamp was an up; it is then listed with that timestamp. -/
theorem listed_iff_newest_up (ops : List Op) (h : Admissible ops) (id : Nat) :
    (∃ st, get (run cfg ops).states id = some st) ↔
      ∃ t, maxTs id ops = some t ∧ lastAbout id t ops = some true := by
  have hv := (states_follow_newest (cfg := cfg) ops h id).trans (specView_eq ..)
  have ok := spec_ok ops id
  constructor
  · rintro ⟨st, hs⟩
    obtain ⟨e, he, hu, _⟩ := record_of_listed hv hs
    exact ⟨e.ts, by rw [← ok.newest, he]; rfl, hu ▸ ok.last e he⟩
  · rintro ⟨t, hm, hl⟩
    rw [← ok.newest] at hm
    cases he : get (specRun ops) id with
    | none => rw [he] at hm; cases hm
    | some e =>
      rw [he] at hm hv
      cases hm
      exact listed_of_record hv (Option.some.inj ((ok.last e he).symm.trans hl))

/-- A listed member carries the highest identity timestamp heard of for it. -/
theorem listed_ts_is_newest (ops : List Op) (h : Admissible ops) (id : Nat) (st : MemberState)
    (hs : get (run cfg ops).states id = some st) : maxTs id ops = some st.ts := by
  obtain ⟨e, he, _, _, ht, _⟩ :=
    record_of_listed ((states_follow_newest (cfg := cfg) ops h id).trans (specView_eq ..)) hs
  rw [← (spec_ok ops id).newest, he, ← ht]; rfl

/-- **"listed with that identity's address and cluster".**  When an identity timestamp determines the
identity (`TsDeterminesIdentity`: same actor and timestamp ⇒ same address and cluster), a listed
member's address and cluster are those of every notification about its newest identity. -/
theorem listed_with_newest_identity (ops : List Op) (h : Admissible ops) (hT : TsDeterminesIdentity ops)
    (id : Nat) (st : MemberState) (hs : get (run cfg ops).states id = some st)
    (o : Op) (ho : o ∈ ops) (a c : Nat) (hn : notif o = some (id, st.ts, a, c)) :
    st.addr = a ∧ st.cluster = c := by
  obtain ⟨e, he, _, ha, ht, hc⟩ :=
    record_of_listed ((states_follow_newest (cfg := cfg) ops h id).trans (specView_eq ..)) hs
  -- the notification that wrote the record and `o` are about the same identity
  obtain ⟨o', ho', hn'⟩ := (spec_ok ops id).origin e he
  have := hT o' ho' o ho
  simp only [agreeOnIdentity, hn', hn, ht] at this
  rw [← ha, ← hc]
  simpa using this

/-- With timestamps that determine identities the fold coincides with the plain "highest timestamp,
first seen on ties" fold. -/
theorem spec_eq_first_seen (ops : List Op) (hT : TsDeterminesIdentity ops) (id : Nat) :
    get (specRun ops) id = get (specRunFirst ops) id := by
  -- both folds satisfy `SpecOK`, which determines the record once a timestamp determines the identity
  have h1 := spec_ok ops id
  have h2 := specFirst_ok ops id
  have hts := h1.newest.trans h2.newest.symm
  rcases he1 : get (specRun ops) id with _ | e1 <;> rcases he2 : get (specRunFirst ops) id with _ | e2 <;>
    rw [he1, he2] at hts
  · cases hts
  · cases hts
  · have hts : e1.ts = e2.ts := Option.some.inj hts
    have hup := (h1.last e1 he1).symm.trans (hts ▸ h2.last e2 he2)
    obtain ⟨o1, hm1, hn1⟩ := h1.origin e1 he1
    obtain ⟨o2, hm2, hn2⟩ := h2.origin e2 he2
    have := hT o1 hm1 o2 hm2
    simp only [agreeOnIdentity, hn1, hn2, hts] at this
    obtain ⟨t1, a1, c1, u1⟩ := e1
    obtain ⟨t2, a2, c2, u2⟩ := e2
    -- same timestamp (`hts`), hence same address and cluster (`this`) and same flag (`hup`)
    simp_all

/-- Without that assumption the code does *not* keep the first-seen address across a down/up of the
same timestamp: it lists the re-announced address (a design choice of the specification, not a defect:
both notifications claim to be the newest identity). -/
theorem first_seen_tie_counterexample :
    view (run demoCfg [.up 1 1 1 0, .down 1 1 1 0, .up 1 2 1 0]) 1 = some (2, 1, 0) ∧
    specView (specRunFirst [.up 1 1 1 0, .down 1 1 1 0, .up 1 2 1 0]) 1 = some (1, 1, 0) := by decide +kernel

/-- The side condition is needed: after `down` about a newer identity the code has forgotten that
identity, so a later (inadmissible) `up` of the older one is listed again. -/
theorem inadmissible_counterexample :
    ¬ Admissible [.up 1 1 1 0, .down 1 1 2 0, .up 1 1 1 0] ∧
    view (run demoCfg [.up 1 1 1 0, .down 1 1 2 0, .up 1 1 1 0]) 1 = some (1, 1, 0) ∧
    specView (specRun [.up 1 1 1 0, .down 1 1 2 0, .up 1 1 1 0]) 1 = none := by decide +kernel

/-- **C18, sentence 2.**  In *every* state (hence every reachable one): an up or a down whose identity
timestamp is older than the listed one changes nothing at all — not the member, not the index, not
the rings — and reports `Ignored` / `removed = false`. -/
theorem older_never_overwrites (m : Members) (id a ts c : Nat) (st : MemberState)
    (hs : get m.states id = some st) (hlt : ts < st.ts) :
    addMember cfg m id a ts c = (m, .ignored) ∧ removeMember m id ts = (m, false) ∧
    step cfg m (.up id a ts c) = m ∧ step cfg m (.down id a ts c) = m := by
  have h1 : addMember cfg m id a ts c = (m, .ignored) := by simp [addMember, hs, hlt]
  have h2 : removeMember m id ts = (m, false) := by
    simp only [removeMember, hs]; rw [if_neg (by omega)]
  exact ⟨h1, h2, by simp [step, h1], by simp [step, h2]⟩

theorem older_ignored_by_spec (sp : Map Ident) (id a ts c : Nat) (e : Ident)
    (he : get sp id = some e) (hlt : ts < e.ts) :
    specStep sp (.up id a ts c) = sp ∧ specStep sp (.down id a ts c) = sp := by
  simp [specStep, he, hlt]

/-- **C18, sentence 2 over sequences.**  In an admissible sequence, a notification (up or down) whose
identity timestamp is older than the newest one already heard of for that actor — whether that newest
identity is currently up or down — leaves the listing of every actor exactly as it was. -/
theorem older_notification_keeps_view (ops : List Op) (op : Op) (h : Admissible (ops ++ [op]))
    (id t a c T : Nat) (hn : notif op = some (id, t, a, c)) (hT : maxTs id ops = some T) (hlt : t < T)
    (id' : Nat) : view (run cfg (ops ++ [op])) id' = view (run cfg ops) id' := by
  rw [states_follow_newest _ h, states_follow_newest _ (List.pairwise_append.mp h).1, specRun_snoc]
  have hm := (spec_newest_is_max ops id).trans hT
  cases he : get (specRun ops) id with
  | none => rw [he] at hm; cases hm
  | some e =>
    rw [he] at hm
    have ht : e.ts = T := Option.some.inj hm
    have := older_ignored_by_spec (specRun ops) id a t c e he (ht ▸ hlt)
    cases op with
    | up i a' t' c' => cases hn; rw [this.1]
    | down i a' t' c' => cases hn; rw [this.2]
    | rtt _ _ => cases hn
    | ring0 _ => cases hn

/-- A notification about one actor never touches the entry of another actor (address, timestamp,
cluster and ring all stay). -/
theorem other_actors_untouched (m : Members) (id a ts c id' : Nat) (hne : id ≠ id') :
    get (step cfg m (.up id a ts c)).states id' = get m.states id' ∧
    get (step cfg m (.down id a ts c)).states id' = get m.states id' :=
  ⟨get_states_addMember_other m id a ts c id' hne, get_states_removeMember_other m id ts id' hne⟩

/-- **Index soundness (unconditional).**  After every sequence, every `by_addr` entry points to a
listed member whose *current* address it is: no stale entry survives an address change or a removal. -/
theorem by_addr_points_to_member (ops : List Op) : IndexSound (run cfg ops) :=
  (indexed_run ops).sound

/-- **`by_addr_consistent`.**  If at no point of the sequence two listed members share an address,
every listed member is indexed under its current address: `by_addr[its addr] = that actor`. -/
theorem by_addr_consistent (ops : List Op) (h : NoSharedAddr cfg ops) : IndexComplete (run cfg ops) := by
  induction ops using snoc_induction with
  | nil => exact nofun
  | snoc ops op ih =>
    obtain ⟨h1, h2⟩ := noSharedAddr_snoc h
    rw [run_snoc] at h2 ⊢
    exact (ih h1).effect h2 (step_effect (indexed_run ops).sound op)

/-- For admissible sequences "no shared address" can be read off the notifications alone: the listed
members have distinct addresses iff the peers whose newest identity is up have. -/
theorem distinct_addrs_iff_spec (ops : List Op) (h : Admissible ops) :
    DistinctAddrs (run cfg ops) ↔
      ∀ i j vi vj, specView (specRun ops) i = some vi → specView (specRun ops) j = some vj →
        vi.1 = vj.1 → i = j := by
  rw [distinct_iff_view (sorted_run ops)]
  simp only [states_follow_newest ops h]

/-- What the real code does when two different actors are up on one address: the second
`NewMember` takes the index entry over; the first stays listed at that address without being
indexed (`IndexComplete` fails), and when the second goes down the entry disappears altogether. -/
theorem by_addr_shared_addr_counterexample :
    (get (run demoCfg [.up 1 1 1 0, .up 2 1 1 0]).states 1 = some ⟨1, 1, 0, none⟩ ∧
     get (run demoCfg [.up 1 1 1 0, .up 2 1 1 0]).byAddr 1 = some 2) ∧
    (get (run demoCfg [.up 1 1 1 0, .up 2 1 1 0, .down 2 1 1 0]).states 1 = some ⟨1, 1, 0, none⟩ ∧
     get (run demoCfg [.up 1 1 1 0, .up 2 1 1 0, .down 2 1 1 0]).byAddr 1 = none) := by decide +kernel

/-- The sample buffer of an address holds its (at most `cfg.cap`) newest samples, newest first. -/
theorem rtts_are_newest_samples (ops : List Op) (a : Nat) :
    (get (run cfg ops).rtts a).getD [] = newestSamples cfg a ops := by
  induction ops using snoc_induction with
  | nil => simp [run, runFrom, init, get, newestSamples, samplesFor]
  | snoc ops op ih =>
    rw [run_snoc]
    unfold newestSamples at ih ⊢
    rw [samplesFor_append]
    cases op with
    | up id a' ts c => rw [step, rtts_addMember, ih]; simp [samplesFor]
    | down id a' ts c => rw [step, rtts_removeMember, ih]; simp [samplesFor]
    | rtt a' ms =>
      rw [step, addRtt, recalc_rtts, get_put]
      by_cases e : a' = a
      · subst e
        simp only [if_pos, Option.getD_some, ih, pushSample, samplesFor, List.reverse_append,
          List.reverse_cons, List.reverse_nil, List.nil_append, List.singleton_append]
        -- pushing onto the window and cutting again is cutting once
        cases cfg.cap with
        | zero => rfl
        | succ n => simp [List.take_take]
      · simp [e, samplesFor, ih]
    | ring0 c => rw [step, ih]; simp [samplesFor]

/-- **Ring invariant (unconditional).**  After every sequence, a listed member to which the index
attributes its current address has the ring of the newest samples of that address: bucket index of
their average, `none` without samples or outside every bucket.  (The ring is recomputed on every
`add_rtt` for the address and when the member is inserted or changes address; in between the
samples of the address do not change, so "at the time of the last recalculation" is "now".) -/
theorem ring_current_if_indexed (ops : List Op) (id : Nat) (st : MemberState)
    (hs : get (run cfg ops).states id = some st) (hb : get (run cfg ops).byAddr st.addr = some id) :
    st.ring = ringOf cfg (newestSamples cfg st.addr ops) := by
  rw [← rtts_are_newest_samples]
  exact (indexed_run ops).ringCurrent id st hs hb

/-- **`ring_from_current_addr`.**  With one identity per address, *every* listed member's ring is the
bucket of the average of the ≤ `cfg.cap` newest samples recorded for its **current** address — samples for
former addresses play no role, and an average outside every bucket gives no ring. -/
theorem ring_from_current_addr (ops : List Op) (h : NoSharedAddr cfg ops) (id : Nat) (st : MemberState)
    (hs : get (run cfg ops).states id = some st) :
    st.ring = ringOf cfg (newestSamples cfg st.addr ops) :=
  ring_current_if_indexed ops id st hs (by_addr_consistent ops h id st hs)

/-- Without "one identity per address" the ring of the member that lost the index entry goes stale:
actor 1 keeps ring `none` although its current address averages 3 ms. -/
theorem ring_shared_addr_counterexample :
    get (run demoCfg [.up 1 1 1 0, .up 2 1 1 0, .down 2 1 1 0, .rtt 1 3]).states 1 = some ⟨1, 1, 0, none⟩ ∧
    ringOf demoCfg (newestSamples demoCfg 1 [.up 1 1 1 0, .up 2 1 1 0, .down 2 1 1 0, .rtt 1 3]) = some 0 := by decide +kernel

/-- **`ring0_targets_sound`.**  After every sequence `ring0(cluster)` returns exactly the addresses of
listed members of that cluster whose ring is 0 — nobody from another cluster, nobody unlisted,
nobody with another or no ring. -/
theorem ring0_targets_sound (ops : List Op) (c a : Nat) :
    a ∈ ring0 (run cfg ops) c ↔
      ∃ id st, get (run cfg ops).states id = some st ∧ st.addr = a ∧ st.cluster = c ∧ st.ring = some 0 := by
  rw [mem_ring0]
  constructor
  · rintro ⟨kv, hkv, h⟩
    exact ⟨kv.1, kv.2, get_of_mem (sorted_run ops) hkv, h⟩
  · rintro ⟨id, st, hs, h⟩
    exact ⟨(id, st), mem_of_get hs, h⟩

/-- **Sentence 3 end to end.**  For admissible sequences with one identity per address, an address is
a priority target for a cluster iff it is the current address of a peer of that cluster whose newest
identity is up and whose newest (≤ `cap`) samples for that address average inside the first bucket of
the table (ring 0; the table of the source is `ringBuckets` in `Corro/Gen/MembersConsts.lean`). -/
theorem ring0_targets_are_near_same_cluster_peers (ops : List Op) (hA : Admissible ops)
    (hN : NoSharedAddr cfg ops) (c a : Nat) :
    a ∈ ring0 (run cfg ops) c ↔
      ∃ id ts, specView (specRun ops) id = some (a, ts, c) ∧
        newestSamples cfg a ops ≠ [] ∧
          inFirstBucket cfg.buckets ((newestSamples cfg a ops).sum / (newestSamples cfg a ops).length) := by
  rw [ring0_targets_sound]
  constructor
  · rintro ⟨id, st, hs, h1, h2, h3⟩
    refine ⟨id, st.ts, ?_, ?_⟩
    · rw [← states_follow_newest (cfg := cfg) ops hA]; simp [view, hs, h1, h2]
    · rw [← ringOf_zero_iff, ← h1, ← ring_from_current_addr ops hN id st hs]; exact h3
  · rintro ⟨id, ts, hv, hr⟩
    rw [← states_follow_newest (cfg := cfg) ops hA] at hv
    simp only [view] at hv
    cases hs : get (run cfg ops).states id with
    | none => simp [hs] at hv
    | some st =>
      simp [hs] at hv
      refine ⟨id, st, hs, hv.1, hv.2.2, ?_⟩
      rw [ring_from_current_addr ops hN id st hs, hv.1]
      exact (ringOf_zero_iff _).mpr hr

/-- a sequence with a stale up, a down about a newer identity (the case of F12a), an address change with
samples for the old and the new address (that of F12b), equal and out-of-order timestamps, two clusters -/
def demo : List Op :=
  [.up 1 1 2 0, .rtt 1 3, .up 2 2 1 0, .up 1 1 1 0, .rtt 2 250, .up 1 3 3 0, .rtt 3 250, .rtt 1 1,
   .down 2 2 4 1, .up 2 2 4 1, .down 1 1 2 0, .ring0 0]

example : Admissible demo ∧ NoSharedAddr demoCfg demo ∧ TsDeterminesIdentity demo := by decide +kernel
example : (run demoCfg demo).states = [(1, ⟨3, 3, 0, some 5⟩), (2, ⟨2, 4, 1, some 5⟩)] ∧
    (run demoCfg demo).byAddr = [(2, 2), (3, 1)] := by decide +kernel
example : specView (specRun demo) 1 = some (3, 3, 0) ∧ specView (specRun demo) 2 = some (2, 4, 1) := by decide +kernel

/-- F12a (the findings are those of DESIGN §9.2): a down about a newer identity removes the member -/
example : view (run demoCfg [.up 1 1 1 0, .down 1 1 2 0]) 1 = none ∧ (run demoCfg [.up 1 1 1 0, .down 1 1 2 0]).byAddr = [] := by
  decide +kernel

/-- F12b: after the address change the new address is indexed, the ring of the old address is
dropped and samples for the new address count (250 ms → ring 5, not a priority target) -/
example : (run demoCfg [.up 1 1 1 0, .rtt 1 1, .up 1 2 2 0, .rtt 2 250]).states = [(1, ⟨2, 2, 0, some 5⟩)] ∧
    (run demoCfg [.up 1 1 1 0, .rtt 1 1, .up 1 2 2 0, .rtt 2 250]).byAddr = [(2, 1)] ∧
    ring0 (run demoCfg [.up 1 1 1 0, .rtt 1 1, .up 1 2 2 0, .rtt 2 250]) 0 = [] := by decide +kernel

/-- F12c: twenty 1000 ms samples after a 1 ms one push the average out of every bucket → no ring -/
example : (run demoCfg (.up 1 1 1 0 :: .rtt 1 1 :: List.replicate 20 (.rtt 1 1000))).states = [(1, ⟨1, 1, 0, none⟩)] ∧
    newestSamples demoCfg 1 (.up 1 1 1 0 :: .rtt 1 1 :: List.replicate 20 (.rtt 1 1000)) = List.replicate 20 1000 := by
  decide +kernel

/-- ring 0 only for the same cluster, and only while the average stays inside the first bucket
(5 and 7 ms average 6) -/
example : ring0 (run demoCfg [.up 1 1 1 0, .up 2 2 1 1, .rtt 1 5, .rtt 2 5, .rtt 2 6]) 0 = [1] ∧
    ring0 (run demoCfg [.up 1 1 1 0, .up 2 2 1 1, .rtt 1 5, .rtt 2 5, .rtt 2 6]) 1 = [2] ∧
    ring0 (run demoCfg [.up 1 1 1 0, .up 2 2 1 1, .rtt 1 5, .rtt 2 5, .rtt 2 7]) 1 = [] := by decide +kernel

end Corro.Members
