/-
C01 — replicas converge under any delivery order, duplication, chunking and loss — the PROTOCOL-level
theorems of `Props/C01Cluster.lean` with BOTH liftings AT ONCE: arbitrary BATCHES (restriction R1 of
that file, lifted alone in `Props/C01ClusterBatch.lean`) AND any number of `kill` / `restart` steps
(first half of R4, lifted alone in `Props/C01ClusterCrash.lean`).  Property theorems and the concrete
runs they are shown on; lemmas: `Lemmas/ClusterFull{GI,Tx,Deliver,Effect}.lean` (one batch on one node),
`Lemmas/ClusterFullReins.lean` (the counterexample to R2), `Lemmas/Cluster{Restart,Write,Own,ReachInv,
Session,Conv}.lean` (kill, restart, local writes; the runs, sessions, convergence).

THE RUNS (`Full.ReachF k c`): ANY sequence of steps of the batched cluster model `ClusterSys.stepB`
(`Model/ClusterSysBatch.lean`) from `k` fresh nodes —

* `write i stmts` (a local transaction; `OpOKB`, which is `OpOK` at write steps, R3);
* `deliverOrigins i chunks` — node `i` receives in ONE `process_multiple_changes` call any list of
  original chunks `(site, ver, lo, hi)` of several transactions of several actors;
* `syncB i j batches` — a sync session: the answers of server `j` are computed once, the client runs
  one `process_multiple_changes` per batch, each batch any list of answers (any sub-list, any order,
  repeats) and of original chunks arriving by broadcast at the same time; the SERVER is clean (R4':
  no sequence row of a version without a buffered row of it; necessary,
  `held_inv_needs_clean_counterexample`);
* `kill i`, `restart i` (the ghost list is extended by `restartMerged`, as in `ClusterSys.step`)

— in any order, any number of times.  Every crash-free run of the batched model is such a run
(`full_runs_subsume_batch_runs`), and every run of the one-changeset-per-batch model with crashes is,
node for node, such a run (`full_runs_subsume_crash_runs`).

WHAT A BATCH DOES ON A KILLED NODE (`Node.deliver`): the transactions commit as always (complete
changesets and `Empty`s are applied inside them, chunks are buffered, the bookkeeping is updated, the
clear jobs run), but the applies the batch schedules do NOT run.  A version whose last missing chunk
arrives in the batch is COMPLETE BUT UNAPPLIED: not `Held`, nothing of it merged; the restart re-applies
it.  The invariant that makes this work merges the generalised invariant of the batch proof (pending
clear jobs / applies inside a batch, virtual bookkeeping) with the crash-tolerant one (third state of
a partial "complete, rows present" on a dead node; `rgot` where `LInv` has `rheld`; `dbv_le`):
`Full.GI` in `Lemmas/ClusterFullGI.lean`.  It is preserved by every step (`Full.reachF_inv`): batches
and crashes together need no restriction beyond those of the two separate liftings ("a batch on a
killed node followed by restart", concretely: `ExFull.opsG`).

RESTRICTIONS (all explicit in the statements; neither R1 nor the first half of R4):
R2 `LogOK c.log` (no re-insertion of a deleted row) — NECESSARY for `held_inv`:
   `held_inv_needs_no_reinsertion_counterexample` (the known finding "relayed-sentinel-shares-seq");
R3 `OpOKB` (`OpOK` at write steps); R4' the server of a sync step is clean; R5 `NoTies` (convergence);
R6 (liveness) fairness is a HYPOTHESIS: after the last write and the last crash / restart, a schedule
   of sessions, each from a clean state and LOSSLESS (`LosslessB`: the client's batches contain answers
   of the server only — no broadcast chunk, necessary: `empty_after_chunk_dropped_counterexample` — and
   every answer is in at least one batch; any split into batches), containing a session `i ← a` for
   every ALIVE node `i` and every other node `a`.  Convergence is claimed for the nodes alive then
   (for all nodes if all have been restarted; necessary:
   `eventual_convergence_needs_restart_counterexample`).
-/
import Corro.Lemmas.ClusterConv
import Corro.Lemmas.ClusterFullReins
import Corro.Props.C01ClusterBatch

namespace Corro.ClusterSys
open Corro.Crdt Corro.Node Corro.ClusterSys.Full

/-! ### 0. the class of runs; one batch, node level -/

/-- every run of the batched model without crashes through clean states (`ReachLiveB`, the runs of
`C01ClusterBatch.lean`) is a run in the sense of this file -/
theorem full_runs_subsume_batch_runs {k : Nat} {c : Cluster} (h : ReachLiveB k c) : ReachF k c :=
  reachF_of_reachLiveB h

/-- every run with crashes of the ONE-CHANGESET-PER-BATCH model (`Crash.ReachC`, the runs of
`C01ClusterCrash.lean`) is, node for node, a run in the sense of this file: a delivery of one changeset
is the batch `[it]`, a session delivering the answers `keep` one at a time is the session with the
batches `[[ans k₁], [ans k₂], …]` (`liftOp`).  The statement says same nodes and same log; in fact the
two runs end in the same cluster state, ghost lists included (`Full.reachF_of_reachC`, by
`step_eq_stepB` of `Lemmas/ClusterStepB.lean`). -/
theorem full_runs_subsume_crash_runs {k : Nat} {c : Cluster} (h : Crash.ReachC k c) :
    ∃ c', ReachF k c' ∧ c'.nodes = c.nodes ∧ c'.log = c.log :=
  ⟨c, reachF_of_reachC h, rfl, rfl⟩

/-- **one batch preserves the full node invariant on ANY node, dead or alive.**  Let `n` satisfy the
crash-tolerant node invariant `Crash.FullK L n R` (store = merge of the ghost list `R` ⊆ log;
bookkeeping sound; a partial is complete-and-applied, or incomplete and backed by its sequence rows,
or — only if `n` is dead — complete with its rows still there; `held_inv`; everything merged belongs
to a fully merged version; db-version rows ≤ heads).  Let `batch` be ANY list of changesets each
satisfying `ChunkOK L`.  Then `n.deliver batch` satisfies the invariant with the ghost list extended by
`mergedByBatch n batch` — on a dead node that is what the transactions merged and NOT the buffered rows
of the versions the batch completed (their applies do not run); those versions are not `Held`. -/
theorem batch_preserves_inv_full {L : Log} {n : Node} {R : List Chg} (h : Crash.FullK L n R) (hL : LogOK L)
    (batch : List Item) (hck : ∀ it ∈ batch, ChunkOK L it) :
    Crash.FullK L (n.deliver batch) (mergedByBatch n batch ++ R) ∧ (n.deliver batch).alive = n.alive :=
  ⟨fullK_deliverB h hL hck, deliverB_alive n batch⟩

/-! ### 1. nothing is invented -/

/-- **`store_from_log`, batches and crashes (R2, R3).**  In EVERY state reachable by any steps of the
batched model, kill / restart included, every live entry of every node's `crsql_changes` is literally
a change of some transaction of the global log, and so is every buffered row.

Without R2 the statement is false: `held_inv_needs_no_reinsertion_counterexample` shows a ghost list /
store entry that is no change of the log. -/
theorem store_from_log_full_partial {k : Nat} {c : Cluster} (h : ReachF k c) (hL : LogOK c.log) (i : Nat)
    (n : Node) (hi : c.nodes[i]? = some n) :
    (∀ e ∈ n.db.changes, e ∈ c.log.all) ∧ (∀ e ∈ n.buf, e ∈ c.log.all) :=
  store_from_log_batch_partial h.reachB hL i n hi

/-- the same, read on the stored rows: the causal length of every stored row is that of a log change
for the row, and every stored cell carries the value, column version and attribution of a log change
of that very cell and incarnation -/
theorem no_invented_values_full_partial {k : Nat} {c : Cluster} (h : ReachF k c) (hL : LogOK c.log)
    (i : Nat) (n : Node) (hi : c.nodes[i]? = some n) :
    ∀ r ∈ n.db.rows,
      (∃ ch ∈ c.log.all, ch.tbl = r.tbl ∧ ch.pk = r.pk ∧ ch.cl = r.cl) ∧
      ∀ l ∈ r.cells, ∃ ch ∈ c.log.all, ch.tbl = r.tbl ∧ ch.pk = r.pk ∧ ch.cid = l.cid ∧
        ch.val = l.val ∧ ch.colv = l.clk.colv ∧ ch.cl = r.cl ∧ ch.site = l.clk.site ∧
        ch.dbv = l.clk.dbv ∧ ch.seq = l.clk.seq :=
  no_invented_values_batch_partial h.reachB hL i n hi

/-! ### 2. the received set -/

/-- **`received_set`, batches and crashes.**  In every reachable state the store of node `i` is a
merge of exactly the set `R i` of changes it has merged so far — inside transactions, by the applies
after a batch, by the re-scheduled applies of a restart — and `R i` consists of changes of the log. -/
theorem received_set_full_partial {k : Nat} {c : Cluster} (h : ReachF k c) (hL : LogOK c.log) (i : Nat)
    (n : Node) (hi : c.nodes[i]? = some n) :
    Inv n.db (c.R i) ∧ n.db.NoDup ∧ ∀ e ∈ c.R i, e ∈ c.log.all :=
  received_set_batch_partial h.reachB hL i n hi

/-! ### 3. `held_inv` -/

/-- **`held_inv`, ALL reachable runs of the batched model with crashes (R2, R3, R4').**  In EVERY
cluster state reachable by any steps — batches of original chunks, sessions processed in batches,
`kill` and `restart`, any order, any number of times, the server of every sync step clean — and for
EVERY node `i`, dead or alive: if node `i` books `(a, v)` as held (`Held`: within the head, not
needed, no partial or a complete AND APPLIED one) then every change `ch` of the transaction `L(a, v)`
is in `R i` — merged into the node's store — or is dominated in the log (`Dom`).

Preserved, beyond what the two separate liftings show, by: a batch of several changesets of several
actors delivered to a KILLED node (complete changesets and `Empty`s settle versions inside the
transactions; chunks — several of one version, in any order — are buffered; a version the batch
completes stays complete-but-unapplied = not held; the clear jobs run); a batch delivered to a node
that already has complete-but-unapplied versions; a restart after such batches (every version whose
rows cover `0..=last_seq` is applied from the buffered rows; every change of it is buffered or
dominated); batches after the restart.

Without R2 it is false: `held_inv_needs_no_reinsertion_counterexample`. -/
theorem held_inv_full_partial {k : Nat} {c : Cluster} (h : ReachF k c) (hL : LogOK c.log) (i : Nat)
    (n : Node) (hi : c.nodes[i]? = some n) (a v : Nat) (hh : Held n a v) :
    ∀ ch ∈ c.log.get a v, ch ∈ c.R i ∨ Dom c.log.all ch :=
  ((reachF_inv h hL).node i n hi).2.held a v hh

/-- **the states of a partial, all reachable runs.**  In every reachable state every partial of every
node is (A) complete and applied (sequence rows gone — the version is held), or (B) incomplete with
sequence rows that contain every received seq, or (C) complete with its sequence rows still there —
and (C) occurs ONLY ON A KILLED NODE: on an alive node every apply scheduled by a batch has run when
the batch is over. -/
theorem partial_states_full_partial {k : Nat} {c : Cluster} (h : ReachF k c) (hL : LogOK c.log) (i : Nat)
    (n : Node) (hi : c.nodes[i]? = some n) (a v : Nat) (p : Partial) (hp : (n.booked a).partial? v = some p) :
    (p.complete = true ∧ ¬ HasRows n a v) ∨
    (p.complete = false ∧ HasRows n a v ∧ ∀ x, RSet.Mem p.seqs x → SeqMem n.seqRows a v x) ∨
    (n.alive = false ∧ p.complete = true ∧ HasRows n a v) :=
  ((reachF_inv h hL).node i n hi).2.part_state a v p hp

/-- **what `restart` does to a node of a reachable state**: the restarted node is alive and NOTHING
is pending on it — every version whose partial is complete has been applied, in particular every
version that a batch completed while the node was killed -/
theorem restart_applies_pending_full_partial {k : Nat} {c : Cluster} (h : ReachF k c) (hL : LogOK c.log)
    (i : Nat) (n : Node) (hi : c.nodes[i]? = some n) :
    (stepB c (.restart i)).nodes[i]? = some n.restart ∧ (n.restart).alive = true ∧
    ∀ a v p, ((n.restart).booked a).partial? v = some p → p.complete = true → ¬ HasRows n.restart a v := by
  have hn := (reachF_inv h hL).node i n hi
  obtain ⟨h1, h2, _⟩ := Crash.cinv_restart hn.1 hn.2 hL
  refine ⟨?_, h2, h1.noPending⟩
  rw [stepB_restart, step_restart]
  simp only [hi]
  exact setNode_nodes_self hi _

/-- **everything merged belongs to a fully merged version**: in every reachable state, if node `i`
has merged a change `e`, then EVERY change of the transaction `e` belongs to is merged into node `i`
or dominated in the log — whether or not the node still books the version as held -/
theorem merged_versions_complete_full_partial {k : Nat} {c : Cluster} (h : ReachF k c) (hL : LogOK c.log)
    (i : Nat) (n : Node) (hi : c.nodes[i]? = some n) (e : Chg) (he : e ∈ c.R i) :
    ∀ ch ∈ c.log.get e.site e.dbv, ch ∈ c.R i ∨ Dom c.log.all ch :=
  ((reachF_inv h hL).node i n hi).2.rgot e he

/-- **the relay lemma, all reachable runs**: what a node — dead or alive — that holds `(a, v)` serves
for it, its live entries attributed to `(a, v)`, contains every change of `L(a, v)` that is not
dominated -/
theorem relay_serves_nondominated_full_partial {k : Nat} {c : Cluster} (h : ReachF k c) (hL : LogOK c.log)
    (j : Nat) (n : Node) (hj : c.nodes[j]? = some n) (a v : Nat) (hh : Held n a v) :
    ∀ ch ∈ c.log.get a v, ch ∈ n.live a v ∨ Dom c.log.all ch := by
  have := (reachF_inv h hL).node j n hj
  exact fun ch hch => Crash.live_covers this.1 this.2 hL hh hch

/-- everything a clean server — dead or alive, possibly with versions a batch completed while it was
killed, which it serves from its buffered rows — sends in a session satisfies `ChunkOK` -/
theorem served_chunks_ok_full_partial {k : Nat} {c : Cluster} (h : ReachF k c) (hL : LogOK c.log)
    (j : Nat) (nj : Node) (hj : c.nodes[j]? = some nj) (hcl : nodeClean nj = true) (ni : Node) :
    ∀ it ∈ answers ni nj, ChunkOK c.log it := by
  have := (reachF_inv h hL).node j nj hj
  exact fun it hit => Crash.chunkOK_answers this.1 this.2 hL hcl hit

/-! ### 4. convergence at quiescence -/

/-- **`converged_at_quiescence`, one node, all reachable runs (R2, R3, R4', R5).**  In a cluster state
reachable by any steps of the batched model — kills and restarts included — a node, dead or alive,
that holds every transaction of the log shows the view that is the specification of the set of ALL
changes of the log, provided the log has no ties and is incarnation-complete. -/
theorem converged_node_full_partial {k : Nat} {c : Cluster} (h : ReachF k c) (hL : LogOK c.log)
    (hnt : NoTies c.log.all) (hcs : CompleteStrong c.log.all) (i : Nat) (n : Node)
    (hi : c.nodes[i]? = some n) (hq : ∀ e ∈ c.log, Held n e.1.1 e.1.2) : view n.db = spec c.log.all :=
  converged_node h hL hnt hcs i n hi hq

/-- **`converged_at_quiescence`, all reachable runs.**  In a reachable state in which every node holds
every transaction of the log (`AllHeld`), every node, dead or alive, shows the specification of the
set of ALL changes of the log -/
theorem converged_at_quiescence_full_partial {k : Nat} {c : Cluster} (h : ReachF k c) (hL : LogOK c.log)
    (hnt : NoTies c.log.all) (hcs : CompleteStrong c.log.all) (hq : AllHeld c) (i : Nat) (n : Node)
    (hi : c.nodes[i]? = some n) : view n.db = spec c.log.all :=
  converged_node_full_partial h hL hnt hcs i n hi (hq i n hi)

/-- **all replicas agree** -/
theorem replicas_agree_at_quiescence_full_partial {k : Nat} {c : Cluster} (h : ReachF k c)
    (hL : LogOK c.log) (hnt : NoTies c.log.all) (hcs : CompleteStrong c.log.all) (hq : AllHeld c)
    (i j : Nat) (ni nj : Node) (hi : c.nodes[i]? = some ni) (hj : c.nodes[j]? = some nj) :
    view ni.db = view nj.db := by
  rw [converged_at_quiescence_full_partial h hL hnt hcs hq i ni hi,
    converged_at_quiescence_full_partial h hL hnt hcs hq j nj hj]

/-- `converged_at_quiescence`, with quiescence read off the bookkeeping ("all heads equal the log's,
no needs, no partial that is incomplete or has sequence rows") -/
theorem converged_when_quiescent_full_partial {k : Nat} {c : Cluster} (h : ReachF k c) (hL : LogOK c.log)
    (hnt : NoTies c.log.all) (hcs : CompleteStrong c.log.all) (hq : Quiescent c) (i : Nat) (n : Node)
    (hi : c.nodes[i]? = some n) : view n.db = spec c.log.all :=
  converged_at_quiescence_full_partial h hL hnt hcs (allHeld_of_quiescent hL hq) i n hi

/-! ### 5. liveness under a fairness hypothesis -/

/-- **`sync_round_progress`, batches and crashes.**  In a cluster reachable by any steps (kills and
restarts included), one LOSSLESS session (`LosslessB`: the client's batches contain answers of the
server only, every answer in at least one batch — ANY split of the session into batches, any order,
repeats) of an ALIVE client `i` (not killed since its last restart) with ANY clean server `j` — dead
or alive — leaves `i` alive and holding every version of every actor other than `i` itself that `j`
holds, and everything `i` held before.  (For a killed client the statement is false: its partials are
never applied.  For batches that also contain broadcast chunks it is false:
`empty_after_chunk_dropped_counterexample`.) -/
theorem sync_round_progress_full_partial {k : Nat} {c : Cluster} (h : ReachF k c) (hL : LogOK c.log)
    {i j : Nat} (hij : i ≠ j) {ni nj : Node} (hi : c.nodes[i]? = some ni)
    (hj : c.nodes[j]? = some nj) (hcl : nodeClean nj = true) (hal : ni.alive = true)
    {batches : List (List Pick)} (hless : LosslessB (answers ni nj) batches) :
    ∃ ni', (stepB c (.syncB i j batches)).nodes[i]? = some ni' ∧ ni'.alive = true ∧
      (∀ a v, a ≠ i → 1 ≤ v → Held nj a v → Held ni' a v) ∧ (∀ a v, Held ni a v → Held ni' a v) :=
  sync_step_progressF h hL hij hi hj hcl hal hless.covers

/-- **every node always holds its own versions — dead or alive, across kills, restarts and batches**:
no batch ever disturbs a version booked without a partial (no chunk of it is ever buffered), local
writes keep the own db-version row at the own head, which is where `from_conn` takes the head from -/
theorem origin_holds_own_full_partial {k : Nat} {c : Cluster} (h : ReachF k c) (hL : LogOK c.log) (i : Nat)
    (n : Node) (hi : c.nodes[i]? = some n) (v : Nat) (h1 : 1 ≤ v) (h2 : v ≤ c.log.head i) : Held n i v :=
  (((reachF_own h hL).node i n hi).own v h1 h2).held

/-- **`eventual_convergence` for the alive nodes, batches and crashes.**  Let `c` be reachable by ANY
steps of the batched model — writes, batches of chunks, lossy sessions in batches, any number of kills
and restarts, in any order (R2, R3, R4') — with a well-formed log without ties that is
incarnation-complete.  Writes and crashes stop; the cluster runs ANY schedule `ops` of lossless sync
sessions, each from a clean state and each processed by its client in any split into batches
(`LosslessRunB`), that contains for every ALIVE node `i` and every other node `a` — dead or alive — at
least one session `i ← a`.  Then the log is unchanged and every node that is alive holds every version
of it and shows the specification of all acknowledged changes.  Killed nodes take part as servers
(and as clients, without any claim): they do not block the others. -/
theorem eventual_convergence_alive_nodes_full_partial {k : Nat} {c : Cluster} (h : ReachF k c)
    (hL : LogOK c.log) (hnt : NoTies c.log.all) (hcs : CompleteStrong c.log.all) (ops : List OpB)
    (hrun : LosslessRunB c ops)
    (hcov : ∀ i a, i < k → a < k → i ≠ a → Crash.AliveAt c i → ∃ batches, OpB.syncB i a batches ∈ ops) :
    (runB c ops).log = c.log ∧
    ∀ (i : Nat) (n : Node), (runB c ops).nodes[i]? = some n → n.alive = true →
      (∀ e ∈ c.log, Held n e.1.1 e.1.2) ∧ view n.db = spec c.log.all :=
  eventual_convergence_alive h hL hnt hcs ops hrun.covers hcov

/-- **`eventual_convergence`, batches and crashes.**  As above, with every node alive in `c`
(`AllAlive`: every killed node has been restarted; necessary,
`eventual_convergence_needs_restart_counterexample`) and a session `i ← a` for every ordered pair of
distinct nodes: then the log is unchanged, every node holds every version of it, and every node shows
the specification of all acknowledged changes — all replicas agree.

The existence of such a schedule is the fairness ASSUMPTION (R6); it is a hypothesis here. -/
theorem eventual_convergence_full_partial {k : Nat} {c : Cluster} (h : ReachF k c) (hL : LogOK c.log)
    (hnt : NoTies c.log.all) (hcs : CompleteStrong c.log.all) (hal : Crash.AllAlive c) (ops : List OpB)
    (hrun : LosslessRunB c ops)
    (hcov : ∀ i a, i < k → a < k → i ≠ a → ∃ batches, OpB.syncB i a batches ∈ ops) :
    (runB c ops).log = c.log ∧ AllHeld (runB c ops) ∧
    ∀ (i : Nat) (n : Node), (runB c ops).nodes[i]? = some n → view n.db = spec c.log.all :=
  have hc := eventual_convergence h hL hnt hcs hal ops hrun.covers hcov
  ⟨hc.1, fun i n hi => (hc.2 i n hi).1, fun i n hi => (hc.2 i n hi).2⟩

/-! ### concrete runs (non-vacuity)

Field order of `Chg`: `tbl pk cid val colv cl site dbv seq`. -/

namespace ExFull
open Ex

/-- Three nodes.  Node 0 inserts row `t/1` (version (0,1): `a@0`, `b@1`) and updates `b` (version
(0,2)); node 2 inserts row `t/2` (version (2,1): `a@0`, `b@1`).  Node 1 is KILLED and then receives,
in ONE `process_multiple_changes` call, a MULTI-ACTOR batch: the chunk `[1,1]` of (0,1), the whole of
(2,1), the whole of (0,2), the chunk `[0,0]` of (0,1).  (2,1) and (0,2) are applied inside their
transactions; (0,1) is completed by the batch, its apply is scheduled — and does not run.  Node 2
syncs with the killed node 1 in one batch (node 1 serves (0,1) from its buffered rows).  Node 1
RESTARTS (re-applies (0,1)) and deletes row `t/2`. -/
def opsG : List OpB := [
  .write 0 [.ins "t" "1" [("a", .int 1), ("b", .int 2)]],
  .write 0 [.upd "t" "1" [("b", .int 9)]],
  .write 2 [.ins "t" "2" [("a", .int 5), ("b", .int 6)]],
  .kill 1,
  .deliverOrigins 1 [(0, 1, 1, 1), (2, 1, 0, 1), (0, 2, 0, 0), (0, 1, 0, 0)],
  .syncB 2 1 [[.ans 0, .ans 1, .ans 2, .ans 3]],
  .restart 1,
  .write 1 [.del "t" "2"]]

def cG (m : Nat) : Cluster := runB (Cluster.init 3) (opsG.take m)

-- the bound is an auto-param so that `cG_reach 5` is a term
theorem cG_reach (m : Nat) (hm : m ≤ 8 := by decide) : ReachF 3 (cG m) := by
  have : ∀ m, m ≤ 8 → runOKF (Cluster.init 3) (opsG.take m) := by decide +kernel
  exact reachF_run ReachF.init _ (this m hm)

set_option maxRecDepth 100000 in
set_option synthInstance.maxSize 4096 in
/-- after step 5 (the multi-actor batch on the killed node): node 1 is dead; the batch merged the two
complete changesets — (0,2), then (2,1), in actor order — and NOTHING of (0,1); the partial of (0,1) is
complete with the merged sequence row `[0, 1]` still there and both rows buffered, so (0,1) is NOT held
while (0,2) and (2,1) are; the killed node serves (0,1) from its buffered rows as ONE changeset
`0..=1` -/
example : (nodeOf (cG 5) 1).alive = false ∧
    (nodeOf (cG 5) 1).book = [(0, { max := 2, needed := [], partials := [(1, ⟨[(0, 1)], 1⟩)] }),
      (2, { max := 1, needed := [], partials := [] })] ∧
    (nodeOf (cG 5) 1).seqRows = [⟨0, 1, 0, 1, 1⟩] ∧
    (nodeOf (cG 5) 1).buf.map (fun c => (c.site, c.dbv, c.seq)) = [(0, 1, 1), (0, 1, 0)] ∧
    ¬ Held (nodeOf (cG 5) 1) 0 1 ∧ Held (nodeOf (cG 5) 1) 0 2 ∧ Held (nodeOf (cG 5) 1) 2 1 ∧
    ((cG 5).R 1).map (fun c => (c.site, c.dbv, c.seq)) = [(0, 2, 0), (2, 1, 0), (2, 1, 1)] ∧
    (answers (nodeOf (cG 5) 2) (nodeOf (cG 5) 1)).map (fun it => (it.site, it.versions, it.seqs)) =
      [(0, (2, 2), some (0, 0)), (0, (1, 1), some (0, 1))] := by decide +kernel

set_option maxRecDepth 100000 in
set_option synthInstance.maxSize 4096 in
/-- the restart (step 7) merges exactly the two buffered changes of (0,1), after which node 1 is
alive, holds (0,1), and has no sequence rows and no buffered rows -/
example : (restartMerged (nodeOf (cG 6) 1)).map (fun c => (c.site, c.dbv, c.seq)) = [(0, 1, 0), (0, 1, 1)] ∧
    (nodeOf (cG 7) 1).alive = true ∧ Held (nodeOf (cG 7) 1) 0 1 ∧ (nodeOf (cG 7) 1).seqRows = [] ∧
    (nodeOf (cG 7) 1).buf = [] ∧
    ((cG 7).R 1).map (fun c => (c.site, c.dbv, c.seq)) =
      [(0, 1, 0), (0, 1, 1), (0, 2, 0), (2, 1, 0), (2, 1, 1)] := by decide +kernel

/-- `held_inv_full_partial` applied to the KILLED node 1 right after the batch (step 5): the change of
(0,2), which it holds, is merged or dominated -/
example : ∀ ch ∈ (cG 5).log.get 0 2, ch ∈ (cG 5).R 1 ∨ Dom (cG 5).log.all ch :=
  held_inv_full_partial (cG_reach 5) (by decide +kernel) 1 (nodeOf (cG 5) 1) (Crash.nodes_getD _ 1 (by decide +kernel)) 0 2
    (by decide +kernel)

/-- there the partial of (0,1) is in state (C) of `partial_states_full_partial` -/
example : (nodeOf (cG 5) 1).alive = false ∧ (⟨[(0, 1)], 1⟩ : Partial).complete = true ∧
    HasRows (nodeOf (cG 5) 1) 0 1 := by decide +kernel

set_option maxRecDepth 100000 in
set_option synthInstance.maxSize 4096 in
/-- the hypotheses of `eventual_convergence_full_partial` hold of the state after the whole run and
ONE round of lossless sessions over all ordered pairs, every client processing the answers of its
session in two batches; afterwards the state is quiescent and row `t/2` is deleted (`cl = 2`)
everywhere -/
example : LogOK (cG 8).log ∧ NoTies (cG 8).log.all ∧ CompleteStrong (cG 8).log.all ∧ Crash.AllAlive (cG 8) ∧
    losslessCheckB (cG 8) (allPairsB 3 8) = true ∧
    books (cG 8) 0 = [(0, 2, [], [])] ∧
    books (runB (cG 8) (allPairsB 3 8)) 0 = [(0, 2, [], []), (1, 1, [], []), (2, 1, [], [])] ∧
    books (runB (cG 8) (allPairsB 3 8)) 1 = [(0, 2, [], []), (1, 1, [], []), (2, 1, [], [])] ∧
    books (runB (cG 8) (allPairsB 3 8)) 2 = [(0, 2, [], []), (1, 1, [], []), (2, 1, [], [])] ∧
    (view (nodeOf (runB (cG 8) (allPairsB 3 8)) 0).db "t" "2").cl = 2 ∧
    (view (nodeOf (runB (cG 8) (allPairsB 3 8)) 2).db "t" "2").cl = 2 := by decide +kernel

/-- `eventual_convergence_full_partial` applied to that run -/
example : ∀ (i : Nat) (n : Node), (runB (cG 8) (allPairsB 3 8)).nodes[i]? = some n →
    view n.db = spec (cG 8).log.all :=
  (eventual_convergence_full_partial (cG_reach 8) (by decide +kernel) (by decide +kernel) (by decide +kernel) (by decide +kernel)
    (allPairsB 3 8) (losslessRunB_of_check (by decide +kernel))
    (fun _ _ hi ha hne => ⟨_, allPairsB_covers hi ha hne⟩)).2.2

/-- `eventual_convergence_alive_nodes_full_partial` applied while node 1 is still killed, right after
the batch (step 5; (0,1) complete but unapplied on it): the alive nodes 0 and 2 converge -/
example : ∀ (i : Nat) (n : Node), (runB (cG 5) (allPairsB 3 8)).nodes[i]? = some n → n.alive = true →
    view n.db = spec (cG 5).log.all :=
  fun i n hi hal => ((eventual_convergence_alive_nodes_full_partial (cG_reach 5) (by decide +kernel) (by decide +kernel)
    (by decide +kernel) (allPairsB 3 8) (losslessRunB_of_check (by decide +kernel))
    (fun _ _ hi ha hne _ => ⟨_, allPairsB_covers hi ha hne⟩)).2 i n hi hal).2

end ExFull

/-! ### R2 is NECESSARY for `held_inv` -/

/-- what "the log violates ONLY the clause `cl ≤ 2` of `LogOK`" means: `LogOK` is `LogOKre` — the
same definition with `ChgOK` replaced by `ChgOKre`, which omits `cl ≤ 2` — plus `cl ≤ 2` for every
change -/
theorem logOK_is_logOKre_and_cl_le_two (L : Log) : LogOK L ↔ LogOKre L ∧ ∀ c ∈ L.all, c.cl ≤ 2 := by
  induction L with
  | nil => exact ⟨fun _ => ⟨trivial, fun c hc => by cases hc⟩, fun _ => trivial⟩
  | cons e L ih =>
    unfold LogOK LogOKre EntryOK EntryOKre
    rw [ih, all_cons]
    constructor
    · rintro ⟨⟨h1, h2⟩, h3, h4, h5⟩
      refine ⟨⟨h1, h3, fun c hc => ⟨(h4 c hc).1, (h4 c hc).2.1, ((chgOK_iff c).mp (h4 c hc).2.2).1⟩, h5⟩, ?_⟩
      intro c hc
      rcases List.mem_append.mp hc with hc | hc
      · exact ((chgOK_iff c).mp (h4 c hc).2.2).2
      · exact h2 c hc
    · rintro ⟨⟨h1, h3, h4, h5⟩, h2⟩
      refine ⟨⟨h1, fun c hc => h2 c (List.mem_append_right _ hc)⟩, h3, ?_, h5⟩
      intro c hc
      exact ⟨(h4 c hc).1, (h4 c hc).2.1,
        (chgOK_iff c).mpr ⟨(h4 c hc).2.2, h2 c (List.mem_append_left _ hc)⟩⟩

set_option synthInstance.maxSize 4096 in
/-- **`held_inv` (and `store_from_log`, and convergence) is FALSE without R2 — no re-insertion of a
deleted row.**  The run `ExR.opsR` (five nodes; the history of the known finding
"relayed-sentinel-shares-seq", `corpus/C01/relayed_sentinel_shares_seq.ops`, step by step in
`Lemmas/ClusterFullReins.lean`) is a run of the ONE-CHANGESET-PER-BATCH model without crashes through
clean states, every write satisfying R3 (`runOK`: it is a `ReachLive` run; the divergence needs no
batches and no crashes).  Its log violates ONLY the clause `cl ≤ 2` of `LogOK` (`LogOKre` holds: two
sites re-insert row `t/i1` after node 0 deleted it, causal length 3).

In the state after step 12 node 4 holds (0,3) partially (`[0,0]` of `0..=2`) and node 3, whose sentinel
of the row is an IMPLICIT one attributed to `(0, 3, seq 1)` — no change of the log — answers the need
`1..=2` with THREE rows of two seqs: the sentinel @1, `a = 'y'` @1, `b = 5` @2.  Buffering keeps the
first row per `(site, db_version, seq)`.  At the end node 4 books (0,3) as `Held`, its ghost list
contains the implicit sentinel (not a change of the log: `store_from_log` fails) and NOT the change
`a = 'y'` of `L(0,3)`, which is not dominated: `held_inv` fails.  Nodes 0 and 4 both hold EVERY version
of the log, and node 4 shows `a = NULL` for row `t/i1` where node 0 — and the specification — show
`a = 'y'`: no further session moves anything (the heads are equal, nothing is needed, nothing is
partial).  (The log also has a tie — the two re-insert sentinels — but `held_inv` does not assume
`NoTies`.) -/
theorem held_inv_needs_no_reinsertion_counterexample :
    runOK (Cluster.init 5) ExR.opsR ∧ LogOKre ExR.cR.log ∧ ¬ LogOK ExR.cR.log ∧
    (answers (Ex.nodeOf ExR.cR12 4) (Ex.nodeOf ExR.cR12 3)).map
        (fun it => (it.site, it.versions, it.seqs, (itemChanges it).map (fun c => (c.cid, c.seq)))) =
      [(0, (1, 1), none, []), (0, (3, 3), some (1, 2), [("-1", 1), ("a", 1), ("b", 2)]), (2, (1, 1), none, [])] ∧
    Held (Ex.nodeOf ExR.cR 4) 0 3 ∧
    (∃ ch ∈ ExR.cR.log.get 0 3, ch.cid = "a" ∧ ch.val = .text [121] ∧ ch ∉ ExR.cR.R 4 ∧
      ¬ Dom ExR.cR.log.all ch) ∧
    (∃ e ∈ ExR.cR.R 4, e ∉ ExR.cR.log.all) ∧
    (∀ e ∈ ExR.cR.log, Held (Ex.nodeOf ExR.cR 4) e.1.1 e.1.2) ∧
    (∀ e ∈ ExR.cR.log, Held (Ex.nodeOf ExR.cR 0) e.1.1 e.1.2) ∧
    Ex.books ExR.cR 0 = [(0, 3, [], []), (2, 1, [], [])] ∧ Ex.books ExR.cR 4 = [(0, 3, [], []), (2, 1, [], [])] ∧
    (view (Ex.nodeOf ExR.cR 4).db "t" "i1").cl = 3 ∧ (view (Ex.nodeOf ExR.cR 4).db "t" "i1").cell "a" = none ∧
    (view (Ex.nodeOf ExR.cR 4).db "t" "i1").cell "b" = some (.int 5, 1) ∧
    (view (Ex.nodeOf ExR.cR 0).db "t" "i1").cell "a" = some (.text [121], 1) ∧
    (spec ExR.cR.log.all "t" "i1").cell "a" = some (.text [121], 1) := by decide +kernel

end Corro.ClusterSys
