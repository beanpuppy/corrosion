/-
C05 — a sync server only sends what it holds and never declares unknown versions empty.
About `handleNeed` / `Node.serve` of the executable node model `Corro/Model/Node.lean` (`handle_need`
and the `process_sync` filter); what the statements are written in is in `Corro/Lemmas/NodeServe.lean`.

All theorems quantify over ANY node state `n` (not only reachable ones); the only side condition,
where stated, is `Node.RowsForward n` (every durable sequence row has `lo ≤ hi ≤ last`; the
`lo ≤ hi` half and "all rows of a version carry the version's `last_seq`" are part of the invariant
`Consistent` that `deliver` maintains for well-formed inputs, see `Props/C06.lean`).

In the model every version is served as ONE chunk (`Node.live` returns all live changes of the
version; the correspondence keeps versions small so `ChunkedChanges` never splits; the tiling of
larger versions is C08's theorem `chunks_contiguous`).
-/
import Corro.Lemmas.NodeServe
import Corro.Lemmas.NodeEx

namespace Corro.Node
open Corro.Crdt Corro.Needs

/-- **C05 ("every change it sends lies inside the sequence range of the changeset carrying it").**
Every `Full` changeset emitted for a need is for the requested actor and a requested version, and
every change it carries is attributed to that `(actor, version)` and has `lo ≤ seq ≤ hi`. -/
theorem serve_change_in_range (n : Node) (site : Nat) (need : Need) (s v lo hi last : Nat)
    (cs : List Chg) (h : Item.full s v lo hi last cs ∈ n.serve site need) :
    s = site ∧ requests need v ∧ ∀ c ∈ cs, c.site = site ∧ c.dbv = v ∧ lo ≤ c.seq ∧ c.seq ≤ hi := by
  obtain ⟨hs, hreq, ⟨_, _, rfl, _⟩ | ⟨_, _, rfl, _⟩⟩ := full_mem_handleNeed (mem_serve h)
  · refine ⟨hs, hreq, fun c hc => ?_⟩
    have hc' := List.mem_filter.mp hc
    have := mem_live.mp hc'.1
    exact ⟨this.2.1, this.2.2.1, of_decide_eq_true hc'.2⟩
  · exact ⟨hs, hreq, fun c hc => (mem_bufIn.mp hc).2⟩

/-- **C05 (shape of the emitted ranges).**  For a `Full` need every emitted `Full` changeset has
`lo ≤ hi ≤ last_seq`, provided the durable sequence rows are forward and end at or before their
`last_seq` (`Node.RowsForward`; changesets for versions with live changes are `0..=m` with
`last_seq = m` unconditionally). -/
theorem serve_full_range_shape (n : Node) (hw : n.RowsForward) (site vlo vhi s v lo hi last : Nat)
    (cs : List Chg) (h : Item.full s v lo hi last cs ∈ n.serve site (.full vlo vhi)) :
    lo ≤ hi ∧ hi ≤ last := by
  cases mem_handleNeed.mp (mem_serve h) with
  | fullLive => exact ⟨Nat.zero_le _, Nat.le_refl _⟩
  | fullBuf _ _ _ _ h5 => exact hw _ (mem_seqRowsOf.mp h5).1

/-- the same for a `Partial` need with forward requested ranges: a changeset cut from live changes
carries the requested range and the largest live seq as `last_seq`; a changeset cut from buffered
rows carries the intersection of a sequence row with a requested range, which is non-empty and ends
at or before the row's `last_seq`. -/
theorem serve_part_range_shape (n : Node) (hw : n.RowsForward) (site w : Nat)
    (seqs : List (Nat × Nat)) (hseqs : ∀ r ∈ seqs, r.1 ≤ r.2) (s v lo hi last : Nat)
    (cs : List Chg) (h : Item.full s v lo hi last cs ∈ n.serve site (.part w seqs)) :
    lo ≤ hi ∧ ((lo, hi) ∈ seqs ∧ last = maxSeq (n.live site w) ∨ hi ≤ last) := by
  cases mem_handleNeed.mp (mem_serve h) with
  | partLive _ hr => exact ⟨hseqs _ hr, Or.inl ⟨hr, rfl⟩⟩
  | partBuf _ _ hr hrow hov =>
    have hf := hw _ (mem_seqRowsOf.mp hrow).1
    exact ⟨(rowOverlaps_iff (hseqs _ hr) hf.1).mp hov, Or.inr (Nat.le_trans (Nat.min_le_left _ _) hf.2)⟩

/-- **C05 ("answers each requested version it fully holds with changesets whose sequence ranges
tile 0..=last_seq and carry exactly its live changes").**  For a requested version `v` that has
live changes on the server, the answer to a `Full` need contains exactly one item about `v`: the
single changeset `0..=m` with `last_seq = m`, `m` the largest live seq, carrying `n.live site v`
(one chunk per version in the model, see the header). -/
theorem serve_full_tiles (n : Node) (site lo hi v : Nat) (hv : lo ≤ v ∧ v ≤ hi)
    (hl : (n.live site v).isEmpty = false) :
    (handleNeed n site (.full lo hi)).filter (Item.covers v) =
      [Item.full site v 0 (maxSeq (n.live site v)) (maxSeq (n.live site v)) (n.live site v)] := by
  rw [handleNeed_full, List.filter_append, List.filter_append]
  have h1 : (liveMsgs n site lo hi).filter (Item.covers v) =
      [Item.full site v 0 (maxSeq (n.live site v)) (maxSeq (n.live site v)) (n.live site v)] := by
    unfold liveMsgs
    rw [List.filter_filterMap]
    refine filterMap_eq_singleton (versionsDesc_nodup lo hi) (mem_versionsDesc.mpr hv) ?_ ?_
    · rw [liveItem_of_live hl, Option.filter_some, if_pos ((covers_full ..).mpr rfl)]
    · intro x _ hx
      cases hli : liveItem n site x with
      | none => rfl
      | some it =>
        cases (liveItem_some hli).2
        rw [Option.filter_some, if_neg (fun hc => hx ((covers_full ..).mp hc))]
  have h2 : (bufMsgs n site lo hi).filter (Item.covers v) = [] := by
    refine List.filter_eq_nil_iff.mpr (fun it hit hc => ?_)
    obtain ⟨w, hw, hit⟩ := List.mem_flatMap.mp hit
    obtain ⟨_, r, _, rfl⟩ := mem_bufItemsOf.mp hit
    cases (covers_full ..).mp hc
    rw [(mem_restVs.mp hw).2.2] at hl; cases hl
  have h3 : ((emptyRanges n site lo hi).map (fun r => Item.empty site r.1 r.2)).filter (Item.covers v) = [] := by
    refine List.filter_eq_nil_iff.mpr (fun it hit hc => ?_)
    obtain ⟨p, hp, rfl⟩ := List.mem_map.mp hit
    have := mem_emptyVs.mp (mem_emptyRanges.mp ⟨p, hp, (covers_empty ..).mp hc⟩)
    rw [this.2.2.1] at hl; cases hl
  rw [h1, h2, h3]; rfl

/-- what `n.live site v` is: exactly the live entries of `crsql_changes` attributed to
`(site, v)` (below the model's seq bound `10⁹`), sorted by seq; its `maxSeq` is the seq of one of
them and bounds all of them. -/
theorem serve_full_tiles_live (n : Node) (site v : Nat) :
    (∀ c, c ∈ n.live site v ↔ c ∈ n.db.changes ∧ c.site = site ∧ c.dbv = v ∧ c.seq ≤ 1000000000) ∧
    (n.live site v).Pairwise (fun x y => x.seq ≤ y.seq) ∧
    (∀ c ∈ n.live site v, c.seq ≤ maxSeq (n.live site v)) ∧
    ((n.live site v).isEmpty = false → ∃ c ∈ n.live site v, c.seq = maxSeq (n.live site v)) := by
  refine ⟨fun c => mem_live, live_sorted n site v, fun c hc => le_maxSeq hc, ?_⟩
  intro hne
  rcases maxSeq_attained (n.live site v) with h | ⟨h, _⟩
  · exact h
  · rw [h] at hne; cases hne

/-- the one-version request: the whole answer is that single changeset -/
theorem serve_full_tiles_single (n : Node) (site v : Nat) (hl : (n.live site v).isEmpty = false) :
    handleNeed n site (.full v v) =
      [Item.full site v 0 (maxSeq (n.live site v)) (maxSeq (n.live site v)) (n.live site v)] := by
  have hrest : restVs n site v v = [] := by
    unfold restVs; rw [versionsAsc_single]; simp [hl]
  rw [handleNeed_full]
  unfold liveMsgs bufMsgs emptyRanges emptyVs
  -- no rest version: the buffer part and the `Empty` part are empty, the live item of `v` remains
  rw [hrest, versionsDesc_single, List.filterMap_cons_some (liveItem_of_live hl)]
  rfl

/-- **C05 ("answers a version it holds with no live changes by declaring it empty … never declares
a version empty that it lists as needed or holds only partially").**  In the answer to a `Full`
need, an `Empty` changeset covers `v` **iff** `v` is requested, has no live change, has no buffered
row and is not in the server's `needed` set. -/
theorem serve_empty_iff (n : Node) (site lo hi v : Nat) :
    (∃ s a b, Item.empty s a b ∈ handleNeed n site (.full lo hi) ∧ a ≤ v ∧ v ≤ b) ↔
      lo ≤ v ∧ v ≤ hi ∧ (n.live site v).isEmpty = true ∧
        (∀ c ∈ n.buf, ¬ (c.site = site ∧ c.dbv = v)) ∧ ¬ RSet.Mem (n.booked site).needed v := by
  rw [← hasBuf_false_iff, ← inGaps_iff, Bool.not_eq_true]
  constructor
  · rintro ⟨s, a, b, hm, h1, h2⟩
    have := empty_mem_handleNeed hm h1 h2
    exact ⟨this.2.1.1, this.2.1.2, this.2.2⟩
  · intro h
    obtain ⟨p, hp, h1, h2⟩ := mem_emptyRanges.mpr (mem_emptyVs.mpr h)
    exact ⟨site, p.1, p.2, mem_handleNeed.mpr (.fullEmpty hp), h1, h2⟩

/-- the same for a `Partial` need: the only `Empty` it can emit is `v..=v`, and it does so iff the
version has no live change, no buffered row and is not needed. -/
theorem serve_empty_iff_part (n : Node) (site v : Nat) (seqs : List (Nat × Nat)) (s a b : Nat) :
    Item.empty s a b ∈ handleNeed n site (.part v seqs) ↔
      s = site ∧ a = v ∧ b = v ∧ (n.live site v).isEmpty = true ∧
        (∀ c ∈ n.buf, ¬ (c.site = site ∧ c.dbv = v)) ∧ ¬ RSet.Mem (n.booked site).needed v := by
  rw [← hasBuf_false_iff, ← inGaps_iff, Bool.not_eq_true, mem_handleNeed]
  constructor
  · intro h
    cases h with
    | partEmpty hl hb hg => exact ⟨rfl, rfl, rfl, hl, hb, hg⟩
  · rintro ⟨rfl, rfl, rfl, h⟩
    exact .partEmpty h.1 h.2.1 h.2.2

/-- **C05 ("It never declares a version empty that it lists as needed").**  No `Empty` changeset
sent through the sync server, for any need, covers a version of the server's `needed` set. -/
theorem serve_never_empty_for_needed (n : Node) (site : Nat) (need : Need) (s a b v : Nat)
    (h : Item.empty s a b ∈ n.serve site need) (hv : a ≤ v ∧ v ≤ b) :
    ¬ RSet.Mem (n.booked site).needed v :=
  fun hm => Bool.eq_false_iff.mp (empty_mem_handleNeed (mem_serve h) hv.1 hv.2).2.2.2.2 (inGaps_iff.mpr hm)

/-- **C05 ("… or holds only partially").**  No `Empty` changeset covers a version that has a
buffered row (partially or fully buffered, not yet applied). -/
theorem serve_never_empty_for_buffered (n : Node) (site : Nat) (need : Need) (s a b v : Nat)
    (h : Item.empty s a b ∈ n.serve site need) (hv : a ≤ v ∧ v ≤ b) :
    ∀ c ∈ n.buf, ¬ (c.site = site ∧ c.dbv = v) :=
  hasBuf_false_iff.mp (empty_mem_handleNeed (mem_serve h) hv.1 hv.2).2.2.2.1

/-- no `Empty` changeset covers a version with live changes either -/
theorem serve_never_empty_for_live (n : Node) (site : Nat) (need : Need) (s a b v : Nat)
    (h : Item.empty s a b ∈ n.serve site need) (hv : a ≤ v ∧ v ≤ b) :
    (n.live site v).isEmpty = true :=
  (empty_mem_handleNeed (mem_serve h) hv.1 hv.2).2.2.1

/-- **C05 ("answers a partially buffered version with exactly the buffered ranges").**  For a
version with no live change and at least one buffered row, the answer to `Partial v seqs` is, for
each requested range `r` in order and each sequence row `row` of `(site, v)` (by `start_seq`)
selected by the SQL predicate `rowOverlaps r row`, the changeset
`max row.lo r.1 ..= min row.hi r.2` with the row's `last_seq`, carrying the buffered rows of
`(site, v)` whose seq lies in that range, by seq.  Nothing else — in particular no `Empty`. -/
theorem serve_partial_exact (n : Node) (site v : Nat) (seqs : List (Nat × Nat))
    (hl : (n.live site v).isEmpty = true) (hb : ∃ c ∈ n.buf, c.site = site ∧ c.dbv = v) :
    handleNeed n site (.part v seqs) =
      seqs.flatMap (fun r => ((seqRowsOf n site v).filter (rowOverlaps r)).map (fun row =>
        Item.full site v (Nat.max row.lo r.1) (Nat.min row.hi r.2) row.last
          (n.bufIn site v (Nat.max row.lo r.1) (Nat.min row.hi r.2)))) := by
  rw [handleNeed_part, hl, hasBuf_iff.mpr hb]
  simp only [Bool.not_true, Bool.false_eq_true, if_false, Bool.false_and, List.append_nil]
  rfl

/-- for forward rows and forward requests the SQL predicate selects exactly the rows that
intersect the requested range, so each emitted range is a non-empty intersection -/
theorem serve_partial_exact_overlap (r : Nat × Nat) (row : SeqRow) (hr : r.1 ≤ r.2)
    (hrow : row.lo ≤ row.hi) :
    rowOverlaps r row = true ↔ Nat.max row.lo r.1 ≤ Nat.min row.hi r.2 :=
  rowOverlaps_iff hr hrow

/-- **C05 (the changes sent for a partially buffered version are exactly the buffered rows in
sequence rows ∩ requested ranges).**  With forward sequence rows and forward requested ranges, a
change is carried by some changeset of the answer iff it is a buffered row of `(site, v)` whose seq
lies in a sequence row of `(site, v)` and in a requested range. -/
theorem serve_partial_exact_changes (n : Node) (hw : n.RowsForward) (site v : Nat)
    (seqs : List (Nat × Nat)) (hseqs : ∀ r ∈ seqs, r.1 ≤ r.2)
    (hl : (n.live site v).isEmpty = true) (hb : ∃ c ∈ n.buf, c.site = site ∧ c.dbv = v) (c : Chg) :
    (∃ s w lo hi last cs, Item.full s w lo hi last cs ∈ handleNeed n site (.part v seqs) ∧ c ∈ cs) ↔
      c ∈ n.buf ∧ c.site = site ∧ c.dbv = v ∧
        ∃ r ∈ seqs, ∃ row ∈ n.seqRows, row.site = site ∧ row.ver = v ∧
          row.lo ≤ c.seq ∧ c.seq ≤ row.hi ∧ r.1 ≤ c.seq ∧ c.seq ≤ r.2 := by
  constructor
  · rintro ⟨s, w, lo, hi, last, cs, hm, hc⟩
    cases mem_handleNeed.mp hm with
    | partLive h1 => rw [hl] at h1; cases h1
    | @partBuf _ _ r row _ _ hr hrow =>
      obtain ⟨hc1, hc2, hc3, hc4, hc5⟩ := mem_bufIn.mp hc
      have hrow' := mem_seqRowsOf.mp hrow
      have h4 : row.lo ≤ c.seq ∧ r.1 ≤ c.seq := Nat.max_le.mp hc4
      have h5 : c.seq ≤ row.hi ∧ c.seq ≤ r.2 := Nat.le_min.mp hc5
      exact ⟨hc1, hc2, hc3, r, hr, row, hrow'.1, hrow'.2.1, hrow'.2.2, h4.1, h5.1, h4.2, h5.2⟩
  · rintro ⟨hc, h1, h2, r, hr, row, hrow, h3, h4, h5, h6, h7, h8⟩
    have hlo : Nat.max row.lo r.1 ≤ c.seq := Nat.max_le.mpr ⟨h5, h7⟩
    have hhi : c.seq ≤ Nat.min row.hi r.2 := Nat.le_min.mpr ⟨h6, h8⟩
    exact ⟨site, v, _, _, row.last, _,
      mem_handleNeed.mpr (.partBuf hl (hasBuf_iff.mpr hb) hr (mem_seqRowsOf.mpr ⟨hrow, h3, h4⟩)
        ((rowOverlaps_iff (hseqs r hr) (hw row hrow).1).mpr (Nat.le_trans hlo hhi))),
      mem_bufIn.mpr ⟨hc, h1, h2, hlo, hhi⟩⟩

/-- the answer to a `Full` need for such a version: one changeset per sequence row, carrying the
buffered rows inside the row's range (and no `Empty`, by `serve_empty_iff`). -/
theorem serve_partial_exact_full (n : Node) (site v : Nat)
    (hl : (n.live site v).isEmpty = true) (hb : ∃ c ∈ n.buf, c.site = site ∧ c.dbv = v) :
    handleNeed n site (.full v v) =
      (seqRowsOf n site v).map (fun r =>
        Item.full site v r.lo r.hi r.last (n.bufIn site v r.lo r.hi)) := by
  have hrest : restVs n site v v = [v] := by
    unfold restVs; rw [versionsAsc_single]; simp [hl]
  have hliv : liveItem n site v = none := by
    unfold liveItem; simp [hl]
  rw [handleNeed_full]
  unfold liveMsgs bufMsgs emptyRanges emptyVs
  rw [hrest, versionsDesc_single]
  -- `v` is the one rest version: no live item, no `Empty` (it has a buffered row); the buffer part is
  -- `bufItemsOf n site v`, and what `simp` leaves is `bufItem` written out
  simp [hliv, bufItemsOf, hasBuf_iff.mpr hb]
  intro a _; rfl

/-- **C05 ("stays silent about versions it does not hold").**  The sync server (`process_sync`'s
filter in front of `handle_need`) sends nothing for a need when it has no bookkeeping for the actor,
or when every requested version is in its `needed` set or beyond its (non-zero) head. -/
theorem serve_silent_if_all_needed (n : Node) (site : Nat) (need : Need)
    (h : n.book.find? (·.1 = site) = none ∨
      ∀ v, requests need v →
        RSet.Mem (n.booked site).needed v ∨ ((n.booked site).max ≠ 0 ∧ (n.booked site).max < v)) :
    n.serve site need = [] := by
  refine if_neg fun hs => ?_
  obtain ⟨hf, v, hv, hn, hm⟩ := serves_iff.mp hs
  rcases h with h | h
  · rw [h] at hf; cases hf
  · exact (h v hv).elim hn fun h1 => Nat.not_le_of_gt h1.2 (hm h1.1)

/-- a needed version requested alone is never answered -/
theorem serve_silent_if_needed (n : Node) (site v : Nat) (seqs : List (Nat × Nat))
    (h : RSet.Mem (n.booked site).needed v) :
    n.serve site (.full v v) = [] ∧ n.serve site (.part v seqs) = [] :=
  ⟨serve_silent_if_all_needed n site _ (Or.inr fun _ hw => Or.inl (Nat.le_antisymm hw.2 hw.1 ▸ h)),
    serve_silent_if_all_needed n site _ (Or.inr fun _ hw => Or.inl (hw ▸ h))⟩

/-- **Observation (outside the property's quantifier "within the heads it advertised").**
`handleNeed` itself does not look at the head: for a `Full` range that reaches beyond it, every
version above the head has no live change, no buffered row and is not needed, so it is declared
`Empty` (`serve_empty_iff`).  The `process_sync` filter drops a `Full` need only when ALL its
versions are lacking, so the answer gets through as soon as the range also contains one held
version.  Here: for every node and actor, any version `v` above every trace of the actor in the
node's state is declared empty by `handleNeed` for any `Full` range containing it. -/
theorem serve_beyond_head_observation (n : Node) (site lo hi v : Nat) (hv : lo ≤ v ∧ v ≤ hi)
    (hlive : (n.live site v).isEmpty = true) (hbuf : ∀ c ∈ n.buf, ¬ (c.site = site ∧ c.dbv = v))
    (hneed : ¬ RSet.Mem (n.booked site).needed v) :
    ∃ a b, Item.empty site a b ∈ handleNeed n site (.full lo hi) ∧ a ≤ v ∧ v ≤ b := by
  obtain ⟨s, a, b, hm, h1, h2⟩ := (serve_empty_iff n site lo hi v).mpr ⟨hv.1, hv.2, hlive, hbuf, hneed⟩
  cases (empty_mem_handleNeed hm h1 h2).1
  exact ⟨a, b, hm, h1, h2⟩

/-! ### concrete server states (non-vacuity) -/

namespace Ex

/-- the example server `srv` (`Lemmas/NodeEx.lean`): actor 1 has head 5, version 1 applied,
version 2 cleared, version 3 partially buffered (seqs 0..1 of 0..3), version 4 needed, version 5
applied; its sequence rows are forward -/
example : srv.book = [(1, { max := 5, needed := [(4, 4)], partials := [(3, ⟨[(0, 1)], 3⟩)] })] ∧
    srv.seqRows = [⟨1, 3, 0, 1, 3⟩] ∧ srv.buf = v3lo ∧ srv.RowsForward := by decide +kernel

/-- a `Full` need over the advertised head `1..=5`: version 5 and version 1 as single changesets,
version 3 as its buffered range `0..=1` (of `last_seq = 3`), version 2 declared empty; nothing
about the needed version 4 -/
example : srv.serve 1 (.full 1 5) =
    [Item.full 1 5 0 0 0 v5, Item.full 1 1 0 1 1 v1, Item.full 1 3 0 1 3 v3lo, Item.empty 1 2 2] := by
  decide +kernel

/-- hypotheses of `serve_full_tiles` at version 1, of `serve_partial_exact` at version 3 -/
example : (srv.live 1 1).isEmpty = false ∧ (srv.live 1 3).isEmpty = true ∧
    (∃ c ∈ srv.buf, c.site = 1 ∧ c.dbv = 3) := by decide +kernel

/-- a `Partial` need for the buffered version 3 asking for `1..=3`: the intersection `1..=1` -/
example : srv.serve 1 (.part 3 [(1, 3)]) = [Item.full 1 3 1 1 3 [ch "3" "b" 1 3 1]] := by decide +kernel

/-- a `Partial` need on a version with live changes: the requested range, live changes inside -/
example : srv.serve 1 (.part 1 [(1, 1)]) = [Item.full 1 1 1 1 1 [ch "1" "b" 1 1 1]] := by decide +kernel

/-- the needed version 4 and everything beyond the head requested alone: silence -/
example : srv.serve 1 (.full 4 4) = [] ∧ srv.serve 1 (.part 4 [(0, 0)]) = [] ∧
    srv.serve 1 (.full 6 9) = [] ∧ srv.serve 2 (.full 1 1) = [] := by decide +kernel

/-- **the concrete beyond-head observation**: the `Full` need `5..=7` contains the held version 5,
so it passes the `process_sync` filter, and versions 6 and 7 — which the server has never heard
of — are declared empty. -/
example : srv.serve 1 (.full 5 7) = [Item.full 1 5 0 0 0 v5, Item.empty 1 6 7] := by decide +kernel

/-- **Observation (the suspect of DESIGN §4 C03/C05).**  A node whose only chunk of a version is an
incomplete chunk WITHOUT changes (what a relay sends for a requested seq range all of whose
changes were overwritten) holds the version partially with sequence rows but no buffered row;
`serve_empty_iff` then applies: it declares the version empty although it only holds seqs 0..1 of
0..3.  (`serve_never_empty_for_buffered` speaks of versions with a buffered row.) -/
example :
    let n := (Node.fresh 9).deliver [Item.full 1 1 0 1 3 []]
    (n.booked 1).partial? 1 = some ⟨[(0, 1)], 3⟩ ∧ n.seqRows = [⟨1, 1, 0, 1, 3⟩] ∧ n.buf = [] ∧
    n.serve 1 (.full 1 1) = [Item.empty 1 1 1] := by decide +kernel

end Ex

end Corro.Node
