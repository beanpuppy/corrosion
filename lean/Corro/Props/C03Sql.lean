/-
C03 — the tie between the node model's bookkeeping predicates and the SQL *text* of the source.

`Corro/Gen/SeqSql.lean` is regenerated by `tools/extract_c03.py` from
`crates/klukai-agent/src/agent/util.rs` (and the schema in `crates/klukai-types/src/agent.rs`) at the
start of every check: the WHERE clause of the six-case `DELETE FROM __corro_seq_bookkeeping …
RETURNING` of `process_incomplete_version` is parsed and re-emitted as `Corro.Gen.sqlTouching`; the
ON CONFLICT key of the buffer insert, the tuples and the sub query of the clear job and the lower
bound of the completeness test are emitted as data.  The theorems below say that what the source
says *now* is what the model (`touching`, `sameKey`, `Node.clearMeta`, `Partial.complete`) assumes,
so `seq_merge_spec` & co. (Props/C03.lean) apply to the SQL as written, not to a hand copy of it.

Hypotheses are the ones the C03 theorems work under anyway (forward chunk range, forward rows of
the addressed `(site, version)`): a rewrite of the SQL that selects the same rows on canonical row
sets keeps every theorem here; a rewrite that does not breaks `extracted_touching_eq_model` /
`extracted_touching_spec` (omega prints the constraints of a row and range on which they differ).
-/
import Corro.Gen.SeqSql
import Corro.Lemmas.NodeSeq

namespace Corro.Node
open Corro.Crdt

-- the simp set below is deliberately wider than today's SQL needs (NOT, `!=`, `<`): a rewritten
-- WHERE clause must not fail for want of a lemma
set_option linter.unusedSimpArgs false
-- with today's SQL `extracted_touching_eq_model` does not need its (deliberately kept) hypotheses
set_option linter.unusedVariables false

/-- Bool-valued SQL predicate (in)equalities → linear arithmetic over `Nat`, closed by `omega` -/
local macro "sql_bool" : tactic => `(tactic|
  (simp only [Bool.and_eq_true, Bool.or_eq_true, Bool.not_eq_true', Bool.and_eq_false_iff,
    Bool.or_eq_false_iff, beq_iff_eq, beq_eq_false_iff_ne, bne_iff_ne, bne_eq_false_iff_eq,
    decide_eq_true_eq, decide_eq_false_iff_not, ne_eq] <;> omega))

/-- **C03 (`seq_merge_spec`, tie to the source).**  The WHERE clause extracted from the source,
evaluated on a model row (`site_id, db_version, start_seq, end_seq` = `r.site, r.ver, r.lo, r.hi`;
`:actor_id, :db_version, :start, :end` = `site, ver, lo, hi`), is the model's `touching` — for every
forward chunk range and every row that is forward if it belongs to the addressed `(site, ver)`
(rows of other keys may be anything).  With the SQL as it stands today the two sides are the same
six cases and no hypothesis is used; they are stated because they are all `seq_merge_spec` has,
so an SQL rewrite that agrees on canonical rows does not break the tie. -/
theorem extracted_touching_eq_model (site ver lo hi : Nat) (r : SeqRow) (hlh : lo ≤ hi)
    (hr : r.site = site → r.ver = ver → r.lo ≤ r.hi) :
    Corro.Gen.sqlTouching r.site r.ver r.lo r.hi site ver lo hi = touching site ver lo hi r := by
  rw [Bool.eq_iff_iff]
  unfold Corro.Gen.sqlTouching touching
  sql_bool

/-- **C03 (what the extracted SQL selects).**  Stated on the source's WHERE clause itself, with no
mention of the model's copy: for a forward row and a forward chunk range it holds exactly for the
rows of the same `(site, version)` that overlap `[lo, hi]` or are adjacent to it. -/
theorem extracted_touching_spec (site ver lo hi : Nat) (r : SeqRow) (hlh : lo ≤ hi) (hr : r.lo ≤ r.hi) :
    Corro.Gen.sqlTouching r.site r.ver r.lo r.hi site ver lo hi = true ↔
      r.site = site ∧ r.ver = ver ∧ r.lo ≤ hi + 1 ∧ lo ≤ r.hi + 1 := by
  rw [extracted_touching_eq_model site ver lo hi r hlh (fun _ _ => hr), touching_iff hlh hr]

/-- **C03 (`seq_merge_spec` applies to the source's statement).**  On a node whose rows of
`(site, ver)` are canonical, the rows the extracted `DELETE … WHERE` removes and the rows it keeps
are literally the ones `Node.bufferChunk` removes and keeps; the statement returns the columns
`start_seq, end_seq` in this order (the code reads them as `row.get(0)..=row.get(1)`), so the
merged range is computed from the deleted rows' `(lo, hi)`. -/
theorem extracted_delete_is_model_delete (n : Node) (site ver lo hi last : Nat) (cs : List Chg)
    (hlh : lo ≤ hi) (hw : SeqRowsWF n.seqRows site ver) :
    n.seqRows.filter (fun r => Corro.Gen.sqlTouching r.site r.ver r.lo r.hi site ver lo hi) =
      n.seqRows.filter (touching site ver lo hi) ∧
    (n.bufferChunk site ver lo hi last cs).1.seqRows =
      n.seqRows.filter (fun r => !Corro.Gen.sqlTouching r.site r.ver r.lo r.hi site ver lo hi) ++
        [⟨site, ver, (n.bufferChunk site ver lo hi last cs).2.1, (n.bufferChunk site ver lo hi last cs).2.2, last⟩] ∧
    Corro.Gen.seqDeleteReturning = ["start_seq", "end_seq"] := by
  have h : ∀ r ∈ n.seqRows,
      Corro.Gen.sqlTouching r.site r.ver r.lo r.hi site ver lo hi = touching site ver lo hi r :=
    fun r hr => extracted_touching_eq_model site ver lo hi r hlh
      (fun h1 h2 => hw.1 r (mem_rowsOf.mpr ⟨hr, h1, h2⟩))
  refine ⟨List.filter_congr h, ?_, by decide +kernel⟩
  rw [bufferChunk_eq]
  have h2 : n.seqRows.filter (fun r => !Corro.Gen.sqlTouching r.site r.ver r.lo r.hi site ver lo hi) =
      n.seqRows.filter (fun r => !touching site ver lo hi r) :=
    List.filter_congr (fun r hr => by rw [h r hr])
  rw [h2]

/-- model field a key column of `__corro_buffered_changes` is kept in -/
def bufCol (col : String) (c : Chg) : Option Nat :=
  if col = "site_id" then some c.site
  else if col = "db_version" then some c.dbv
  else if col = "seq" then some c.seq
  else none

/-- **C03 (buffering: the conflict key).**  The source's `INSERT INTO __corro_buffered_changes …
ON CONFLICT (…) DO NOTHING` names (in any order) exactly the three columns the model's `sameKey`
compares, the action is DO NOTHING (first writer wins, `buffered_rows_first_writer_wins`), and the
conflict target is the table's declared primary key. -/
theorem extracted_buffer_key_is_model_key :
    Corro.Gen.bufferConflictDoNothing = true ∧
    (∀ col ∈ Corro.Gen.bufferConflictKey, ∀ c, (bufCol col c).isSome = true) ∧
    (∀ c x, sameKey c x = true ↔ ∀ col ∈ Corro.Gen.bufferConflictKey, bufCol col x = bufCol col c) ∧
    (∀ col, col ∈ Corro.Gen.bufferConflictKey ↔ col ∈ Corro.Gen.bufferPrimaryKey) := by
  -- two column lists that contain each other have the same members
  have same : ∀ l₁ l₂ : List String, l₁.all (fun c => decide (c ∈ l₂)) = true →
      l₂.all (fun c => decide (c ∈ l₁)) = true → ∀ col, col ∈ l₁ ↔ col ∈ l₂ := fun _ _ h1 h2 col =>
    ⟨fun h => by simpa using List.all_eq_true.mp h1 col h, fun h => by simpa using List.all_eq_true.mp h2 col h⟩
  have hk := same Corro.Gen.bufferConflictKey ["site_id", "db_version", "seq"] (by decide +kernel) (by decide +kernel)
  have hp := same Corro.Gen.bufferPrimaryKey ["site_id", "db_version", "seq"] (by decide +kernel) (by decide +kernel)
  have hall : ∀ P : String → Prop, (∀ col ∈ Corro.Gen.bufferConflictKey, P col) ↔
      P "site_id" ∧ P "db_version" ∧ P "seq" := fun P => by
    simp only [hk, List.forall_mem_cons, List.not_mem_nil, false_imp_iff, implies_true, and_true]
  refine ⟨by decide +kernel, (hall _).mpr ⟨fun _ => rfl, fun _ => rfl, fun _ => rfl⟩, fun c x => ?_,
    fun col => (hk col).trans (hp col).symm⟩
  rw [hall]
  unfold sameKey
  simp [bufCol]

/-- **C03 (clearing buffered meta matches on the whole key).**  Both statements of
`clear_buffered_meta_loop` (`DELETE FROM t WHERE (cols) IN (SELECT cols FROM t WHERE … LIMIT ?)`)
match on a tuple that contains `site_id`, equals the tuple the sub query selects, and contains
every column of the table's primary key — so the outer DELETE removes exactly the rows the sub
query chose and never a row of another actor that happens to share `(db_version, seq)`
(the seeded change C03-2 of DESIGN.md drops `site_id` from the tuples). -/
theorem extracted_clear_key_includes_site :
    ("site_id" ∈ Corro.Gen.clearBufKey ∧ "site_id" ∈ Corro.Gen.clearSeqKey) ∧
    (Corro.Gen.clearBufKey = Corro.Gen.clearBufSelect ∧ Corro.Gen.clearSeqKey = Corro.Gen.clearSeqSelect) ∧
    (∀ col ∈ Corro.Gen.bufferPrimaryKey, col ∈ Corro.Gen.clearBufKey) ∧
    (∀ col ∈ Corro.Gen.seqPrimaryKey, col ∈ Corro.Gen.clearSeqKey) := by
  decide +kernel

/-- **C03 (the clear job's sub query is the model's filter).**  The rows the two sub queries select
for `(actor, versions)` are the rows `Node.clearMeta` removes: same site and version in range. -/
theorem extracted_clear_selects_model_rows (n : Node) (site vlo vhi : Nat) :
    (n.clearMeta site vlo vhi).buf =
      n.buf.filter (fun c => !Corro.Gen.sqlClearBufSelects c.site c.dbv site vlo vhi) ∧
    (n.clearMeta site vlo vhi).seqRows =
      n.seqRows.filter (fun r => !Corro.Gen.sqlClearSeqSelects r.site r.ver site vlo vhi) := by
  have hb : ∀ c : Chg, Corro.Gen.sqlClearBufSelects c.site c.dbv site vlo vhi =
      (c.site == site && decide (vlo ≤ c.dbv) && decide (c.dbv ≤ vhi)) := by
    intro c
    rw [Bool.eq_iff_iff]
    unfold Corro.Gen.sqlClearBufSelects
    sql_bool
  have hs : ∀ r : SeqRow, Corro.Gen.sqlClearSeqSelects r.site r.ver site vlo vhi =
      (r.site == site && decide (vlo ≤ r.ver) && decide (r.ver ≤ vhi)) := by
    intro r
    rw [Bool.eq_iff_iff]
    unfold Corro.Gen.sqlClearSeqSelects
    sql_bool
  unfold Node.clearMeta
  exact ⟨List.filter_congr (fun c _ => by rw [hb c]), List.filter_congr (fun r _ => by rw [hs r])⟩

/-- **C03 ("exactly when all chunks arrived": the test starts at seq 0).**  The gap test that
triggers the apply (`process_multiple_changes`), the one inside `process_fully_buffered_changes`
and `PartialVersion::full_range` all range over `CrsqlSeq(0)..=last_seq` in the source, and the
model's `Partial.complete` is that test. -/
theorem extracted_gap_test_from_zero :
    Corro.Gen.gapTestStart = 0 ∧ Corro.Gen.applyGapTestStart = 0 ∧ Corro.Gen.fullRangeStart = 0 ∧
    ∀ p : Partial, p.complete = (RSet.gaps p.seqs (Corro.Gen.gapTestStart, p.last)).isEmpty :=
  ⟨rfl, rfl, rfl, fun _ => rfl⟩

/-! ### the hypotheses are satisfiable, the predicate is not vacuous -/

/-- a row adjacent on the left (`end_seq = :start - 1`) is selected, one two away is not -/
example : Corro.Gen.sqlTouching 7 3 0 4 7 3 5 9 = true ∧ Corro.Gen.sqlTouching 7 3 0 3 7 3 5 9 = false ∧
    Corro.Gen.sqlTouching 7 3 10 12 7 3 5 9 = true ∧ Corro.Gen.sqlTouching 8 3 0 4 7 3 5 9 = false := by decide +kernel

example : SeqRowsWF [⟨7, 3, 0, 4, 20⟩, ⟨7, 3, 12, 14, 20⟩, ⟨8, 3, 9, 5, 9⟩] 7 3 := by
  decide +kernel

end Corro.Node
