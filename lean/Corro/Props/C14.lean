/-
C14 — row-level update notifications reflect every changed key and its final fate.
The model is `Corro/Model/Updates.lean` (the loop of `batch_candidates`, `handle_candidates`,
`filter_matchable_change` in crates/klukai-types/src/updates.rs); the constants in
`Corro/Gen/UpdatesConsts.lean` are regenerated from the source on every run.

All theorems quantify over ALL parameters `p` (cache capacity / kept entries / flush threshold) and
ALL input sequences (candidate batches in the order the loop receives them — any commit order, any
reordering between commit and notification, any batching — interleaved with deadline ticks).  Both producers of candidate batches are instances of the quantified
input: `match_changes` (`filterChanges`) and `match_changes_from_db_version` after a chunked version
was applied from the buffer (`rereadBatch`).

`parity_is_fate`, `deleted_iff_row_absent`, `no_stale_partial` need the horizon hypothesis
`keptThroughout` (the key is never evicted from `cl_cache`), which `kept_of_few_candidates`
discharges for runs with at most `cap` candidates.  The property's own last two sentences have no
such hypothesis; WITHOUT it they are false of the code as it stands:
`stale_after_eviction_counterexample` / `stale_after_eviction_general` (an older state is notified
after a newer one, and the last notification says "deleted" for an existing row) and
`newer_lost_after_eviction_counterexample` (the newer notification is overwritten in the buffer and
never sent).  This is finding F10 (DESIGN §9.2; `stale-after-cache-eviction` in known_findings.json).
-/
import Corro.Lemmas.UpdatesHorizon
import Corro.Gen.UpdatesConsts

namespace Corro.Updates

/-- the parameters the code is compiled with -/
def codeParams : Params :=
  ⟨Corro.Gen.UpdatesConsts.maxCacheEntries, Corro.Gen.UpdatesConsts.keepCacheEntries,
   Corro.Gen.UpdatesConsts.processChangesThreshold⟩

/-- **Constants.** The compiled constants satisfy the side conditions used below
(`keep ≤ cap`: `split_off(len - KEEP)` cannot underflow and an eviction really drops entries). -/
theorem code_params_admissible :
    codeParams.keep ≤ codeParams.cap ∧ 1 ≤ codeParams.keep ∧ 1 ≤ codeParams.thr := by decide

/-- **"every primary key whose row was changed" (candidate side).** Of the change list of one
committed version, `match_changes` sends to the table's handle exactly one candidate per primary key
that has a change in the handle's table, carrying the causal length of the FIRST such change (in
`seq` order); changes of other tables are ignored. -/
theorem filter_keeps_first_cl_per_key (cs : List Change) (k : Key) :
    lookup k (filterChanges cs) = (cs.find? (fun c => c.mine && c.key == k)).map (·.cl) := by
  unfold filterChanges
  rw [filter_fold_spec]; simp [lookup]

/-- The candidate batch of one change list has pairwise distinct keys (the hypothesis of
`every_key_notified` is what the code produces). -/
theorem filter_keys_nodup (cs : List Change) : ((filterChanges cs).map (·.1)).Nodup :=
  filter_fold_nodup cs [] (by simp)

/-- **The re-read producer is covered by every theorem below.** The theorems about the feed quantify
over ALL candidate batches; the batch `match_changes_from_db_version` sends after
`process_fully_buffered_changes` is one (pairwise distinct keys, the hypothesis of
`every_key_notified`). -/
theorem reread_keys_nodup (impacted : Bool) (live : List Change) (b : List Cand)
    (h : rereadBatch impacted live = some b) : (b.map (·.1)).Nodup := by
  unfold rereadBatch at h
  split at h
  · cases h; exact filter_keys_nodup live
  · cases h

/-- **Re-read ⊆ complete.** `cs` is the version's change list as the origin broadcast it, `live` the
entries of that version that are live when the buffered copy is applied (a sub-list: the changes
that won the merge, in `seq` order; that the real re-read query returns exactly those is tied to the
code by the correspondence).  Every candidate the re-read producer sends is a candidate the
complete-changeset producer would send for the whole version, with the SAME causal length: applying
a version from the buffer can notify fewer keys (those whose cells were overwritten meanwhile), never
other keys and never another causal length. -/
theorem reread_subset_of_complete (impacted : Bool) (cs live : List Change) (b : List Cand)
    (hsub : live.Sublist cs) (hu : UniformCl cs) (h : rereadBatch impacted live = some b)
    (k : Key) (c : Nat) (hk : lookup k b = some c) : lookup k (filterChanges cs) = some c := by
  unfold rereadBatch at h
  split at h
  · cases h
    rw [filter_keeps_first_cl_per_key] at hk ⊢
    -- the first live change of `k` is a change of `k` in `cs`, so `cs` has a first one too; same `cl` by `hu`
    obtain ⟨x, hf, rfl⟩ := Option.map_eq_some_iff.1 hk
    have hx := List.find?_some hf
    have hxm : x ∈ cs := hsub.subset (List.mem_of_find?_eq_some hf)
    cases hg : cs.find? (fun c => c.mine && c.key == k) with
    | none => exact absurd hx (by simpa using List.find?_eq_none.1 hg x hxm)
    | some y =>
      have hy := List.find?_some hg
      simp only [Bool.and_eq_true, beq_iff_eq] at hx hy
      exact congrArg some (hu y (List.mem_of_find?_eq_some hg) x hxm hy.1 hx.1 (hy.2.trans hx.2.symm))
  · cases h

/-- **Re-read = complete when nothing was overwritten** (every change of the version is live and at
least one row was impacted): the two producers send the same batch. -/
theorem reread_eq_complete (cs : List Change) : rereadBatch true cs = some (filterChanges cs) := rfl

/-- **No notification at all when the buffered apply impacted no row** (the version lost every merge:
the rows' current state was notified by whoever produced it). -/
theorem reread_none_when_not_impacted (live : List Change) : rereadBatch false live = none := rfl

/-- **"notified of every primary key whose row was changed".** From any reachable state `s`: a
candidate `(k, cl)` of a received batch (distinct keys) that is not older than the cached causal
length of `k` (in particular: any candidate of a key that is not cached) produces an event for `k`
no later than the next flush (the deadline `tick` at the end stands for "600 ms later"). -/
theorem every_key_notified (p : Params) (pre : List In) (b : List Cand) (rest : List In)
    (k cl : Nat) (hn : (b.map (·.1)).Nodup) (hm : (k, cl) ∈ b)
    (hacc : stale (stateAfter p init pre) (k, cl) = false) :
    ∃ e ∈ events p (stateAfter p init pre) (.batch b :: rest ++ [.tick]),
      e.key = k ∧ e.kind = kindOf e.cl := by
  -- `hn` is not used: a larger candidate of `k` ahead in the batch leaves `k` buffered just as well
  have _ := hn
  have hs : Coh (stateAfter p init pre) := coh_stateAfter pre coh_init
  have ha : (lookup k (arm p (stateAfter p init pre) (.batch b)).buf).isSome := by
    rw [arm_buf]; exact fold_buffers_accepted hm hacc
  rw [List.cons_append]
  obtain ⟨e, he, hk⟩ := emitted_of_arm (buffered_is_emitted p k rest _ (coh_arm _ hs)) ha
  exact ⟨e, he, hk, kind_of_mem_events _ _ he⟩

/-- **When a candidate is suppressed.** In any reachable state, a candidate `(k, cl)` is skipped
only if `cl_cache` holds a strictly larger causal length `c` for `k`, and then the notification for
`(k, c)` is still buffered (it goes out with the next flush) or has already been emitted — i.e. the
listener is, or will be, told about a state of `k` that is newer than the suppressed one. -/
theorem suppressed_only_by_newer (p : Params) (pre : List In) (k cl : Nat)
    (h : stale (stateAfter p init pre) (k, cl) = true) :
    ∃ c, cl < c ∧ lookup k (stateAfter p init pre).cache = some c ∧
      (lookup k (stateAfter p init pre).buf = some c ∨
        (⟨k, kindOf c, c⟩ : Event) ∈ events p init pre) := by
  obtain ⟨c, hl, hlt⟩ := stale_iff.1 h
  exact ⟨c, hlt, hl, backed_run (p := p) pre init [] coh_init (fun _ _ hc => nomatch hc) k c hl⟩

/-- **Kind of a notification.** Every emitted event says "deleted" exactly when the causal length
it was produced from is even (cr-sqlite: even causal length ⇔ the row is deleted). -/
theorem event_kind_is_parity (p : Params) (s : St) (xs : List In) (e : Event)
    (h : e ∈ events p s xs) : e.kind = .delete ↔ e.cl % 2 = 0 := by
  have := kind_of_mem_events (p := p) xs s h
  rw [this]; unfold kindOf
  split <;> simp_all

/-- **"A notification carrying an older state of a key is never delivered after one carrying a
newer state" — while the key stays in `cl_cache`.**  From ANY point of ANY run (`pre`), the causal
lengths of `k`'s events emitted from that point on, up to and including the first loop iteration
after which `k` is no longer in the cache, never decrease. -/
theorem no_stale_within_horizon (p : Params) (pre post : List In) (k : Key) :
    (horizonCls p k (stateAfter p init pre) post).Pairwise (· ≤ ·) :=
  (horizon_sorted_aux p k post _ (coh_stateAfter pre coh_init)).1

/-- Inside the horizon no event is older than what the cache held when the window started. -/
theorem horizon_not_below_cache (p : Params) (pre post : List In) (k : Key) (c : Nat)
    (hc : lookup k (stateAfter p init pre).cache = some c) :
    ∀ x ∈ horizonCls p k (stateAfter p init pre) post, c ≤ x :=
  (horizon_sorted_aux p k post _ (coh_stateAfter pre coh_init)).2 c hc

/-- **no_stale (partial: horizon hypothesis).**  Full statement, which the code does NOT satisfy
(see `stale_after_eviction_counterexample`):
  `∀ p ins k, (clsOf k (events p init ins)).Pairwise (· ≤ ·)`.
Proved: the same for every key that is never evicted during the run. -/
theorem no_stale_partial (p : Params) (ins : List In) (k : Key)
    (hk : keptThroughout p k init ins = true) :
    (clsOf k (events p init ins)).Pairwise (· ≤ ·) := by
  simpa using (track_run (p := p) (k := k) ins [] init [] coh_init track_init hk).sorted

/-- **"the last notification for a key says 'deleted' exactly when …" (partial: horizon
hypothesis).**  For a key that is never evicted during the run: once everything buffered has been
flushed (final `tick`), the LAST event emitted for the key carries the HIGHEST causal length that
was delivered for it, in whatever order the batches arrived; hence it says Delete iff that highest
causal length is even.  Without the hypothesis the statement is false
(`stale_after_eviction_counterexample`, `newer_lost_after_eviction_counterexample`). -/
theorem parity_is_fate (p : Params) (ins : List In) (k : Key)
    (hk : keptThroughout p k init ins = true) (ho : offered k ins ≠ []) :
    ∃ e, lastEventOf k (events p init (ins ++ [.tick])) = some e ∧
      e.cl = maxCl (offered k ins) ∧
      (e.kind = .delete ↔ maxCl (offered k ins) % 2 = 0) := by
  have hs : Coh (stateAfter p init ins) := coh_stateAfter ins coh_init
  -- track the key through the run, then through the final tick, which evicts nothing and flushes
  have t := track_step .tick hs (track_run ins [] init [] coh_init track_init hk) (keptStep_tick p k _)
  have hev : events p init (ins ++ [.tick]) = events p init ins ++ (step p (stateAfter p init ins) .tick).2 := by
    rw [events_append]; simp [events, run]
  simp only [List.nil_append, offeredIn, List.append_nil, ← hev] at t
  have hlast := t.last ho (tick_flushes hs k)
  obtain ⟨e, he, hcl⟩ := clsOf_getLast k _ _ hlast
  refine ⟨e, he, hcl, ?_⟩
  have hmem : e ∈ events p init (ins ++ [.tick]) := by
    unfold lastEventOf at he
    exact (List.mem_filter.1 (List.mem_of_getLast? he)).1
  rw [← hcl]; exact event_kind_is_parity p init _ e hmem

/-- **"… exactly when the row no longer exists" — the delivery assumptions made explicit.**
`rowCl` is the causal length of the row on this node when the run ends, `rowAbsent` whether the row
is missing from the table.  Assumed (and validated by the correspondence on the real database, not
proved here):
 (A1) cr-sqlite: the row is absent iff its causal length is even;
 (A2) delivery: the highest causal length delivered to the feed for `k` IS the row's current causal
      length — every committed change of the row (local or merged) reached `match_changes` after the
      listener attached and none is still pending, each candidate carries the causal length its
      version gave the row (or a later one), and a row's causal length never decreases;
 (A3) horizon: the key was never evicted from `cl_cache`.
Then the last notification says "deleted" exactly when the row no longer exists. -/
theorem deleted_iff_row_absent (p : Params) (ins : List In) (k : Key) (rowCl : Nat) (rowAbsent : Prop)
    (hA1 : rowAbsent ↔ rowCl % 2 = 0)
    (hA2 : maxCl (offered k ins) = rowCl)
    (hA3 : keptThroughout p k init ins = true) (ho : offered k ins ≠ []) :
    ∃ e, lastEventOf k (events p init (ins ++ [.tick])) = some e ∧ (e.kind = .delete ↔ rowAbsent) := by
  obtain ⟨e, he, _, hk⟩ := parity_is_fate p ins k hA3 ho
  exact ⟨e, he, by rw [hk, hA2, hA1]⟩

/-- **Horizon, simplest sufficient condition.** A run that delivers at most `cap` candidates in
total never evicts anything, so `parity_is_fate` / `no_stale_partial` apply to all of its keys.
(The real horizon is wider: a key is evicted only after the cache grew beyond `cap` entries with at
least `keep` keys inserted after it.) -/
theorem kept_of_few_candidates (p : Params) (k : Key) (ins : List In) (h : candCount ins ≤ p.cap) :
    keptThroughout p k init ins = true :=
  kept_of_room p k ins init (by simpa [init] using h)

/-- capacity 4, keep the newest 2, flush threshold 1000 (as in the code) -/
def small : Params := ⟨4, 2, 1000⟩

/-- key 0 is re-inserted (cl 3) and notified; four other keys push it out of the cache; the batch of
the earlier delete (cl 2), which committed BEFORE the re-insert but whose notifier ran late, arrives -/
def staleTrace : List In :=
  [.batch [(0, 3)], .tick,
   .batch [(1, 1)], .batch [(2, 1)], .batch [(3, 1)], .batch [(4, 1)],
   .batch [(0, 2)]]

/-- **Counterexample to the full-strength property (F10).** With the real eviction rule (capacity
4 / keep 2): the stale `Delete` of key 0 (causal length 2) is emitted AFTER the `Update` of causal
length 3, it is the last event of the key, and the highest causal length delivered is 3 (the row
exists). -/
theorem stale_after_eviction_counterexample :
    clsOf 0 (events small init staleTrace) = [3, 2] ∧
    lastEventOf 0 (events small init staleTrace) = some ⟨0, .delete, 2⟩ ∧
    maxCl (offered 0 staleTrace) = 3 ∧
    keptThroughout small 0 init staleTrace = false := by decide +kernel

/-- before the first flush: key 0 (cached first, position 0) is updated to cl 3 in the very batch
whose new key makes the cache overflow — recency of UPDATE does not protect it, positions are by
first insertion — then the late batch with cl 2 overwrites the buffered cl 3 -/
def lostTrace : List In :=
  [.batch [(0, 1)], .batch [(1, 1)], .batch [(2, 1)], .batch [(3, 1)],
   .batch [(0, 3), (4, 1)],
   .batch [(0, 2)], .tick]

/-- **Second counterexample (buffered phase).** The notification of the newer state (cl 3) is never
emitted at all: the only event for key 0 is the stale `Delete`. -/
theorem newer_lost_after_eviction_counterexample :
    clsOf 0 (events small init lostTrace) = [2] ∧
    lastEventOf 0 (events small init lostTrace) = some ⟨0, .delete, 2⟩ ∧
    maxCl (offered 0 lostTrace) = 3 := by decide +kernel

/-- the same trace shape for any capacity: notify cl 3 of key 0, one batch of `cap` other keys, then
the late cl 2 -/
def staleTraceFor (p : Params) : List In :=
  [.batch [(0, 3)], .tick, .batch (fill p.cap), .batch [(0, 2)]]

/-- **The hole for every capacity.** For all parameters with `1 ≤ cap`, `keep ≤ cap` (any threshold): after
the notification of causal length 3 for key 0, ONE batch of `cap` other keys evicts key 0 from the
cache, and the late batch with the older causal length 2 is notified after the newer one.  With the
compiled constants this is the replay pinned in `corpus/C14/` (2000 keys between the reordered
pair). -/
theorem stale_after_eviction_general (p : Params) (hcap : 1 ≤ p.cap) (hk : p.keep ≤ p.cap) :
    clsOf 0 (events p init (staleTraceFor p)) = [3, 2] ∧
    maxCl (offered 0 (staleTraceFor p)) = 3 := by
  constructor
  · -- after `[batch [(0,3)], tick]`: notified, cached, and from now on every batch is flushed at once
    have h2 : run p init [.batch [(0, 3)], .tick] = (⟨[(0, 3)], [], 0, true⟩, [⟨0, .update, 3⟩]) := by
      have hc0 : p.cap ≠ 0 := Nat.ne_of_gt hcap
      by_cases ht : 1 ≥ p.thr <;>
        simp [run, step, arm, finish, init, pushCand, stale, lookup, upsert, evict, ht, hc0, toEvent, kindOf]
    -- the big batch is notified at once and pushes key 0, the oldest entry, out of the cache
    have h3 : step p ⟨[(0, 3)], [], 0, true⟩ (.batch (fill p.cap)) =
        (⟨evict p ((0, 3) :: fill p.cap), [], 0, true⟩, (fill p.cap).map toEvent) :=
      step_fresh_flushing p [(0, 3)] (fill p.cap) (fill_keys_nodup _)
        fun k hk e => zero_not_in_fill _ ((show k = 0 by simpa using e) ▸ hk)
    have hev : evict p ((0, 3) :: fill p.cap) = (fill p.cap).drop (p.cap - p.keep) := by
      have hlen : ((0, 3) :: fill p.cap).length = p.cap + 1 := by simp [fill]
      unfold evict
      rw [hlen, if_pos (Nat.lt_succ_self _), Nat.sub_add_comm hk]
      rfl
    -- so the late, older candidate meets no cache entry and is notified too
    have h4 := step_fresh_flushing p ((fill p.cap).drop (p.cap - p.keep)) [(0, 2)] (by simp)
      fun k hk hm => zero_not_in_fill p.cap (by
        rw [List.map_drop] at hm
        exact (show k = 0 from List.mem_singleton.1 hk) ▸ List.mem_of_mem_drop hm)
    have : events p init (staleTraceFor p) =
        [⟨0, .update, 3⟩] ++ ((fill p.cap).map toEvent ++ [⟨0, .delete, 2⟩]) := by
      rw [show staleTraceFor p = [.batch [(0, 3)], .tick] ++ [.batch (fill p.cap), .batch [(0, 2)]] from rfl,
        events_append, events, stateAfter, h2, events_cons, h3, hev, events_cons, h4]
      rfl
    rw [this, clsOf_append, clsOf_append, clsOf_zero_fill]
    rfl
  · have : (fill p.cap).filter (fun x => decide (x.1 = 0)) = [] :=
      List.filter_eq_nil_iff.2 fun a ha e =>
        zero_not_in_fill p.cap (of_decide_eq_true e ▸ List.mem_map_of_mem (f := (·.1)) ha)
    simp [staleTraceFor, offered, offeredIn, this, maxCl]

/-- **The hole with the compiled constants** (the pinned replay `corpus/C14/f10_stale_after_eviction.ops`:
2000 other keys between the reordered pair; re-checked against the regenerated constants). -/
theorem stale_after_eviction_code_params :
    clsOf 0 (events codeParams init (staleTraceFor codeParams)) = [3, 2] ∧
    maxCl (offered 0 (staleTraceFor codeParams)) = 3 :=
  stale_after_eviction_general codeParams (by decide) (by decide)

/-- a history inside the horizon: insert / delete / re-insert of key 7 delivered OUT OF ORDER
(cl 3 first, then the stale 2 and 1, then an update at cl 3), another key in between -/
def okTrace : List In :=
  [.batch [(7, 3), (8, 1)], .batch [(7, 2)], .tick, .batch [(7, 1), (8, 2)], .batch [(7, 3)]]

example : keptThroughout small 7 init okTrace = true := by decide +kernel
example : offered 7 okTrace = [3, 2, 1, 3] := by decide +kernel
example : clsOf 7 (events small init (okTrace ++ [.tick])) = [3, 3] := by decide +kernel
example : lastEventOf 7 (events small init (okTrace ++ [.tick])) = some ⟨7, .update, 3⟩ := by decide +kernel
example : lastEventOf 8 (events small init (okTrace ++ [.tick])) = some ⟨8, .delete, 2⟩ := by decide +kernel
example : candCount okTrace ≤ 1000 := by decide +kernel
/-- hypotheses of `every_key_notified`: distinct keys, fresh candidate -/
example : ((([(7, 3), (8, 1)] : List Cand).map (·.1)).Nodup) ∧
    stale (stateAfter small init []) (7, 3) = false := by decide +kernel
/-- hypothesis of `suppressed_only_by_newer`: the stale `(7, 2)` is skipped after `(7, 3)` -/
example : stale (stateAfter small init [.batch [(7, 3), (8, 1)]]) (7, 2) = true := by decide +kernel
/-- the re-read producer: a version `[(5,1),(5,1),(4,2)]` of which only the cells of key 4 are still live -/
example : rereadBatch true [⟨true, 4, 2⟩] = some [(4, 2)] ∧ rereadBatch false [⟨true, 4, 2⟩] = none ∧
    UniformCl [⟨true, 5, 1⟩, ⟨true, 5, 1⟩, ⟨true, 4, 2⟩] := by
  refine ⟨by decide, by decide, ?_⟩; unfold UniformCl; decide
/-- first causal length per key, other tables ignored -/
example : filterChanges [⟨true, 5, 1⟩, ⟨false, 6, 1⟩, ⟨true, 5, 2⟩, ⟨true, 4, 2⟩] = [(5, 1), (4, 2)] := by decide +kernel
/-- the sticky `process` flag: after the first flush every batch is flushed at once -/
example : events small init [.batch [(1, 1)], .tick, .batch [(2, 1)]] =
    [⟨1, .update, 1⟩, ⟨2, .update, 1⟩] := by decide +kernel
/-- inside the horizon window the older state is suppressed, outside (after the eviction) it is not -/
example : horizonCls small 0 init staleTrace = [3] := by decide +kernel

end Corro.Updates
