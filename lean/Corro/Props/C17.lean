/-
C17 — the HTTP API enforces its token on every route; read endpoints cannot write.
The model is `Corro/Model/Authz.lean`; the route table `Corro/Gen/Routes.lean` is regenerated from
util.rs at the start of every check.

Statement (properties.jsonl): "When an API token is configured, every API route rejects a request
that does not carry exactly that bearer token with a client-error status and performs no action; with
no token configured all routes are open.  Whatever statement is submitted to the query or subscription
endpoints, the node's database and bookkeeping are left unchanged."

What is NOT proved here (trusted, exercised by the harness on a live listener): axum's layering
semantics (`serve`), `TypedHeader<Authorization<Bearer>>` parsing (`parseHeader` is a model of it),
`sqlite3_stmt_readonly`, the read-only open flag of the pooled connection, and that a statement that
passes the gates does not write (that half of the last sentence is only checked by the harness oracle).
-/
import Corro.Lemmas.Authz
import Corro.Gen.Routes

namespace Corro.Authz

/-- **Sentence 1, the decision.** With a token configured a request is authorized iff its header
parsed to exactly that bearer token; with none configured every request is. -/
theorem authz_exact (t : Token) (h : HeaderShape) :
    (authorize (some t) h = true ↔ h = .bearer t) ∧ authorize none h = true := by
  refine ⟨?_, rfl⟩
  cases h <;> simp [authorize, HeaderShape.token?]

/-- **Sentence 1, "rejects … with a client-error status and performs no action".** With a token
configured, for every handler (any state type) and every state: a request whose header is not exactly
`Bearer token` is answered 4xx, the state is unchanged, and the answer is the same whatever the inner
handler is (it was not invoked). -/
theorem denied_runs_nothing {σ : Type} (t : Token) (h : HeaderShape) (next next' : Handler σ) (st : σ)
    (hne : h ≠ .bearer t) :
    (middleware (some t) h next st).2 = st ∧
    400 ≤ (middleware (some t) h next st).1 ∧ (middleware (some t) h next st).1 < 500 ∧
    middleware (some t) h next st = middleware (some t) h next' st := by
  have hna : authorize (some t) h = false := by
    cases hb : authorize (some t) h with
    | false => rfl
    | true => exact absurd ((authz_exact t h).1.1 hb) hne
  cases h <;> simp [middleware, hna]

/-- The right token reaches the handler unchanged. -/
theorem authorized_runs_handler {σ : Type} (t : Token) (next : Handler σ) (st : σ) :
    middleware (some t) (.bearer t) next st = next st := by
  simp [middleware, authorize, HeaderShape.token?]

/-- **Sentence 1, "with no token configured all routes are open"** — as far as the code goes: a request
without an Authorization header, or with any well-formed bearer header, reaches the handler. -/
theorem open_when_unconfigured {σ : Type} (h : HeaderShape) (next : Handler σ) (st : σ)
    (hm : h ≠ .malformed) : middleware none h next st = next st := by
  cases h with
  | malformed => exact absurd rfl hm
  | missing | bearer _ => simp [middleware, authorize]

/-- … and the part of "all routes are open" that the code does NOT deliver: an Authorization header
that is present but not a well-formed `Bearer …` (e.g. `Basic …`) is answered 400 by the extractor
even when no token is configured (nothing runs; a rejection, not a leak). -/
theorem malformed_rejected_even_unconfigured {σ : Type} (cfg : Option Token) (next : Handler σ) (st : σ) :
    middleware cfg .malformed next st = (400, st) := rfl

/-- **Sentence 1, "every API route".** Over the table regenerated from util.rs: there is exactly one
authz layer and every `.route(..)` precedes it. -/
theorem all_routes_guarded :
    Corro.Gen.Routes.authzLayers = 1 ∧ Corro.Gen.Routes.routes ≠ [] ∧
    ∀ r ∈ Corro.Gen.Routes.routes, r.guarded = true := by
  decide

/-- The two together: every extracted route, served as axum serves it, answers a wrong or missing token
with 4xx and leaves the state unchanged. -/
theorem every_route_denies {σ : Type} (r : Corro.Gen.Routes.Route) (hr : r ∈ Corro.Gen.Routes.routes)
    (t : Token) (h : HeaderShape) (handler : Handler σ) (st : σ) (hne : h ≠ .bearer t) :
    (serve r.guarded (some t) h handler st).2 = st ∧
    400 ≤ (serve r.guarded (some t) h handler st).1 ∧ (serve r.guarded (some t) h handler st).1 < 500 := by
  have hg : r.guarded = true := all_routes_guarded.2.2 r hr
  have := denied_runs_nothing t h handler handler st hne
  simp only [serve, hg, if_true]
  exact ⟨this.1, this.2.1, this.2.2.1⟩

/-- **Sentence 2, the gates.** A statement that sqlite classifies as not read-only is answered 400
without being executed, and so is one that does not prepare; a subscription whose SQL is not a single
SELECT is refused without the matcher running.  (That a statement which *passes* the gate leaves the
database unchanged is sqlite's `stmt_readonly` + the read-only connection: trusted, and what the
harness oracle checks on ≈ 300 statement texts.) -/
theorem read_gate {σ : Type} (exec exec' : Handler σ) (st : σ) :
    queryHandler (.ok false) exec st = (400, st) ∧
    queryHandler .error exec st = (400, st) ∧
    subHandler false exec st = (500, st) ∧
    (∀ p, p ≠ Prep.ok true → queryHandler p exec st = queryHandler p exec' st) := by
  refine ⟨rfl, rfl, rfl, ?_⟩
  intro p hp
  cases p with
  | error => rfl
  | ok ro =>
    cases ro with
    | true => exact absurd rfl hp
    | false => rfl

/-- The header model accepts exactly the canonical spelling `Bearer <tok>` as that token
(for a token of visible ASCII that does not start with whitespace). -/
theorem parse_canonical (tok : List Char) (hv : tok.all isStrByte = true)
    (hw : ∀ c, tok.head? = some c → isWs c = false) :
    parseHeader [['B', 'e', 'a', 'r', 'e', 'r', ' '] ++ tok] = .bearer (String.ofList tok) := by
  have hdw : tok.dropWhile isWs = tok := by
    cases tok with
    | nil => rfl
    | cons c cs => simp [List.dropWhile, hw c rfl]
  have hpre : (['B', 'e', 'a', 'r', 'e', 'r'].map asciiLower = "bearer".toList) ∧
      ['B', 'e', 'a', 'r', 'e', 'r', ' '].all isStrByte = true := by decide +kernel
  have hs : (['B', 'e', 'a', 'r', 'e', 'r', ' '] ++ tok).all isStrByte = true := by
    rw [List.all_append, hpre.2, hv]; rfl
  exact (parseValue_bearer ['B', 'e', 'a', 'r', 'e', 'r'] tok hpre.1 hs).trans (by rw [hdw])

-- a handler that counts its invocations: denied requests leave the counter alone, the right token bumps it
example : middleware (some "s3cr3t") (.bearer "s3cr3") (fun n => (200, n + 1)) 0 = (401, 0) := by decide +kernel
example : middleware (some "s3cr3t") (.bearer "s3cr3tx") (fun n => (200, n + 1)) 0 = (401, 0) := by decide +kernel
example : middleware (some "s3cr3t") (.bearer "S3CR3T") (fun n => (200, n + 1)) 0 = (401, 0) := by decide +kernel
example : middleware (some "s3cr3t") .missing (fun n => (200, n + 1)) 0 = (401, 0) := by decide +kernel
example : middleware (some "s3cr3t") .malformed (fun n => (200, n + 1)) 0 = (400, 0) := by decide +kernel
example : middleware (some "s3cr3t") (.bearer "s3cr3t") (fun n => (200, n + 1)) 0 = (200, 1) := by decide +kernel
example : middleware none .missing (fun n => (200, n + 1)) 0 = (200, 1) := by decide +kernel
example : middleware none .malformed (fun n => (200, n + 1)) 0 = (400, 0) := by decide +kernel
-- header parsing: scheme is case-insensitive, extra spaces before the token are dropped, only the first
-- header counts, `Basic`, a bare token and `Bearer` without a space are malformed
example : parseHeader ["Bearer abc".toList] = .bearer "abc" := by decide +kernel
example : parseHeader ["bEARER   abc".toList] = .bearer "abc" := by decide +kernel
example : parseHeader ["Bearer abc def".toList] = .bearer "abc def" := by decide +kernel
example : parseHeader ["Bearer wrong".toList, "Bearer abc".toList] = .bearer "wrong" := by decide +kernel
example : parseHeader ["Basic YWJjOmRlZg==".toList] = .malformed := by decide +kernel
example : parseHeader ["abc".toList] = .malformed := by decide +kernel
example : parseHeader ["Bearerabc".toList] = .malformed := by decide +kernel
example : parseHeader ["Bearer\tabc".toList] = .malformed := by decide +kernel
example : parseHeader [] = .missing := by decide +kernel
-- the route table contains the write endpoint
example : (Corro.Gen.Routes.routes.map (·.path)).contains "/v1/transactions" = true := by decide +kernel
example : queryHandler (.ok true) (fun n => (200, n + 1)) 0 = (200, 1) := by decide +kernel
example : queryHandler (.ok false) (fun n => (200, n + 1)) 0 = (400, 0) := by decide +kernel
example : subHandler true (fun n => (200, n + 1)) 0 = (200, 1) := by decide +kernel

end Corro.Authz
