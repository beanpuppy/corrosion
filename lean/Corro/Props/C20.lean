/-
C20 — database writers are mutually exclusive, prioritised and never deadlock.
Models: `Corro/Model/WritePool.lean` (admission protocol of `SplitPool`), `Corro/Model/LockOrder.lean`
(tasks as acquisition programs).  Tables regenerated from the source on every run:
`Corro/Gen/LockPrograms.lean` (`poolCfg`, `programs`).

Quantifier of the property: every interleaving of any number of requests of the three classes,
including requesters cancelled (or timed out) while queued or while holding; every interleaving of
any number of tasks running the agent's acquisition programs.
-/
import Corro.Lemmas.WritePool
import Corro.Lemmas.LockOrder
import Corro.Gen.LockPrograms

namespace Corro.WritePool

/-- **C20, sentence 1.** In every reachable state of every interleaving (any number of requesters,
cancellations and timeouts at any point, whatever the pool and semaphore sizes) two requesters that
own the pooled write connection are the same requester. -/
theorem at_most_one_writer {cfg : Cfg} {s : State} (hr : Reachable cfg s) {r1 r2 : Nat}
    (h1 : (s.phase r1).holdsConn = true) (h2 : (s.phase r2).holdsConn = true) : r1 = r2 :=
  (inv_reachable hr).guard_unique (holdsConn_hasGuardTok h1) (holdsConn_hasGuardTok h2)

/-- Second line of defence, independent of the guard hand-off: the pool never has more connections
out than its size and the semaphore never more permits than it has; with the extracted sizes
(`max_size(1)`, `Semaphore::new(1)`) that is at most one of each. -/
theorem within_pool_and_permits {cfg : Cfg} {s : State} (hr : Reachable cfg s) :
    s.connsOut ≤ cfg.poolSize ∧ s.permitsOut ≤ cfg.permits := by
  induction hr with
  | init => simp [init]
  | step a _ hs ih => exact bounds_step a ih hs

/-- **C20, sentence 1 (priority).** Whenever the dispatcher hands off (its `select!` completes with
branch `p`): if the priority queue is non-empty then `p` is the priority queue; if it is empty and the
normal queue is not, `p` is the normal queue (normal before low); the request served is the **head**
of that queue (FIFO inside a class: `enqueue` appends at the tail), no other queue is touched; a live
head gets the guard and the dispatcher waits for it; a dead head (requester gone while queued: the
`send` fails) is discarded and the dispatcher stays in its `select!`. -/
theorem priority_first {cfg : Cfg} (hv : cfg.Valid) {s s' : State} {p : Prio}
    (hs : step cfg s (.dispatch p) = some s') :
    (s.q .priority ≠ [] → p = .priority) ∧
    (s.q .priority = [] → s.q .normal ≠ [] → p = .normal) ∧
    ∃ r rest, s.q p = r :: rest ∧ s'.q p = rest ∧ (∀ p', p' ≠ p → s'.q p' = s.q p') ∧
      (s.phase r = .queued → s'.disp = some r ∧ s'.phase r = .granted) ∧
      (s.phase r ≠ .queued → s'.disp = none ∧ s'.phase = s.phase) := by
  have hf : selectable cfg s p = true → firstNonEmpty s.q [.priority, .normal, .low] = some p := by
    simp [selectable, hv.1, hv.2.1]
  have first : ∀ {r rest}, selectable cfg s p = true → s.q p = r :: rest →
      (s.q .priority ≠ [] → p = .priority) ∧ (s.q .priority = [] → s.q .normal ≠ [] → p = .normal) :=
    fun hsel _ =>
      ⟨fun h1 => Option.some.inj ((hf hsel).symm.trans (firstNonEmpty_cons_of_nonempty h1 _)),
       fun h1 h2 => Option.some.inj ((hf hsel).symm.trans
         ((firstNonEmpty_cons_of_empty h1 _).trans (firstNonEmpty_cons_of_nonempty h2 _)))⟩
  cases step_rel hs with
  | dispatch hd hsel hq hph =>
    exact ⟨(first hsel hq).1, (first hsel hq).2, _, _, hq, by simp [setPhase, setQ],
      fun p' hp' => by simp [setPhase, setQ, hp'], fun _ => by simp [setPhase], fun h => absurd hph h⟩
  | discard hd hsel hq hph =>
    exact ⟨(first hsel hq).1, (first hsel hq).2, _, _, hq, by simp [setQ],
      fun p' hp' => by simp [setQ, hp'], fun h => absurd h hph, fun _ => ⟨hd, rfl⟩⟩

/-- FIFO inside a class: a new request goes to the tail of its queue and nowhere else. -/
theorem enqueue_at_tail {cfg : Cfg} {s s' : State} {r : Nat} {p : Prio}
    (hs : step cfg s (.enqueue r p) = some s') :
    s'.q p = s.q p ++ [r] ∧ ∀ p', p' ≠ p → s'.q p' = s.q p' := by
  cases step_rel hs
  exact ⟨by simp [setPhase, setQ], fun p' hp' => by simp [setPhase, setQ, hp']⟩

/-- **C20, sentence 2 (hand-off).** In every reachable state in which some live request is waiting in
a queue, a step of the system itself is enabled — the dispatcher can take a queue head (dead heads
are discarded on the spot), or it can leave `wait_conn_drop` because the guard it waits for is gone,
or the requester it waits for can take its next step / release.  Cancellations and timeouts at any
point (queued, guard in flight, guard held, connection held, `WriteConn` held) never leave the
dispatcher waiting for a guard that nobody owns.  New requests, cancellations, timeouts and outside
permit grabs are not counted as system steps. -/
theorem no_lost_handoff {cfg : Cfg} (hv : cfg.Valid) {s : State} (hr : Reachable cfg s)
    (hq : ∃ r, s.phase r = .queued) :
    ∃ a s', a.isProgress = true ∧ step cfg s a = some s' := by
  have inv := inv_reachable hr
  obtain ⟨hb, ho, hp1, hs1⟩ := hv
  obtain ⟨r, hrq⟩ := hq
  have enabled : ∀ a : Action, a.isProgress = true → (step cfg s a).isSome = true →
      ∃ a s', a.isProgress = true ∧ step cfg s a = some s' := fun a ha h =>
    have ⟨s', hs'⟩ := Option.isSome_iff_exists.mp h
    ⟨a, s', ha, hs'⟩
  cases hd : s.disp with
  | none =>
    obtain ⟨p, hp⟩ := inv.queued_in_q r hrq
    obtain ⟨p0, hp0⟩ := firstNonEmpty_some (ps := cfg.order) (List.ne_nil_of_mem hp)
      (by rw [ho]; cases p <;> decide)
    obtain ⟨s', hs'⟩ := dispatch_enabled (cfg := cfg) (p := p0) hd (by simp [selectable, hb, hp0])
      (firstNonEmpty_nonempty hp0)
    exact ⟨.dispatch p0, s', rfl, hs'⟩
  | some r0 =>
    -- only `r0` can own the guard, so the counters are what its phase says
    have hst := inv.served_started
    have hc := inv.conns
    have hp := inv.perms
    rw [served_of_disp hd] at hst hc hp
    cases hph : s.phase r0 with
    | idle => exact absurd hph hst.1
    | queued => exact absurd hph hst.2
    | granted => exact enabled (.recvGuard r0) rfl (by simp [step, hph])
    | hasGuard =>
      rw [hph] at hc
      exact enabled (.takeConn r0) rfl (by simp [step, hph, hc, hp1, Phase.holdsConn])
    | hasConn =>
      rw [hph] at hp
      by_cases hext : s.ext = 0
      · exact enabled (.takePermit r0) rfl (by simp [step, hph, hp, hext, hs1])
      · exact enabled .extRelease rfl (by simp [step, Nat.pos_of_ne_zero hext])
    | holding => exact enabled (.release r0) rfl (by simp [step, hph])
    | gone => exact enabled .wake rfl (by simp [step, hd, hph, Phase.hasGuardTok])

/-- The same, read as "the system is never stuck while a live request is queued". -/
theorem never_stuck_while_queued {cfg : Cfg} (hv : cfg.Valid) {s : State} (hr : Reachable cfg s)
    (hq : ∃ r, s.phase r = .queued) : ¬ ∀ a, a.isProgress = true → step cfg s a = none := by
  intro hall
  obtain ⟨a, s', ha, hs⟩ := no_lost_handoff hv hr hq
  rw [hall a ha] at hs
  cases hs

/-- **What happens to a queued request whose requester has gone away** (cancelled or timed out while
queued): when it reaches the head and is taken, it is discarded, the dispatcher does not wait for it,
and the queue got shorter — so finitely many dead entries cannot delay a live one for ever. -/
theorem dead_entry_discarded {cfg : Cfg} {s s' : State} {p : Prio} {r : Nat} {rest : List Nat}
    (hs : step cfg s (.dispatch p) = some s') (hq : s.q p = r :: rest) (hdead : s.phase r ≠ .queued) :
    s'.disp = none ∧ s'.q p = rest ∧ totalQueued s' + 1 = totalQueued s := by
  cases step_rel hs with
  | dispatch _ _ hq' hph => cases hq.symm.trans hq'; exact absurd hph hdead
  | discard hd _ hq' _ => cases hq.symm.trans hq'; exact ⟨hd, by simp [setQ], totalQueued_pop hq⟩

/-- **No livelock of the hand-off.** Every system step strictly decreases `measure`
(7 × queued entries + how far the currently served requester is from having released + outside
permits), so between two actions of the environment the system makes at most `measure s` steps. -/
theorem progress_decreases_measure {cfg : Cfg} {s s' : State} (hr : Reachable cfg s) {a : Action}
    (ha : a.isProgress = true) (hs : step cfg s a = some s') : measure s' < measure s := by
  have inv := inv_reachable hr
  have rank : ∀ {r ph ph'}, s.phase r = ph → ph.hasGuardTok = true → s'.disp = s.disp → s'.q = s.q →
      s'.ext = s.ext → s'.phase r = ph' → phaseRank ph' < phaseRank ph → measure s' < measure s :=
    fun hph hg => hph ▸ measure_served_moves (inv.guard_owner _ (hph ▸ hg))
  cases step_rel hs with
  | @dispatch p r rest hd _ hq _ =>
    have hpop := totalQueued_pop hq
    have h0 : dispRank s = 0 := by unfold dispRank; rw [hd]
    have h5 : dispRank { setPhase (setQ s p rest) r .granted with disp := some r } = 5 :=
      (dispRank_of_disp rfl).trans (congrArg phaseRank (if_pos rfl))
    unfold measure
    rw [h5, h0]
    show 7 * totalQueued (setQ s p rest) + 5 + s.ext < _
    omega
  | @discard p r rest hd _ hq _ =>
    have hpop := totalQueued_pop hq
    show 7 * totalQueued (setQ s p rest) + dispRank s + s.ext < 7 * totalQueued s + dispRank s + s.ext
    omega
  | @wake r hd _ =>
    have : 1 ≤ phaseRank (s.phase r) := by cases s.phase r <;> decide
    rw [← dispRank_of_disp hd] at this
    show 7 * totalQueued s + 0 + s.ext < 7 * totalQueued s + dispRank s + s.ext
    omega
  | recvGuard hph => exact rank hph rfl rfl rfl rfl (if_pos rfl) (by decide)
  | takeConn hph => exact rank hph rfl rfl rfl rfl (if_pos rfl) (by decide)
  | takePermit hph => exact rank hph rfl rfl rfl rfl (if_pos rfl) (by decide)
  | release hph => exact rank hph rfl rfl rfl rfl (if_pos rfl) (by decide)
  | extRelease hpos =>
    show 7 * totalQueued s + dispRank s + (s.ext - 1) < 7 * totalQueued s + dispRank s + s.ext
    omega
  | enqueue | cancel | timeout | extAcquire => cases ha

/-- The side conditions of the theorems hold for what the source says **now**: `biased;` is
present, the `select!` branches are priority, normal, low in that order, the write pool has
`max_size(1)`, `write_sema` is `Semaphore::new(1)` (re-extracted on every run). -/
theorem extracted_pool_cfg_valid : Corro.Gen.LockPrograms.poolCfg.Valid := by decide +kernel

/-- requester 0 (low) is served; 1 (normal), 2 (low), 3 (priority) queue up; 1 is cancelled while
queued; 0 releases: 3 is served first (priority), then the dead entry of 1 is discarded and 2 is served. -/
def demo : List Action :=
  [.enqueue 0 .low, .dispatch .low, .recvGuard 0, .takeConn 0, .takePermit 0,
   .enqueue 1 .normal, .enqueue 2 .low, .enqueue 3 .priority, .cancel 1,
   .release 0, .wake, .dispatch .priority, .recvGuard 3, .takeConn 3, .takePermit 3,
   .release 3, .wake, .dispatch .normal, .dispatch .low, .recvGuard 2, .takeConn 2, .takePermit 2]

example : ((run Cfg.standard init demo).map fun s => (s.phase 0, s.phase 1, s.phase 2, s.phase 3, s.disp)) =
    some (.gone, .gone, .holding, .gone, some 2) := by decide +kernel
/-- out of priority order the dispatcher step is not enabled -/
example : ((run Cfg.standard init (demo.take 11)).bind fun s => step Cfg.standard s (.dispatch .low)).isNone = true := by
  decide +kernel
example : Reachable Cfg.standard init := Reachable.init
example : Cfg.standard.Valid := by decide +kernel

end Corro.WritePool

namespace Corro.LockOrder
open Corro.Gen.LockPrograms

/-- **C20, sentence 2 (lock order, waits on bounded channels included).** Tasks are programs of
`acq`/`rel` over the write connection, the bookie lock, the per-actor booked locks (read or write
mode) and the agent's bounded channels (`chan c`: the consumer holds it while it processes an item, a
blocking send is `acq; rel` — see `Corro/Model/LockOrder.lean` for the abstraction and what it
assumes).  If every program follows the discipline `ordered rk` for one rank table `rk` — each
acquisition has a rank strictly above everything the task holds (so no task ever waits for a lower-
or equal-ranked resource while holding a higher-ranked one: in particular no task blocks on a channel
whose consumer needs something the task holds), and everything is released at the end — then in
**every** reachable state of **every** interleaving of any number of such tasks, some task can take a
step unless all tasks have finished.  Holds for every grant policy that grants a lock nobody else
holds: all acquisitions exclusive (`exclusive`, the pessimistic reading) as well as shared readers
(`readersWriter`).  Argument: a blocked task waits for a resource held by another task, whose next
acquisition has a strictly higher rank; ranks are bounded by the table, so the chain ends in a task
that can step. -/
theorem ordered_acquisition_deadlock_free (rk : Ranking) (pol : Policy) (progs : Nat → Prog)
    (hord : ∀ i, ordered rk [] (progs i) = true) (s : State)
    (hr : Reachable pol (initState progs) s) (hlive : ∃ i, (s i).rest ≠ []) :
    ∃ s', Step pol s s' := by
  have hinv : OrdInv rk s := ordInv_reachable (ordInv_init progs hord) hr
  apply Classical.byContradiction
  intro hno
  have stuck : ∀ s', ¬ Step pol s s' := fun s' st => hno ⟨s', st⟩
  obtain ⟨i, hi⟩ := hlive
  cases hrest : (s i).rest with
  | nil => exact hi hrest
  | cons op rest =>
    cases op with
    | rel k => exact stuck _ (Step.rel i k rest hrest)
    | acq k a m =>
      exact no_waiter_when_stuck hinv stuck (maxRank rk + 1) i k a m rest hrest (by omega)

/-- **The programs the code runs today follow the discipline**, for the rank table the extractor
computed (`decide` over the tables regenerated from the source at the start of every run).  It fails
when a `bookie`/`booked` acquisition moves in front of the `write_*()` connection acquisition or is
nested the other way round, and when a task blocks on a send into a bounded channel while it holds
something the channel's consumer needs (then no rank table exists and the extractor says so). -/
theorem extracted_programs_ordered : ∀ p ∈ programs, ordered ranking [] p.ops = true := by decide +kernel

/-- the extracted rank table keeps the order of the code comment: connection, then bookie, then booked -/
theorem extracted_ranking_lock_order : ranking.lockOrder := by decide +kernel

/-- the table is not vacuous: at least ten programs, some program takes all three lock kinds, some
program consumes a channel and takes the connection while it does, some program blocks on a send -/
theorem extracted_programs_nontrivial :
    programs.length ≥ 10 ∧
    (programs.any fun p => p.ops.contains (.acq .conn 0 .W) && p.ops.contains (.acq .bookie 0 .W) &&
      p.ops.contains (.acq .booked 0 .W)) = true ∧
    (programs.any fun p => match p.ops with
      | .acq (.chan _) _ _ :: rest => rest.contains (.acq .conn 0 .W)
      | _ => false) = true ∧
    (programs.any fun p => match p.ops with
      | [.acq (.chan c) _ _, .rel (.chan c')] => c == c'
      | _ => false) = true := by
  decide +kernel

/-- **Deadlock freedom of the agent's writers, as extracted.** Any number of concurrent tasks, each
running (an instance, for whatever actors, of) one of the extracted programs or nothing, under either
grant policy: some task can always step until all have finished. -/
theorem extracted_instances_deadlock_free (pol : Policy) (progs : Nat → Prog)
    (hinst : ∀ i, progs i = [] ∨ ∃ t ∈ programs, (progs i).map Op.shape = t.ops.map Op.shape)
    (s : State) (hr : Reachable pol (initState progs) s) (hlive : ∃ i, (s i).rest ≠ []) :
    ∃ s', Step pol s s' := by
  apply ordered_acquisition_deadlock_free ranking pol progs _ s hr hlive
  intro i
  rcases hinst i with h | ⟨t, ht, hshape⟩
  · rw [h]; rfl
  · rw [ordered_congr ranking _ _ [] hshape]
    exact extracted_programs_ordered t ht

/-- task 0 took the connection and wants actor 7's booked lock; task 1 took that lock and wants the
connection (a writer that takes `booked` before `write_*()`): nobody can step. -/
def swapped : State := fun i =>
  if i = 0 then ⟨[.acq .booked 7 .W, .rel .booked, .rel .conn], [⟨.conn, 0, .W⟩]⟩
  else if i = 1 then ⟨[.acq .conn 0 .W, .rel .conn, .rel .booked], [⟨.booked, 7, .W⟩]⟩
  else ⟨[], []⟩

theorem swapped_order_deadlocks : (∃ i, (swapped i).rest ≠ []) ∧ ∀ s', ¬ Step readersWriter swapped s' :=
  ⟨⟨0, nofun⟩, cross_wait_stuck (h0 := ⟨.conn, 0, .W⟩) (h1 := ⟨.booked, 7, .W⟩) rfl rfl
    (fun i i0 i1 => by simp [swapped, i0, i1]) ⟨List.mem_singleton_self _, rfl, rfl⟩
    ⟨List.mem_singleton_self _, rfl, rfl⟩⟩

/-- task 0 (a remote-apply batch): takes the connection, then blocks on a send into channel 0, then
releases; task 1 (the consumer of channel 0): holds the channel while it processes an item, for which
it needs the connection. -/
def sendUnderConn : Nat → Prog := fun i =>
  if i = 0 then [.acq .conn 0 .W, .acq (.chan 0) 0 .W, .rel (.chan 0), .rel .conn]
  else if i = 1 then [.acq (.chan 0) 0 .W, .acq .conn 0 .W, .rel .conn, .rel (.chan 0)]
  else []

/-- the state after "the batch took the connection" and "the consumer is busy with an item" -/
def sendUnderConnStuck : State :=
  update (update (initState sendUnderConn) 0
      ⟨[.acq (.chan 0) 0 .W, .rel (.chan 0), .rel .conn], [⟨.conn, 0, .W⟩]⟩) 1
    ⟨[.acq .conn 0 .W, .rel .conn, .rel (.chan 0)], [⟨.chan 0, 0, .W⟩]⟩

/-- **The shape of a blocking send under the write connection into a bounded channel whose consumer
needs the write connection reaches a stuck state** (two steps from the initial state; nobody has
finished; no step is possible), under the shared-readers policy.  Neither of the two natural rank
tables makes both programs `ordered` (the `example`s below). -/
theorem blocking_send_under_conn_deadlocks :
    Reachable readersWriter (initState sendUnderConn) sendUnderConnStuck ∧
    (∃ i, (sendUnderConnStuck i).rest ≠ []) ∧ ∀ s', ¬ Step readersWriter sendUnderConnStuck s' := by
  refine ⟨?_, ⟨0, nofun⟩, ?_⟩
  · -- two granted acquisitions
    refine .step (.step .refl (.acq 0 .conn 0 .W _ rfl ?_)) (.acq 1 (.chan 0) 0 .W _ rfl ?_)
    · rintro m' ⟨j, _, h, hmem, _⟩
      cases hmem
    · rintro m' ⟨j, hj, h, hmem, hlock, _⟩
      by_cases h0 : j = 0
      · subst h0
        cases List.mem_singleton.mp hmem
        cases hlock
      · simp [update, h0, initState] at hmem
  · exact cross_wait_stuck (h0 := ⟨.conn, 0, .W⟩) (h1 := ⟨.chan 0, 0, .W⟩) rfl rfl
      (fun i i0 i1 => by simp [sendUnderConnStuck, update, initState, sendUnderConn, i0, i1])
      ⟨List.mem_singleton_self _, rfl, rfl⟩ ⟨List.mem_singleton_self _, rfl, rfl⟩

/-- the discipline rejects the sender when the channel ranks below the connection (as it must for the
consumer) … -/
example : ordered [(.chan 0, 0), (.conn, 1), (.bookie, 2), (.booked, 3)] [] (sendUnderConn 0) = false := by decide +kernel
example : ordered [(.chan 0, 0), (.conn, 1), (.bookie, 2), (.booked, 3)] [] (sendUnderConn 1) = true := by decide +kernel
/-- … and the consumer when it ranks above -/
example : ordered [(.conn, 0), (.chan 0, 1), (.bookie, 2), (.booked, 3)] [] (sendUnderConn 1) = false := by decide +kernel
/-- the same send from a spawned task (a program of its own that holds nothing) is fine -/
example : ordered [(.chan 0, 0), (.conn, 1), (.bookie, 2), (.booked, 3)] [] [.acq (.chan 0) 0 .W, .rel (.chan 0)] = true := by
  decide +kernel

example : ordered Ranking.base [] [.acq .booked 7 .W, .acq .conn 0 .W, .rel .conn, .rel .booked] = false := by decide +kernel
example : ordered Ranking.base [] [.acq .conn 0 .W, .acq .bookie 0 .W, .rel .bookie, .acq .booked 3 .W, .rel .booked, .rel .conn] = true := by
  decide +kernel

end Corro.LockOrder
