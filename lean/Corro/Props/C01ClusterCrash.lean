/-
C01 — replicas converge under any delivery order, duplication, chunking and loss — the PROTOCOL-level
theorems of `Props/C01Cluster.lean` WITH CRASHES AND RESTARTS: restriction R4 (first half: "no `kill`
/ `restart` in the run") of that file is lifted.  Property theorems and the concrete runs they are
shown on.  The lemmas about runs used here (`Lemmas/ClusterReachInv.lean`, `ClusterConv.lean`) are read
off those about the runs `Full.ReachF` of the batched model in the same two files, of which
`ClusterSys.step` is the case of singleton batches (`step_eq_stepB`).

Runs (`Crash.ReachC k c`): ANY sequence of steps of `ClusterSys.step` from `k` fresh nodes — `write`,
`deliverOrigin`, `sync`, `kill i`, `restart i`, in any order, any number of crashes — such that every
write step satisfies `OpOK` (R3) and in every SYNC step the SERVER is clean (`Crash.serverClean`: it has
no sequence row of a version without a buffered row of it — what `Cluster.clean`, the second half of
R4, says of every node; necessary: `held_inv_needs_clean_counterexample`; the client, the other nodes
and all other steps are unrestricted).  Every `ReachLive` run is such a run
(`crash_runs_subsume_live_runs`).

What `kill` / `restart` are in the model: after `kill i` node `i` keeps committing deliveries
(buffered rows, sequence rows, bookkeeping; complete changesets and `Empty`s are applied inside the
transaction as always) and keeps serving sync requests, but its apply loop is gone: a version whose
last missing chunk arrives is COMPLETE BUT UNAPPLIED (partial complete, sequence rows still there).
`restart i` = `from_conn` for every discovered actor (head from the db-version row and the row
versions, needed ranges as committed, one partial per version with sequence rows, made of exactly
those rows) followed by one `process_fully_buffered_changes` per version whose rows cover
`0..=last_seq`; the ghost list is extended by what these applies merge (`restartMerged`).

`Held n a v` (`Lemmas/ClusterInv.lean`): `v` within the head, not needed, and IF
there is a partial THEN it is complete AND its sequence rows are gone (= applied).  So on a killed node
a complete-but-unapplied version is NOT held (`killed_pending_not_held`); it becomes held when a
restart re-applies it (`restart_applies_pending_crash_partial`).  All statements below are about every
reachable state, killed nodes included.

The invariant (`Crash.CInv`) differs from the crash-free `LInv`, apart from not saying `alive`, in three places: a third state of a
partial (complete, rows present) allowed only on a killed node (`partial_states_crash_partial`);
`dbv_le` (durable db-version row ≤ in-memory head); and where `LInv` has `rheld` ("everything merged
belongs to a held version") `CInv` has `rgot` (`merged_versions_complete_crash_partial`), because
`rheld` is FALSE in runs with crashes (`linv_rheld_crash_counterexample`; not a protocol defect).

RESTRICTIONS (as in `C01Cluster.lean`, all explicit in the statements):
R1 one changeset per batch; R2 `LogOK` (no re-insertion of deleted rows); R3 `OpOK` at write steps;
R4' the server of a sync step is clean; R5 `NoTies` (convergence); R6 fairness is a hypothesis
(liveness): after the last write and the last crash / restart, a schedule of lossless sessions (no
further crashes inside it) containing a session `i ← a` for every alive node `i` and every other node
`a`.  Convergence is claimed for the nodes that are alive then
(`eventual_convergence_alive_nodes_crash_partial`;
for all nodes if all have been restarted, `AllAlive`); a node that stays killed does not converge
(`eventual_convergence_needs_restart_counterexample`).

Side observation (`restart_sync_state_roundtrip_counterexample`): memory and disk can disagree about
the `last_seq` of a partially held version (after a chunk answered by a relay that lost the tail of the
version), so a restart can change the advertised sync state; harmless for C01.
-/
import Corro.Lemmas.ClusterConv
import Corro.Props.C01Cluster

namespace Corro.ClusterSys
open Corro.Crdt Corro.Node Corro.ClusterSys.Crash

/-- every run without crashes through clean states (`ReachLive`, the runs of `C01Cluster.lean`) is a
run in the sense of this file -/
theorem crash_runs_subsume_live_runs {k : Nat} {c : Cluster} (h : ReachLive k c) : ReachC k c :=
  reachC_of_reachLive h

/-- **`held_inv`, all reachable runs (R1, R2, R3, R4').**  In EVERY cluster state reachable by any
steps — `kill` and `restart` included, any number of times, the server of every sync step clean — and
for EVERY node `i`, dead or alive: if node `i` books `(a, v)` as held (`Held`: within the head, not
needed, no partial or a complete AND APPLIED one) then every change `ch` of the transaction
`L(a, v)` is in `R i` — merged into the node's store — or is dominated in the log (`Dom`).

Preserved in addition by: `kill` (nothing but the flag changes); deliveries to a killed node (a
chunk that completes a version leaves it complete-but-unapplied = not held; complete changesets and
`Empty`s settle versions as on an alive node); `restart` (a version held after the reload was held
before: the reloaded head is at most the old head, the needed ranges are the committed ones, and a
version with sequence rows has a partial; the re-scheduled applies merge the buffered rows of a
version whose rows cover `0..=last_seq`, and every change of such a version is buffered or dominated);
writes on a killed node.

For batches of several changesets: `held_inv_full_partial` (`Props/C01ClusterFull.lean`).  Without R2 it
is false (`held_inv_needs_no_reinsertion_counterexample`). -/
theorem held_inv_crash_partial {k : Nat} {c : Cluster} (h : ReachC k c) (hL : LogOK c.log) (i : Nat)
    (n : Node) (hi : c.nodes[i]? = some n) (a v : Nat) (hh : Held n a v) :
    ∀ ch ∈ c.log.get a v, ch ∈ c.R i ∨ Dom c.log.all ch :=
  ((reachC_inv h hL).node i n hi).2.held a v hh

/-- what `Held` says, spelled out (it is the definition) -/
theorem held_iff (n : Node) (a v : Nat) :
    Held n a v ↔ (n.booked a).containsVersion v = true ∧
      ∀ p, (n.booked a).partial? v = some p → p.complete = true ∧ ¬ HasRows n a v := Iff.rfl

/-- **on a killed node a complete-but-unapplied version is not held**: a version with a partial
whose sequence rows are still there is not held, complete or not (any node) -/
theorem killed_pending_not_held {n : Node} {a v : Nat} {p : Partial} (hp : (n.booked a).partial? v = some p)
    (hr : HasRows n a v) : ¬ Held n a v :=
  fun hh => (hh.2 p hp).2 hr

/-- `kill` changes nothing about what is held -/
theorem kill_keeps_held (n : Node) (a v : Nat) : Held n.kill a v ↔ Held n a v := Iff.rfl

/-- **the states of a partial, all reachable runs.**  In every reachable state every partial of
every node is (A) complete and applied (sequence rows gone — the version is held), or (B) incomplete
with sequence rows that contain every received seq, or (C) complete with its sequence rows still
there — and (C) occurs ONLY ON A KILLED NODE. -/
theorem partial_states_crash_partial {k : Nat} {c : Cluster} (h : ReachC k c) (hL : LogOK c.log) (i : Nat)
    (n : Node) (hi : c.nodes[i]? = some n) (a v : Nat) (p : Partial) (hp : (n.booked a).partial? v = some p) :
    (p.complete = true ∧ ¬ HasRows n a v) ∨
    (p.complete = false ∧ HasRows n a v ∧ ∀ x, RSet.Mem p.seqs x → SeqMem n.seqRows a v x) ∨
    (n.alive = false ∧ p.complete = true ∧ HasRows n a v) :=
  ((reachC_inv h hL).node i n hi).2.part_state a v p hp

/-- **what `restart` does to a node of a reachable state**: the restarted node is alive and NOTHING
is pending on it — every version whose partial is complete has been applied (its sequence rows are
gone), in particular every version that was complete-but-unapplied while the node was killed and
still has rows covering `0..=last_seq` -/
theorem restart_applies_pending_crash_partial {k : Nat} {c : Cluster} (h : ReachC k c) (hL : LogOK c.log)
    (i : Nat) (n : Node) (hi : c.nodes[i]? = some n) :
    (step c (.restart i)).nodes[i]? = some n.restart ∧ (n.restart).alive = true ∧
    ∀ a v p, ((n.restart).booked a).partial? v = some p → p.complete = true → ¬ HasRows n.restart a v := by
  have hn := (reachC_inv h hL).node i n hi
  obtain ⟨h1, h2, _⟩ := cinv_restart hn.1 hn.2 hL
  refine ⟨?_, h2, h1.noPending⟩
  rw [step_restart]
  simp only [hi]
  exact setNode_nodes_self hi _

/-- **everything merged belongs to a fully merged version** (the clause `rgot` of `CInv`, which stands
where the crash-free `LInv` has `rheld`): in every reachable state, if node `i` has merged a change `e`,
then EVERY change of the transaction `e` belongs to is merged into node `i` or dominated in the log — whether or not the node
still books the version as held (it may have re-buffered a chunk of it while killed) -/
theorem merged_versions_complete_crash_partial {k : Nat} {c : Cluster} (h : ReachC k c) (hL : LogOK c.log)
    (i : Nat) (n : Node) (hi : c.nodes[i]? = some n) (e : Chg) (he : e ∈ c.R i) :
    ∀ ch ∈ c.log.get e.site e.dbv, ch ∈ c.R i ∨ Dom c.log.all ch :=
  ((reachC_inv h hL).node i n hi).2.rgot e he

/-- **the relay lemma, all reachable runs**: what a node — dead or alive — that holds `(a, v)`
serves for it, its live entries attributed to `(a, v)`, contains every change of `L(a, v)` that is
not dominated -/
theorem relay_serves_nondominated_crash_partial {k : Nat} {c : Cluster} (h : ReachC k c) (hL : LogOK c.log)
    (j : Nat) (n : Node) (hj : c.nodes[j]? = some n) (a v : Nat) (hh : Held n a v) :
    ∀ ch ∈ c.log.get a v, ch ∈ n.live a v ∨ Dom c.log.all ch := by
  have := (reachC_inv h hL).node j n hj
  exact fun ch hch => Crash.live_covers this.1 this.2 hL hh hch

/-- everything a server — dead or alive, possibly with complete-but-unapplied versions, which it
serves from its buffered rows — sends in a session from a clean state satisfies `ChunkOK` -/
theorem served_chunks_ok_crash_partial {k : Nat} {c : Cluster} (h : ReachC k c) (hL : LogOK c.log)
    (hcl : c.clean = true) (j : Nat) (nj : Node) (hj : c.nodes[j]? = some nj) (ni : Node) :
    ∀ it ∈ answers ni nj, ChunkOK c.log it := by
  have := (reachC_inv h hL).node j nj hj
  exact fun it hit => Crash.chunkOK_answers this.1 this.2 hL (clean_node hcl hj) hit

/-- **`converged_at_quiescence`, one node, all reachable runs (R1, R2, R3, R4', R5).**  In a cluster
state reachable by any steps — kills and restarts included — a node, dead or alive, that holds every
transaction of the log shows the view that is the specification of the set of ALL changes of the log,
provided the log has no ties and is incarnation-complete (whatever the other nodes do or are). -/
theorem converged_node_crash_partial {k : Nat} {c : Cluster} (h : ReachC k c) (hL : LogOK c.log)
    (hnt : NoTies c.log.all) (hcs : CompleteStrong c.log.all) (i : Nat) (n : Node)
    (hi : c.nodes[i]? = some n) (hq : ∀ e ∈ c.log, Held n e.1.1 e.1.2) : view n.db = spec c.log.all := by
  obtain ⟨hN, hI⟩ := (reachC_inv h hL).node i n hi
  exact view_of_holds_log hN hL hI.held hnt hcs hq

/-- **`converged_at_quiescence`, all reachable runs (R1, R2, R3, R4', R5).**  In a cluster state
reachable by any steps — kills and restarts included — in which every node holds every transaction of
the log (`AllHeld`; on a killed node this says in particular that nothing is complete-but-unapplied),
every node, dead or alive, shows the view that is the specification of the set of ALL changes of the
log, provided the log has no ties and is incarnation-complete. -/
theorem converged_at_quiescence_crash_partial {k : Nat} {c : Cluster} (h : ReachC k c) (hL : LogOK c.log)
    (hnt : NoTies c.log.all) (hcs : CompleteStrong c.log.all) (hq : AllHeld c) (i : Nat) (n : Node)
    (hi : c.nodes[i]? = some n) : view n.db = spec c.log.all :=
  converged_node_crash_partial h hL hnt hcs i n hi (hq i n hi)

/-- **all replicas agree** -/
theorem replicas_agree_at_quiescence_crash_partial {k : Nat} {c : Cluster} (h : ReachC k c)
    (hL : LogOK c.log) (hnt : NoTies c.log.all) (hcs : CompleteStrong c.log.all) (hq : AllHeld c)
    (i j : Nat) (ni nj : Node) (hi : c.nodes[i]? = some ni) (hj : c.nodes[j]? = some nj) :
    view ni.db = view nj.db := by
  rw [converged_at_quiescence_crash_partial h hL hnt hcs hq i ni hi,
    converged_at_quiescence_crash_partial h hL hnt hcs hq j nj hj]

/-- `converged_at_quiescence`, with quiescence read off the bookkeeping ("all heads equal the log's,
no needs, no partial that is incomplete or has sequence rows") -/
theorem converged_when_quiescent_crash_partial {k : Nat} {c : Cluster} (h : ReachC k c) (hL : LogOK c.log)
    (hnt : NoTies c.log.all) (hcs : CompleteStrong c.log.all) (hq : Quiescent c) (i : Nat) (n : Node)
    (hi : c.nodes[i]? = some n) : view n.db = spec c.log.all :=
  converged_at_quiescence_crash_partial h hL hnt hcs (allHeld_of_quiescent hL hq) i n hi

/-- **`sync_round_progress`, all reachable runs.**  In a cluster reachable by any steps (kills and
restarts included), one LOSSLESS session of an ALIVE client `i` (not killed since its last restart)
with ANY clean server `j` — dead or alive — leaves `i` alive and holding every version of
every actor other than `i` itself that `j` holds, and everything `i` held before.  (For a killed
client the statement is false: its partials are never applied.) -/
theorem sync_round_progress_crash_partial {k : Nat} {c : Cluster} (h : ReachC k c) (hL : LogOK c.log)
    {i j : Nat} (hij : i ≠ j) {ni nj : Node} (hi : c.nodes[i]? = some ni)
    (hj : c.nodes[j]? = some nj) (hcl : nodeClean nj = true) (hal : ni.alive = true) {keep : List Nat}
    (hkeep : pick (answers ni nj) keep = answers ni nj) :
    ∃ ni', (step c (.sync i j keep)).nodes[i]? = some ni' ∧ ni'.alive = true ∧
      (∀ a v, a ≠ i → 1 ≤ v → Held nj a v → Held ni' a v) ∧ (∀ a v, Held ni a v → Held ni' a v) :=
  sync_step_progress_crash h hL hij hi hj hcl hal hkeep

/-- **every node always holds its own versions — dead or alive, across kills and restarts** (local
writes keep the own db-version row at the own head, which is where `from_conn` takes the head from;
own versions never have a partial) -/
theorem origin_holds_own_crash_partial {k : Nat} {c : Cluster} (h : ReachC k c) (hL : LogOK c.log) (i : Nat)
    (n : Node) (hi : c.nodes[i]? = some n) (v : Nat) (h1 : 1 ≤ v) (h2 : v ≤ c.log.head i) : Held n i v :=
  (((reachC_own h hL).node i n hi).own v h1 h2).held

/-- **`eventual_convergence` for the alive nodes, with crashes.**  Let `c` be reachable by ANY steps
— writes, chunks, lossy sessions, and any number of kills and restarts, in any order (R1–R3, R4') —
with a well-formed log without ties that is incarnation-complete.  Writes and crashes stop; the
cluster runs ANY schedule `ops` of lossless sync sessions, each from a clean state (`LosslessRun`),
that contains for every ALIVE node `i` and every other node `a` — dead or alive — at least one
session `i ← a`.  Then the log is unchanged and every node that is alive holds every version of it and
shows the specification of all acknowledged changes.  Killed nodes take part as servers (and as
clients, without any claim): they do not block the others. -/
theorem eventual_convergence_alive_nodes_crash_partial {k : Nat} {c : Cluster} (h : ReachC k c)
    (hL : LogOK c.log) (hnt : NoTies c.log.all) (hcs : CompleteStrong c.log.all) (ops : List Op)
    (hrun : LosslessRun c ops)
    (hcov : ∀ i a, i < k → a < k → i ≠ a → AliveAt c i → ∃ keep, Op.sync i a keep ∈ ops) :
    (run c ops).log = c.log ∧
    ∀ (i : Nat) (n : Node), (run c ops).nodes[i]? = some n → n.alive = true →
      (∀ e ∈ c.log, Held n e.1.1 e.1.2) ∧ view n.db = spec c.log.all := by
  have := converges_after_schedule h hL hnt hcs ops hrun hcov
  exact ⟨this.1, this.2.2⟩

/-- **`eventual_convergence`, with crashes.**  Let `c` be reachable by ANY steps — writes, chunks,
lossy sessions, and any number of kills and restarts, in any order (R1–R3, R4') — with a well-formed
log without ties that is incarnation-complete, and let every node be alive in `c` (`AllAlive`: every
killed node has been restarted; necessary, `eventual_convergence_needs_restart_counterexample`).
Writes and crashes stop; the cluster runs ANY schedule `ops` of lossless sync sessions, each from a
clean state (`LosslessRun`), that contains for every ordered pair of distinct nodes `(i, a)` at least
one session `i ← a`.  Then the log is unchanged, every node holds every version of it, and every node
shows the specification of all acknowledged changes: all replicas agree.

The existence of such a schedule is the fairness ASSUMPTION (R6); it is a hypothesis here. -/
theorem eventual_convergence_crash_partial {k : Nat} {c : Cluster} (h : ReachC k c) (hL : LogOK c.log)
    (hnt : NoTies c.log.all) (hcs : CompleteStrong c.log.all) (hal : AllAlive c) (ops : List Op)
    (hrun : LosslessRun c ops)
    (hcov : ∀ i a, i < k → a < k → i ≠ a → ∃ keep, Op.sync i a keep ∈ ops) :
    (run c ops).log = c.log ∧ AllHeld (run c ops) ∧
    ∀ (i : Nat) (n : Node), (run c ops).nodes[i]? = some n → view n.db = spec c.log.all :=
  converges_after_schedule_allAlive h hL hnt hcs hal ops hrun hcov

namespace ExCrash
open Ex

/-- Three nodes.  Node 0 inserts row `t/1` (version 1: `a@0`, `b@1`) and updates `b` (version 2).
Node 1 receives the chunk `[0, 0]` of version 1, is KILLED IN THE MIDDLE OF THE CHUNKED DELIVERY,
then (killed) receives the chunk `[1, 1]` — version 1 is now complete but unapplied — and version 2
whole (applied inside the transaction).  Node 2 syncs with the killed node 1, which serves version 1
from its buffered rows.  Node 1 RESTARTS (re-applies version 1) and deletes the row. -/
def opsD : List Op := [
  .write 0 [.ins "t" "1" [("a", .int 1), ("b", .int 2)]],
  .write 0 [.upd "t" "1" [("b", .int 9)]],
  .deliverOrigin 1 0 1 0 0,
  .kill 1,
  .deliverOrigin 1 0 1 1 1,
  .deliverOrigin 1 0 2 0 0,
  .sync 2 1 [0, 1, 2],
  .restart 1,
  .write 1 [.del "t" "1"]]

def cD (m : Nat) : Cluster := run (Cluster.init 3) (opsD.take m)

theorem cD_reach (m : Nat) (hm : m ≤ 9 := by decide) : ReachC 3 (cD m) := by
  have : ∀ m, m ≤ 9 → runOKC (Cluster.init 3) (opsD.take m) := by decide +kernel
  exact reachC_run ReachC.init _ (this m hm)

set_option maxRecDepth 100000 in
set_option synthInstance.maxSize 4096 in
/-- after step 6 (killed, both chunks and version 2 received): node 1 is dead, its partial of
`(0, 1)` is complete with the sequence row `[0, 1]` still there, so `(0, 1)` is NOT held — nothing of
it is merged — while `(0, 2)` is held and merged; the killed node serves version 1 from its
buffered rows as ONE changeset `0..=1` -/
example : (nodeOf (cD 6) 1).alive = false ∧
    (nodeOf (cD 6) 1).book = [(0, { max := 2, needed := [], partials := [(1, ⟨[(0, 1)], 1⟩)] })] ∧
    (nodeOf (cD 6) 1).seqRows = [⟨0, 1, 0, 1, 1⟩] ∧
    ¬ Held (nodeOf (cD 6) 1) 0 1 ∧ Held (nodeOf (cD 6) 1) 0 2 ∧
    ((cD 6).R 1).map (fun c => (c.site, c.dbv, c.seq)) = [(0, 2, 0)] ∧
    (answers (nodeOf (cD 6) 2) (nodeOf (cD 6) 1)).map (fun it => (it.versions, it.seqs)) =
      [((2, 2), some (0, 0)), ((1, 1), some (0, 1))] := by decide +kernel

set_option maxRecDepth 100000 in
set_option synthInstance.maxSize 4096 in
/-- the restart (step 8) merges exactly the two buffered changes of version 1, after which node 1 is
alive, holds `(0, 1)`, and has no sequence rows -/
example : (restartMerged (nodeOf (cD 7) 1)).map (fun c => (c.site, c.dbv, c.seq)) = [(0, 1, 0), (0, 1, 1)] ∧
    (nodeOf (cD 8) 1).alive = true ∧ Held (nodeOf (cD 8) 1) 0 1 ∧ (nodeOf (cD 8) 1).seqRows = [] ∧
    ((cD 8).R 1).map (fun c => (c.site, c.dbv, c.seq)) = [(0, 1, 0), (0, 1, 1), (0, 2, 0)] := by decide +kernel

set_option maxRecDepth 100000 in
set_option synthInstance.maxSize 4096 in
/-- the hypotheses of `eventual_convergence_crash_partial` hold of the state after the whole run and
ONE round of lossless sessions over all ordered pairs; afterwards the state is quiescent and the row
is deleted (`cl = 2`) everywhere -/
example : LogOK (cD 9).log ∧ NoTies (cD 9).log.all ∧ CompleteStrong (cD 9).log.all ∧ AllAlive (cD 9) ∧
    losslessCheck (cD 9) (allPairs 3 8) = true ∧
    books (cD 9) 0 = [(0, 2, [], [])] ∧
    books (run (cD 9) (allPairs 3 8)) 0 = [(0, 2, [], []), (1, 1, [], [])] ∧
    books (run (cD 9) (allPairs 3 8)) 1 = [(0, 2, [], []), (1, 1, [], [])] ∧
    books (run (cD 9) (allPairs 3 8)) 2 = [(0, 2, [], []), (1, 1, [], [])] ∧
    (view (nodeOf (run (cD 9) (allPairs 3 8)) 0).db "t" "1").cl = 2 ∧
    (view (nodeOf (run (cD 9) (allPairs 3 8)) 2).db "t" "1").cl = 2 := by decide +kernel

/-- `held_inv_crash_partial` applied in the middle of the run, to the KILLED node 1 after step 6: the
change of the version it holds, `(0, 2)`, is merged or dominated -/
example : ∀ ch ∈ (cD 6).log.get 0 2, ch ∈ (cD 6).R 1 ∨ Dom (cD 6).log.all ch :=
  held_inv_crash_partial (cD_reach 6) (by decide +kernel) 1 (nodeOf (cD 6) 1) (nodes_getD _ 1 (by decide +kernel)) 0 2
    (by decide +kernel)

example : ∀ (i : Nat) (n : Node), (run (cD 9) (allPairs 3 8)).nodes[i]? = some n →
    view n.db = spec (cD 9).log.all :=
  (eventual_convergence_crash_partial (cD_reach 9) (by decide +kernel) (by decide +kernel) (by decide +kernel) (by decide +kernel)
    (allPairs 3 8) (losslessRun_of_check (by decide +kernel))
    (fun _ _ hi ha hne => ⟨_, allPairs_covers hi ha hne⟩)).2.2

/-- `eventual_convergence_alive_nodes_crash_partial` applied while node 1 is still killed (after
step 6, version `(0, 1)` complete but unapplied on it): the alive nodes 0 and 2 converge -/
example : ∀ (i : Nat) (n : Node), (run (cD 6) (allPairs 3 8)).nodes[i]? = some n → n.alive = true →
    view n.db = spec (cD 6).log.all :=
  fun i n hi hal => ((eventual_convergence_alive_nodes_crash_partial (cD_reach 6) (by decide +kernel) (by decide +kernel)
    (by decide +kernel) (allPairs 3 8) (losslessRun_of_check (by decide +kernel))
    (fun _ _ hi ha hne _ => ⟨_, allPairs_covers hi ha hne⟩)).2 i n hi hal).2

/-! #### `rheld`, a clause of the crash-free invariant, fails in runs with crashes

Node 0 writes version 1 = two inserts (`t/1`: `a@0`, `b@1`; `t/2`: `a@2`, `b@3`, so `last_seq = 3`)
and version 2 = an update of both columns of `t/2` (it dominates `a@2`, `b@3` of version 1).  Node 1
receives both whole: its live entries of version 1 are `a@0`, `b@1` and it serves version 1 with
`last_seq = 1`.  Node 2 receives the chunks `[0, 0]` and `[2, 2]` of version 1 from the origin and
asks node 1 for `[1, 1]` and `[3, 3]`; only the first answer (`last_seq = 1`) arrives: the sequence
rows are merged into ONE row `[0, 2]` carrying the chunk's `last_seq = 1`, while the in-memory partial
keeps `last_seq = 3` and stays incomplete.  Node 2 is killed and restarted: `from_conn` builds the
partial from the row — `[0, 2]`, `last_seq = 1`: complete — and applies it.  Node 2 is killed again,
receives the original chunk `[3, 3]` (not covered by the in-memory partial `[0, 2]`, so it is
buffered), and is restarted: the partial is rebuilt from the only row, `[3, 3]` with `last_seq = 3`,
and is incomplete. -/
def opsE : List Op := [
  .write 0 [.ins "t" "1" [("a", .int 1), ("b", .int 2)], .ins "t" "2" [("a", .int 3), ("b", .int 4)]],
  .write 0 [.upd "t" "2" [("a", .int 8), ("b", .int 9)]],
  .deliverOrigin 1 0 1 0 3, .deliverOrigin 1 0 2 0 1,
  .deliverOrigin 2 0 1 0 0, .deliverOrigin 2 0 1 2 2,
  .sync 2 1 [0],
  .kill 2, .restart 2,
  .kill 2, .deliverOrigin 2 0 1 3 3, .restart 2]

def cE : Cluster := run (Cluster.init 3) opsE

end ExCrash

set_option synthInstance.maxSize 4096 in
/-- **the clause `rheld` of the crash-free invariant (`LInv`: "everything merged belongs to a held
version") is FALSE in runs with crashes.**  The run `ExCrash.opsE` satisfies R1–R3 and R4' (the server
of every sync step is clean), its log satisfies R2 and R5; at the end node 2 is ALIVE, has merged
the changes `seq 0, 1, 2` of `(0, 1)`, and does NOT hold `(0, 1)` (its partial, rebuilt from the row
of the chunk it received while killed, is `[3, 3]` of `0..=3`).  Not a protocol defect — every change
of `(0, 1)` is merged into node 2 or dominated (`merged_versions_complete_crash_partial`), and node 2
will ask for `0..=2` again — but it is why `CInv` states `rgot` and not `rheld`. -/
theorem linv_rheld_crash_counterexample :
    Crash.runOKC (Cluster.init 3) ExCrash.opsE ∧ LogOK ExCrash.cE.log ∧ NoTies ExCrash.cE.log.all ∧
    (Ex.nodeOf ExCrash.cE 2).alive = true ∧
    (Ex.nodeOf ExCrash.cE 2).book = [(0, { max := 1, needed := [], partials := [(1, ⟨[(3, 3)], 3⟩)] })] ∧
    (Ex.nodeOf ExCrash.cE 2).seqRows = [⟨0, 1, 3, 3, 3⟩] ∧
    (ExCrash.cE.R 2).map (fun c => (c.site, c.dbv, c.seq)) = [(0, 1, 0), (0, 1, 1), (0, 1, 2)] ∧
    ¬ Held (Ex.nodeOf ExCrash.cE 2) 0 1 ∧
    (∃ e ∈ ExCrash.cE.R 2, ¬ Held (Ex.nodeOf ExCrash.cE 2) e.site e.dbv) := by decide +kernel

set_option synthInstance.maxSize 4096 in
/-- **`eventual_convergence` is FALSE for a node that stays killed (`AllAlive` is necessary).**  Stop
the run `ExCrash.opsD` after step 6: node 1 is killed and version `(0, 1)` is complete but unapplied
on it.  Run one round of lossless sessions over all ordered pairs, each from a clean state.  Nodes 0
and 2 hold everything; node 1 still does not hold `(0, 1)` — a complete partial is not advertised as
a need, so nothing is requested and no session will ever move it — and shows no value for `a`, while
the specification (and nodes 0, 2) say `a = 1`.  Only `restart 1` applies it
(`restart_applies_pending_crash_partial`).  (What `kill` models — transactions still commit, the apply
loop is gone — is the window between the commit of the last chunk and the background apply; a real
crashed agent receives nothing, and then the node is simply not a client of any session.) -/
theorem eventual_convergence_needs_restart_counterexample :
    Crash.runOKC (Cluster.init 3) (ExCrash.opsD.take 6) ∧ LogOK (ExCrash.cD 6).log ∧
    NoTies (ExCrash.cD 6).log.all ∧ CompleteStrong (ExCrash.cD 6).log.all ∧
    ¬ Crash.AllAlive (ExCrash.cD 6) ∧ losslessCheck (ExCrash.cD 6) (allPairs 3 8) = true ∧
    Ex.books (run (ExCrash.cD 6) (allPairs 3 8)) 0 = [(0, 2, [], [])] ∧
    Ex.books (run (ExCrash.cD 6) (allPairs 3 8)) 2 = [(0, 2, [], [])] ∧
    Ex.books (run (ExCrash.cD 6) (allPairs 3 8)) 1 = [(0, 2, [], [1])] ∧
    ¬ Held (Ex.nodeOf (run (ExCrash.cD 6) (allPairs 3 8)) 1) 0 1 ∧
    answers (Ex.nodeOf (run (ExCrash.cD 6) (allPairs 3 8)) 1) (Ex.nodeOf (run (ExCrash.cD 6) (allPairs 3 8)) 0) = [] ∧
    (view (Ex.nodeOf (run (ExCrash.cD 6) (allPairs 3 8)) 1).db "t" "1").cell "a" = none ∧
    (view (Ex.nodeOf (run (ExCrash.cD 6) (allPairs 3 8)) 0).db "t" "1").cell "a" = some (.int 1, 1) ∧
    (spec (ExCrash.cD 6).log.all "t" "1").cell "a" = some (.int 1, 1) := by decide +kernel

set_option synthInstance.maxSize 4096 in
/-- **a restart can CHANGE the advertised sync state (C06's round-trip equality does not extend to
cluster runs with a relay that lost the tail of a version).**  Stop the run `ExCrash.opsE` after step 7
(the lossy session with the relay).  Node 2 is alive; in memory its partial of `(0, 1)` is `[0, 2]` of
`0..=3` (the `last_seq` of the first chunk, from the origin) — incomplete, `generate_sync` asks for
`[3, 3]` — but the durable sequence row is `[0, 2]` with `last_seq = 1` (the `last_seq` of the LAST
chunk, from the relay: `process_incomplete_version` writes the incoming chunk's `last_seq` into the
merged row, `insert_partial` keeps the old one).  Restarting node 2 at this point (no kill needed)
rebuilds the partial from the row: `[0, 2]` of `0..=1`, complete — it is applied, the version becomes
held and the partial need disappears.  Harmless for C01 (the changes beyond the relay's `last_seq` are
dominated, `held_inv_crash_partial`), but memory and disk disagree about `last_seq` until the restart;
C06's theorem excludes such inputs explicitly (`ItemWF`: "a relay that lost the tail … outside"). -/
theorem restart_sync_state_roundtrip_counterexample :
    Crash.runOKC (Cluster.init 3) (ExCrash.opsE.take 7) ∧
    (Ex.nodeOf (run (Cluster.init 3) (ExCrash.opsE.take 7)) 2).alive = true ∧
    (Ex.nodeOf (run (Cluster.init 3) (ExCrash.opsE.take 7)) 2).book =
      [(0, { max := 1, needed := [], partials := [(1, ⟨[(0, 2)], 3⟩)] })] ∧
    (Ex.nodeOf (run (Cluster.init 3) (ExCrash.opsE.take 7)) 2).seqRows = [⟨0, 1, 0, 2, 1⟩] ∧
    (Ex.nodeOf (run (Cluster.init 3) (ExCrash.opsE.take 7)) 2).syncState.partialNeed = [(0, [(1, [(3, 3)])])] ∧
    (Ex.nodeOf (run (Cluster.init 3) (ExCrash.opsE.take 7)) 2).restart.syncState.partialNeed = [] ∧
    (Ex.nodeOf (run (Cluster.init 3) (ExCrash.opsE.take 7)) 2).restart.syncState ≠
      (Ex.nodeOf (run (Cluster.init 3) (ExCrash.opsE.take 7)) 2).syncState ∧
    ¬ Held (Ex.nodeOf (run (Cluster.init 3) (ExCrash.opsE.take 7)) 2) 0 1 ∧
    Held (Ex.nodeOf (run (Cluster.init 3) (ExCrash.opsE.take 7)) 2).restart 0 1 := by decide +kernel

end Corro.ClusterSys
