/-
C11 — a subscription's rows and events always equal its query run on the database (model
`Corro/Model/Ivm.lean`); then counterexamples and concrete runs.  Queries covered: projection of
expressions over a left-deep chain of any number of distinct tables joined INNER or LEFT with
arbitrary ON predicates, and a WHERE predicate (the proofs never look inside predicates or
expressions).  `DbOk`: per table distinct keys, key values neither NULL nor the empty string (the
code's `coalesce(pk, "")` cannot tell them apart: `empty_string_key_counterexample`), at least one
key column.
-/
import Corro.Lemmas.IvmStep

namespace Corro.Ivm

/-- the tables of the FROM clause are distinct -/
def Query.Ok (q : Query) : Prop := (q.srcs.map (·.tbl)).Nodup

/-- single-table and INNER-join queries -/
def Query.Inner (q : Query) : Prop := ∀ j ∈ q.joins, j.kind = .inner

/-- the materialised rows equal the keyed query result, as keyed sets, and the `query` table is
well formed (one row per key, distinct rowids below the AUTOINCREMENT counter) -/
def Represents (q : Query) (st : State) (db : Db) : Prop :=
  StOk st ∧ ∀ x, x ∈ st.outs ↔ x ∈ evalKeyed q db

/-- the candidate lists contain the key of every changed row (they may contain more, in any order,
a table may come several times) -/
def Complete (q : Query) (db0 db1 : Db) (cands : List (Nat × List Key)) : Prop :=
  ∀ s ∈ q.srcs, ∀ r, Changed db0 db1 s.tbl r → ∃ c ∈ cands, c.1 = s.tbl ∧ keyOf s.nk r ∈ c.2

def CleanCands (cands : List (Nat × List Key)) : Prop := ∀ c ∈ cands, ∀ k ∈ c.2, CleanKey k

/-- without LEFT joins `Covered.leftSafe` asks nothing -/
theorem covered_of_inner {q : Query} {db0 db1 : Db} {cands : List (Nat × List Key)} (hi : q.Inner)
    (hc : Complete q db0 db1 cands) : Covered q db0 db1 cands :=
  ⟨hc, fun pre j post hq hk => by
    have : j ∈ q.joins := by rw [hq]; simp
    rw [hi j this] at hk; cases hk⟩

/-- **C11, LEFT joins (partial).** One batch of `handle_candidates` re-establishes "materialised rows
= query on the database" for EVERY query of the class, provided the candidates cover every changed
row and (`Covered.leftSafe`) every row change on the nullable side of a LEFT join comes with a
candidate for a preserved-side row it joins with (before or after).  The full statement (no
`leftSafe`) is false for the code as it stands: `ivm_left_join_counterexample`. -/
theorem ivm_correct_left_partial {q : Query} {db0 db1 : Db} {st : State} {cands : List (Nat × List Key)}
    (hq : q.Ok) (h0 : DbOk q.srcs db0) (h1 : DbOk q.srcs db1) (hk : CleanCands cands)
    (hcov : Covered q db0 db1 cands) (hrep : Represents q st db0) :
    Represents q (step q db1 st cands) db1 := by
  obtain ⟨⟨_, t⟩, hm⟩ := step_mechanics h1 hrep.1 hk
  refine ⟨t.ok, fun x => ?_⟩
  rw [hm x, hrep.2 x]
  -- a touched output is re-evaluated; an untouched one is in the query's result before iff after
  by_cases ht : TouchedOut cands q.srcs x
  · simp [ht]
  · simp [ht, untouched_iff hq h0 h1 hk hcov x ht]

/-- **C11, first sentence, single table and INNER joins.** For every query without LEFT join, every
pair of databases (= any set of inserts, updates, deletes, key changes, multi-table transactions,
local or remote) and every batching of candidates that contains the keys of all changed rows,
after `step` the materialised rows equal `evalKeyed q db` as keyed sets. -/
theorem ivm_correct_inner {q : Query} {db0 db1 : Db} {st : State} {cands : List (Nat × List Key)}
    (hq : q.Ok) (hi : q.Inner) (h0 : DbOk q.srcs db0) (h1 : DbOk q.srcs db1) (hk : CleanCands cands)
    (hc : Complete q db0 db1 cands) (hrep : Represents q st db0) :
    Represents q (step q db1 st cands) db1 :=
  ivm_correct_left_partial hq h0 h1 hk (covered_of_inner hi hc) hrep

theorem represents_eval {q : Query} {st : State} {db : Db} (h : Represents q st db) (cells : List Val) :
    (∃ m ∈ st.rows, m.cells = cells) ↔ cells ∈ eval q db := by
  unfold eval
  rw [List.mem_map]
  constructor
  · rintro ⟨m, hm, rfl⟩
    exact ⟨m.out, (h.2 _).mp (mem_outs.mpr ⟨m, hm, rfl⟩), rfl⟩
  · rintro ⟨x, hx, rfl⟩
    obtain ⟨m, hm, rfl⟩ := mem_outs.mp ((h.2 x).mpr hx)
    exact ⟨m, hm, rfl⟩

/-- **C11, initial rows.** The subscription starts with exactly the query result, no events, change
id counter at 1. -/
theorem initial_correct {q : Query} {db : Db} (h : DbOk q.srcs db) (hn : ∀ s ∈ q.srcs, (db s.tbl).Nodup) :
    Represents q (initial q db) db ∧ (initial q db).view.map (·.2) = eval q db ∧
    (initial q db).events = [] ∧ (initial q db).nextId = 1 := by
  obtain ⟨h1, h2, h3, h4⟩ := initial_spec h hn
  refine ⟨⟨h1, fun x => by rw [h2]⟩, ?_, h3, h4⟩
  unfold eval
  rw [← h2]
  simp [State.view, State.outs, MRow.out, List.map_map, Function.comp_def]

/-- a history: the database after each batch and the candidates of that batch -/
abbrev Hist := List (Db × List (Nat × List Key))

def run (q : Query) (st : State) : Hist → State
  | [] => st
  | (db, c) :: rest => run q (step q db st c) rest

def lastDb (db : Db) : Hist → Db
  | [] => db
  | (db', _) :: rest => lastDb db' rest

def GoodHist (q : Query) : Db → Hist → Prop
  | _, [] => True
  | db0, (db1, c) :: rest => DbOk q.srcs db1 ∧ CleanCands c ∧ Covered q db0 db1 c ∧ GoodHist q db1 rest

theorem run_correct {q : Query} (hq : q.Ok) : ∀ (h : Hist) (db0 : Db) (st : State), DbOk q.srcs db0 →
    GoodHist q db0 h → Represents q st db0 → Represents q (run q st h) (lastDb db0 h) := by
  intro h
  induction h with
  | nil => intro db0 st _ _ hr; exact hr
  | cons a rest ih =>
    intro db0 st h0 hg hr
    obtain ⟨db1, c⟩ := a
    obtain ⟨h1, hk, hcov, hrest⟩ := hg
    exact ih db1 _ h1 hrest (ivm_correct_left_partial hq h0 h1 hk hcov hr)

/-- **C11, first sentence, whole histories.** From the initial query through every history of
databases and candidate batchings (each batch covering its changed rows), the materialised rows
equal the query on the current database. -/
theorem ivm_correct_history {q : Query} (hq : q.Ok) {db0 : Db} (h0 : DbOk q.srcs db0)
    (hn : ∀ s ∈ q.srcs, (db0 s.tbl).Nodup) (h : Hist) (hg : GoodHist q db0 h) :
    Represents q (run q (initial q db0) h) (lastDb db0 h) :=
  run_correct hq h db0 _ h0 hg (initial_correct h0 hn).1

/-- **C11, events replay.** The events emitted by a batch, applied in order to the client's copy
(rowid ↦ cells), give the materialised rows; under the hypotheses of the correctness theorem their
cells are the query result on the current database. -/
theorem events_replay {q : Query} {db0 db1 : Db} {st : State} {cands : List (Nat × List Key)}
    (hq : q.Ok) (h0 : DbOk q.srcs db0) (h1 : DbOk q.srcs db1) (hk : CleanCands cands)
    (hcov : Covered q db0 db1 cands) (hrep : Represents q st db0) :
    ∃ ex, (step q db1 st cands).events = st.events ++ ex ∧
      SameSet (replay st.view ex) (step q db1 st cands).view ∧
      ∀ cells, (∃ rowid, (rowid, cells) ∈ replay st.view ex) ↔ cells ∈ eval q db1 := by
  obtain ⟨⟨ex, t⟩, _⟩ := step_mechanics h1 hrep.1 hk
  have hview := t.view
  refine ⟨ex, t.events, hview, fun cells => ?_⟩
  rw [← represents_eval (ivm_correct_left_partial hq h0 h1 hk hcov hrep) cells]
  constructor
  · rintro ⟨rowid, hr⟩
    obtain ⟨m, hm, heq⟩ := mem_view.mp ((hview _).mp hr)
    exact ⟨m, hm, by simpa using congrArg Prod.snd heq⟩
  · rintro ⟨m, hm, rfl⟩
    exact ⟨m.rowid, (hview _).mpr (mem_view.mpr ⟨m, hm, rfl⟩)⟩

/-- **C11, change ids.** Whatever the database and the candidates, the events of a batch carry the
ids `nextId, nextId + 1, …`: they increase by exactly one per event, across batches too. -/
theorem change_ids_succ {q : Query} {db : Db} {st : State} {cands : List (Nat × List Key)}
    (h : DbOk q.srcs db) (hs : StOk st) (hk : CleanCands cands) :
    ∃ ex, (step q db st cands).events = st.events ++ ex ∧ Consec st.nextId ex ∧
      (step q db st cands).nextId = st.nextId + ex.length :=
  emits_step q db st cands

/-- **C11, no event when the result did not change.** If the query result on the new database is
the one the subscription already holds, a batch — whatever its candidates — leaves the state as it
is: no event, no id consumed. -/
theorem no_event_if_unchanged {q : Query} {db0 db1 : Db} {st : State} {cands : List (Nat × List Key)}
    (h1 : DbOk q.srcs db1) (hk : CleanCands cands) (hrep : Represents q st db0)
    (hsame : ∀ x, x ∈ evalKeyed q db0 ↔ x ∈ evalKeyed q db1) :
    step q db1 st cands = st ∧ (step q db1 st cands).events = st.events := by
  have := step_noop h1 hrep.1 (fun x => (hrep.2 x).trans (hsame x)) cands hk
  exact ⟨this, by rw [this]⟩

theorem changesOf_shape (t nk nc : Nat) (k : Key) (rc : RowChange) :
    ∀ c ∈ changesOf t nk nc k rc, c.tbl = t ∧ c.key = k := by
  intro c hc
  cases rc <;> simp only [changesOf] at hc
  · split at hc
    · simp only [List.mem_singleton] at hc; subst hc; exact ⟨rfl, rfl⟩
    · obtain ⟨_, _, rfl⟩ := List.mem_map.mp hc; exact ⟨rfl, rfl⟩
  · rcases List.mem_cons.mp hc with rfl | hc
    · exact ⟨rfl, rfl⟩
    · obtain ⟨_, _, rfl⟩ := List.mem_map.mp hc; exact ⟨rfl, rfl⟩
  · obtain ⟨_, _, rfl⟩ := List.mem_map.mp hc; exact ⟨rfl, rfl⟩
  · simp only [List.mem_singleton] at hc; subst hc; exact ⟨rfl, rfl⟩

/-- **C11, relevance filter (after the fix 9b7fd83).** Every row change of a table the query reads
that produces any cr-sqlite change at all — insert of a new row (no sentinel!), re-insert, update
of any column, delete — puts the row's key into the candidate map, wherever its changes stand in
the transaction's change list and whatever columns the query references. -/
theorem filter_complete (q : Query) (t nk nc : Nat) (k : Key) (rc : RowChange) (chs : List Chg)
    (ht : (posOf t q.srcs).isSome = true) (hne : changesOf t nk nc k rc ≠ [])
    (hsub : ∀ c ∈ changesOf t nk nc k rc, c ∈ chs) :
    ∃ cand ∈ candidates q chs, cand.1 = t ∧ k ∈ cand.2 := by
  obtain ⟨c, hc⟩ := List.exists_mem_of_ne_nil _ hne
  obtain ⟨h1, h2⟩ := changesOf_shape t nk nc k rc c hc
  have hrel : relevant q c = true := by unfold relevant; rw [h1]; exact ht
  exact hasCand_candidates.mpr ⟨c, hsub c hc, hrel, h1, h2⟩

/-! ### what the code gets wrong (by evaluation of the model) -/

section counterexamples

/-- t(id; b) LEFT JOIN u(k; x) ON u.k = t.b, projecting t.id, u.x -/
def qLeft : Query :=
  { base := ⟨0, 1⟩, joins := [⟨.left, ⟨1, 1⟩, .cmp .eq (.col 1 0) (.col 0 1)⟩], where_ := .tt,
    proj := [.col 0 0, .col 1 1] }

def dbL0 : Db := fun t => if t = 0 then [[.int 1, .int 5]] else []
def dbL1 : Db := fun t => if t = 0 then [[.int 1, .int 5]] else if t = 1 then [[.int 5, .int 9]] else []

/-- **F7 (known finding), insert on the nullable side.** `t` holds (1,5), the subscription holds the
null-extended row; a transaction inserts u(5,9) and nothing else; the candidates are complete
({u: 5}).  The code keeps the null-extended row next to the joined one: two rows where the query
returns one.  (Two-row witness.) -/
theorem ivm_left_join_counterexample :
    ((step qLeft dbL1 (initial qLeft dbL0) [(1, [[.int 5]])]).rows.map (·.cells) =
      [[.int 1, .null], [.int 1, .int 9]]) ∧ eval qLeft dbL1 = [[.int 1, .int 9]] := by
  decide +kernel

/-- **F7, converse.** Deleting the only matching row of the nullable side removes the joined row and
does not put the null-extended row back: no row where the query returns one. -/
theorem ivm_left_join_delete_counterexample :
    ((step qLeft dbL0 (initial qLeft dbL1) [(1, [[.int 5]])]).rows.map (·.cells) = []) ∧
      eval qLeft dbL0 = [[.int 1, .null]] := by
  decide +kernel

/-- t(id; a) LEFT JOIN w(id; y) ON w.id = t.a, projecting t.id, w.y -/
def qEmpty : Query :=
  { base := ⟨0, 1⟩, joins := [⟨.left, ⟨1, 1⟩, .cmp .eq (.col 1 0) (.col 0 1)⟩], where_ := .tt,
    proj := [.col 0 0, .col 1 1] }

def dbE0 : Db := fun t => if t = 0 then [[.int 1, .text [112]]] else []
def dbE1 : Db := fun t => if t = 0 then [[.int 1, .text [112]]] else if t = 1 then [[.text [], .int 7]] else []

/-- why `CleanKey` excludes the empty string: a row of the nullable side whose key is `''` is
inserted (it joins with nothing); `coalesce(pk, "")` puts every null-extended row into its slice and
the delete pass removes them all. -/
theorem empty_string_key_counterexample :
    ((step qEmpty dbE1 (initial qEmpty dbE0) [(1, [[.text []]])]).rows.map (·.cells) = []) ∧
      eval qEmpty dbE1 = [[.int 1, .null]] := by
  decide +kernel

end counterexamples

/-! ### non-vacuity: the hypotheses are met by concrete inputs -/

section examples

/-- t(id; b) INNER JOIN u(k; x) ON u.k = t.b WHERE t.b > 1, projecting t.id, u.x -/
def qInner : Query :=
  { base := ⟨0, 1⟩, joins := [⟨.inner, ⟨1, 1⟩, .cmp .eq (.col 1 0) (.col 0 1)⟩],
    where_ := .cmp .gt (.col 0 1) (.const (.int 1)), proj := [.col 0 0, .col 1 1] }

def dbI0 : Db := fun t => if t = 0 then [[.int 1, .int 5], [.int 2, .int 6]] else if t = 1 then [[.int 5, .int 9]] else []
def dbI1 : Db := fun t => if t = 0 then [[.int 1, .int 6], [.int 2, .int 6]] else if t = 1 then [[.int 5, .int 9], [.int 6, .int 8]] else []

example : qInner.Ok := by simp [Query.Ok, Query.srcs, qInner]
example : qInner.Inner := by intro j hj; simp [qInner] at hj; subst hj; rfl

/-- the model run on that instance: update of t(1).b and insert of u(6), one batch -/
example : (step qInner dbI1 (initial qInner dbI0) [(0, [[.int 1]]), (1, [[.int 6]])]).rows.map (·.cells) =
    [[.int 1, .int 8], [.int 2, .int 8]] ∧ eval qInner dbI1 = [[.int 1, .int 8], [.int 2, .int 8]] := by decide +kernel

/-- its events: the row of t(1) changes its partner (insert of the new pair, delete of the old one),
t(2) gets a partner; ids 1, 2, 3 -/
example : (step qInner dbI1 (initial qInner dbI0) [(0, [[.int 1]]), (1, [[.int 6]])]).events.map (fun e => (e.kind, e.rowid, e.id)) =
    [(.insert, 2, 1), (.delete, 1, 2), (.insert, 3, 3)] := by decide +kernel

example : CleanCands [(0, [[Val.int 1]]), (1, [[Val.int 6]])] := by
  intro c hc k hk
  simp only [List.mem_cons, List.mem_nil_iff, or_false] at hc
  rcases hc with rfl | rfl <;> simp only [List.mem_singleton] at hk <;> subst hk <;> simp [CleanKey, CleanVal]

/-- the candidates of that batch come out of the change list of the transaction -/
example : candidates qInner (changesOf 0 1 2 [.int 1] (.update [1]) ++ changesOf 1 1 2 [.int 6] .insertNew) =
    [(0, [[.int 1]]), (1, [[.int 6]])] := by decide +kernel

/-- a LEFT-join batch inside the proved region: the transaction that inserts u(5) also touches t(1) -/
example : (step qLeft dbL1 (initial qLeft dbL0) [(1, [[.int 5]]), (0, [[.int 1]])]).rows.map (·.cells) = [[.int 1, .int 9]] := by
  decide +kernel

end examples

end Corro.Ivm
