/-
C15 — schema changes are additive, atomic, idempotent and survive restart (model
`Corro/Model/Schema.lean`).  Quantifier of the property: every sequence of schema submissions (any
statements: new tables, added columns, index changes, forbidden edits, syntax errors at any
statement) against databases holding data.  Additivity, row preservation and rejection hold from
*every* state; idempotence, restart and the key's invariance from every `Reachable` one.
-/
import Corro.Lemmas.Schema

namespace Corro.Schema
open AList

/-- any state the node can be in: from the empty database, any sequence of operations -/
def Reachable (st : State) : Prop := ∃ ops : List Op, st = run State.init ops

/-- the two schemas describe the same tables: same names; per table the same ordered key, the same
columns in the same order with the same definitions, the same indexes (a map by name) -/
def SchemaSame (p m : Schema) : Prop :=
  ∀ n, match lookup n p, lookup n m with
    | some a, some b => TableSame a b
    | none, none => True
    | _, _ => False

theorem reachable_inv {st : State} (h : Reachable st) : Inv st := by
  obtain ⟨ops, rfl⟩ := h
  exact inv_run ops inv_init

theorem reachable_run {st : State} (h : Reachable st) (ops : List Op) : Reachable (run st ops) := by
  obtain ⟨ops0, rfl⟩ := h
  exact ⟨ops0 ++ ops, by simp [run, List.foldl_append]⟩

/-- "Applying a schema never drops a table or column, never changes a primary key or an existing
column's definition": every statement `apply_schema` executes — also the ones executed before it hits
an error — creates a table the node did not know, adds a column that did not exist and is not part of
the key, or creates/drops an index of a known table.  For all schemas. -/
theorem plan_additive (old new : Schema) : ∀ a ∈ (planSteps old new).1, a.Additive old new :=
  planSteps_additive old new

/-- the same for an accepted plan -/
theorem plan_ok_additive {old new : Schema} {acts : List Action} (h : plan old new = .ok acts) :
    ∀ a ∈ acts, a.Additive old new := by
  unfold plan at h
  split at h
  · rename_i a hp
    cases h
    exact fun x hx => planSteps_additive old new x (by rw [hp]; exact hx)
  · cases h

/-- Additivity on the database, for every state and submission: after an accepted submission every
table that existed still exists, with the same ordered key, its old columns as a prefix of the new
column list (same definitions, same order), and still replicated. -/
theorem submission_additive_db {st st' : State} {stmts : List Stmt} {r : Applied}
    (h : submit st stmts = (st', .ok r)) {n : Name} {dt : DbTable} (hn : lookup n st.db.tables = some dt) :
    ∃ dt', lookup n st'.db.tables = some dt' ∧ dt'.tbl.pk = dt.tbl.pk ∧
      (∃ cs, dt'.tbl.cols = dt.tbl.cols ++ cs) ∧ (dt.crr = true → dt'.crr = true) := by
  obtain ⟨dt', _, h1, h2⟩ := submit_db_keeps h hn
  exact ⟨dt', h1, h2.pk, h2.cols, h2.crr⟩

/-- Additivity on the schema the node works with: after an accepted submission every table it knew is
still known, with the same ordered key and every old column with its old definition. -/
theorem submission_additive_mem {st st' : State} {stmts : List Stmt} {r : Applied}
    (h : submit st stmts = (st', .ok r)) {n : Name} {t : Table} (hn : lookup n st.mem = some t) :
    ∃ t', lookup n st'.mem = some t' ∧ t'.pk = t.pk ∧
      ∀ c col, lookup c t.cols = some col → lookup c t'.cols = some col := by
  -- the accepted submission: parsed as `part`; its plan has no error (`hs`) and executes (`he`) to the tables
  -- `tables'`, importing `imp`; `st'` is read off that
  obtain ⟨_, part, tables', imp, _, _, hs, he, rfl, _⟩ := submit_ok_iff.mp h
  cases hnt : lookup n (merge st.mem part) with
  | none => rw [(planSteps_ok hs).1 n hnt] at hn; cases hn
  | some nt =>
    obtain ⟨hcols, hpk, _⟩ := tableSteps_ok (planSteps_ok_table hs hn hnt)
    -- imported tables are new tables, so they are not `n`
    have hni : n ∉ keys imp := fun hk => by
      obtain ⟨t0, ht0⟩ := (execAll_ok he).2 n hk
      have := (planSteps_additive _ _ _ ht0).1
      rw [hn] at this; cases this
    refine ⟨reorderCols t nt, ?_, hpk.symm, fun c col hc => ?_⟩
    · rw [lookup_reorderSchema, lookup_merge_of_not_mem _ _ hni, hnt, hn]; rfl
    · rw [lookup_reorderCols, hcols c (mem_keys_of_lookup hc), hc]

/-- "… and keeps every existing row": after any accepted submission every table has exactly its old
rows, in order, each extended by the same cells for the new columns (old cells untouched). -/
theorem rows_preserved {st st' : State} {stmts : List Stmt} {r : Applied}
    (h : submit st stmts = (st', .ok r)) {n : Name} {dt : DbTable} (hn : lookup n st.db.tables = some dt) :
    ∃ dt' ext, lookup n st'.db.tables = some dt' ∧ dt'.rows = dt.rows.map (fun row => row ++ ext) := by
  obtain ⟨dt', ext, h1, h2⟩ := submit_db_keeps h hn
  exact ⟨dt', ext, h1, h2.rows.trans (List.append_nil _)⟩

/-- The same over any sequence of submissions (accepted or not), row insertions and restarts, from
any state: every row that existed is still there, extended only by cells of new columns; the key and
the old columns of its table are unchanged. -/
theorem rows_preserved_run (st : State) (ops : List Op) {n : Name} {dt : DbTable}
    (hn : lookup n st.db.tables = some dt) :
    ∃ dt' ext more, lookup n (run st ops).db.tables = some dt' ∧
      dt'.rows = dt.rows.map (fun row => row ++ ext) ++ more ∧
      dt'.tbl.pk = dt.tbl.pk ∧ ∃ cs, dt'.tbl.cols = dt.tbl.cols ++ cs := by
  obtain ⟨dt', ext, more, h1, h2⟩ := run_db_keeps ops hn
  exact ⟨dt', ext, more, h1, h2.rows, h2.pk, h2.cols⟩

/-- "a rejected or failing schema change leaves both the database and the schema the node works with
exactly as before": on any `Err` — empty submission, syntax error at any statement, `constrain`,
a decision of `apply_schema`, or a statement failing in SQLite/cr-sqlite after earlier statements of
the same submission were executed — the whole state is the old one. -/
theorem reject_is_noop {st st' : State} {stmts : List Stmt} {e : Err}
    (h : submit st stmts = (st', .error e)) : st' = st :=
  submit_err h

/-- "Re-applying an already applied schema changes nothing": after an accepted submission, the same
submission again is accepted, executes no statement, imports nothing, and returns the same state
(database, `__corro_schema` and in-memory schema). -/
theorem resubmit_noop {st st' : State} {stmts : List Stmt} {r : Applied} (hr : Reachable st)
    (h : submit st stmts = (st', .ok r)) :
    submit st' stmts = (st', .ok { acts := [], imported := [] }) :=
  resubmit_same (reachable_inv hr) h

/-- on a reachable state the reconcile path (a new table that already exists in the database) is never
taken: nothing is imported -/
theorem submit_imports_nothing {st st' : State} {stmts : List Stmt} {r : Applied} (hr : Reachable st)
    (h : submit st stmts = (st', .ok r)) : r.imported = [] :=
  (inv_submit_ok (reachable_inv hr) h).2

/-- "after a restart the node works with the same schema it had before": in every reachable state,
what `init_schema` reads back from `__corro_schema` is the in-memory schema — same tables, same
ordered keys, same columns in the same order, same indexes. -/
theorem restart_same_schema {st : State} (hr : Reachable st) : SchemaSame (initSchema st.db) st.mem := by
  have hI := reachable_inv hr
  intro n
  unfold initSchema
  cases hm : lookup n st.mem with
  | none => rw [(hI.unknown n hm).1]; trivial
  | some t =>
    obtain ⟨dt, _, hp, hs⟩ := hI.known n t hm
    rw [hp]; exact hs

/-- … and the database the node restarts on holds exactly those tables with that key and those
columns: the in-memory schema never drifts from the database. -/
theorem mem_matches_db {st : State} (hr : Reachable st) {n : Name} {t : Table} (h : lookup n st.mem = some t) :
    ∃ dt, lookup n st.db.tables = some dt ∧ TableSame dt.tbl t := by
  obtain ⟨dt, hd, _, hs⟩ := (reachable_inv hr).known n t h
  exact ⟨dt, hd, hs⟩

/-- The ordered key of a table the node knows is invariant over any sequence of submissions
(accepted or rejected), row insertions and restarts — in the in-memory schema and in the database.
(This is the statement the repair of F11 restores: `PRIMARY KEY (a,b)` re-submitted as `(b,a)`.) -/
theorem pk_never_changes {st : State} (hr : Reachable st) (ops : List Op) {n : Name} {t : Table}
    (h : lookup n st.mem = some t) :
    (∃ t', lookup n (run st ops).mem = some t' ∧ t'.pk = t.pk) ∧
    (∃ dt', lookup n (run st ops).db.tables = some dt' ∧ dt'.tbl.pk = t.pk) := by
  have hI := reachable_inv hr
  refine ⟨run_mem_pk ops hI h, ?_⟩
  obtain ⟨dt, hd, _, hs⟩ := hI.known n t h
  obtain ⟨dt', _, _, h1, h2⟩ := run_db_keeps ops hd
  exact ⟨dt', h1, h2.pk.trans hs.pk⟩

section examples

def cA : Column := { ty := "INTEGER", notNull := true, dflt := none, gen := none, inlinePk := false, fk := false, pk := false }
def cB : Column := { ty := "TEXT", notNull := true, dflt := none, gen := none, inlinePk := false, fk := false, pk := false }
def cC : Column := { ty := "TEXT", notNull := false, dflt := some "w1", gen := none, inlinePk := false, fk := false, pk := false }
def cD : Column := { ty := "INTEGER", notNull := false, dflt := some "7", gen := none, inlinePk := false, fk := false, pk := false }
def cG : Column := { ty := "INTEGER", notNull := false, dflt := none, gen := some ⟨"a", false⟩, inlinePk := false, fk := false, pk := false }

/-- `CREATE TABLE t1 (a INTEGER NOT NULL, b TEXT NOT NULL, c TEXT DEFAULT 'w1', PRIMARY KEY (a, b)); CREATE INDEX t1_i0 ON t1 (c)` -/
def s1 : List Stmt :=
  [.table "t1" [("a", cA), ("b", cB), ("c", cC)] (some ["a", "b"]) false, .index "t1_i0" "t1" ⟨["c"], none, false⟩]
/-- `t1` with a new column `d` written in the middle, a generated column, and a changed index -/
def s2 : List Stmt :=
  [.table "t1" [("a", cA), ("d", cD), ("b", cB), ("c", cC), ("g", cG)] (some ["a", "b"]) false,
   .index "t1_i0" "t1" ⟨["c", "a"], none, false⟩]
/-- a new table `t2`, then `t1` with its key written `(b, a)` -/
def s3 : List Stmt :=
  [.table "t2" [("a", { cA with inlinePk := true })] none false,
   .table "t1" [("a", cA), ("b", cB), ("c", cC), ("d", cD), ("g", cG)] (some ["b", "a"]) false,
   .index "t1_i0" "t1" ⟨["c", "a"], none, false⟩]

def st1 : State := run State.init [.submit s1, .rows "t1" 2]
def st2 : State := run st1 [.submit s2]

example : (lookup "t1" st1.db.tables).map (fun dt => (dt.tbl.pk, keys dt.tbl.cols, keys dt.tbl.idx, dt.rows.length, dt.crr))
    = some (["a", "b"], ["a", "b", "c"], ["t1_i0"], 2, true) := by decide +kernel

/-- `s2` adds the columns at the end (whatever the written position), keeps both rows with
their old cells and the default in the new stored column, and replaces the index -/
example : (lookup "t1" st2.db.tables).map (fun dt => (dt.tbl.pk, keys dt.tbl.cols, dt.rows))
    = some (["a", "b"], ["a", "b", "c", "d", "g"],
        [[("a", "100"), ("b", "101"), ("c", "102"), ("d", "7")], [("a", "200"), ("b", "201"), ("c", "202"), ("d", "7")]]) := by
  decide +kernel

/-- … and the in-memory schema has the database's column order, not the written one -/
example : (lookup "t1" st2.mem).map (fun t => keys t.cols) = some ["a", "b", "c", "d", "g"] := by decide +kernel

/-- the plan of the second submission: two `ALTER TABLE ADD COLUMN`, then `DROP INDEX` + `CREATE INDEX` -/
example : ((submit st1 s2).2.toOption.map (fun r => r.acts.map Action.table)) = some ["t1", "t1", "t1", "t1"] := by decide +kernel

/-- a reordered key is rejected (`ModifyPrimaryKeys`) *after* `t2` was created in the same
transaction (the plan's executed prefix is not empty) — and nothing at all is left of it -/
example : ((planSteps st2.mem (merge st2.mem ((parse s3).toOption.getD []))).1.map Action.table, (submit st2 s3).2.toOption.isNone)
    = (["t2"], true) := by decide +kernel
example : (submit st2 s3).1 = st2 := by decide +kernel
example : ((submit st2 s3).2 matches .error .modifyPk) = true := by decide +kernel

example : (submit st2 s2).1 = st2 ∧ (submit st2 s2).2.toOption = some { acts := [], imported := [] } := by decide +kernel

/-- after a restart: literally the same in-memory schema here -/
example : (restart st2).mem = st2.mem := by decide +kernel

/-- forbidden edits are told apart: dropped column, changed default, NOT NULL without default,
unique index, syntax error at the second statement -/
example : ((submit st2 [.table "t1" [("a", cA), ("b", cB)] (some ["a", "b"]) false]).2 matches .error .removeColumn) = true := by decide +kernel
example : ((submit st2 [.table "t1" [("a", cA), ("b", cB), ("c", { cC with dflt := some "w2" }), ("d", cD), ("g", cG)] (some ["a", "b"]) false]).2
    matches .error .changeColumn) = true := by decide +kernel
example : ((submit st2 [.table "t3" [("a", { cA with inlinePk := true }), ("b", cB)] none false]).2
    matches .error .notNullNeedsDefault) = true := by decide +kernel
example : ((submit st2 [.table "t3" [("a", { cA with inlinePk := true })] none false, .index "t3_u" "t3" ⟨["a"], none, true⟩]).2
    matches .error .uniqueIndex) = true := by decide +kernel
example : ((submit st2 [.table "t3" [("a", { cA with inlinePk := true })] none false, .syntaxError]).2
    matches .error .parse) = true := by decide +kernel

end examples

end Corro.Schema
