/-
C01 — replicas converge under any delivery order, duplication, chunking and loss: the PROTOCOL-level
theorems, about the executable cluster model `Corro/Model/ClusterSys.lean` (a list of `Node`s of
`Corro/Model/Node.lean`, the global log `L` of acknowledged local transactions, and — ghost state — per
node the list `R i` of changes merged into its store so far).  Property theorems, and the two notions
of quiescence they speak of (`AllHeld`, `Quiescent`); definitions and lemmas are in
`Corro/Lemmas/Cluster*.lean`.  The invariants of runs are proved once, for the batched model with crashes,
of which `ClusterSys.step` is the case of singleton batches (`step_eq_stepB`).  The theorems about runs
without crashes (`ReachLive`) are read off those about all runs (`Crash.ReachC`): every `ReachLive` run
is one, with every node alive.

Steps of the model (`ClusterSys.step`): `write i stmts` (`Node.localWrite`; the produced change list
is appended to `L`), `deliverOrigin i site ver lo hi` (the chunk `[lo, hi]` of the ORIGINAL change list
of `(site, ver)` with the original `last_seq`; any range inside `0..=last_seq`, any order, any number of
times), `sync i j keep` (client `i` computes `computeAvailableNeeds (syncState i) (syncState j)`,
server `j` answers every need through `Node.serve`; the answers selected by `keep` — any sub-list, any
order, repeats allowed — reach `i`), `kill i`, `restart i`.  So everything a node ever receives is an
original chunk or something another node served from its own state.

RESTRICTIONS under which the theorems below are proved (all explicit in the statements; the full
statements they restrict are quoted in the comments, names carry `_partial`):

(R1 is lifted in `Props/C01ClusterBatch.lean` — arbitrary batches —, the first half of R4 in
`Props/C01ClusterCrash.lean` — any number of `kill` / `restart` steps —, both at once in
`Props/C01ClusterFull.lean`.)

R1. changesets reach `process_multiple_changes` ONE PER BATCH (`Node.deliver [it]`; the model's
    `step` is built that way);
R2. `LogOK c.log`: the log is what local transactions produce in a history WITHOUT RE-INSERTION of a
    deleted row: per site the versions are `1, 2, 3, …`; every change is attributed to its
    transaction, has causal length 1 or 2, a sentinel is `(-1, NULL, col_version = cl)`, a delete is
    a sentinel, a column change has `col_version ≥ 1`; change lists are strictly sorted by seq.
    (With re-insertions the store also shows zeroed leftovers and implicit sentinels, which are not
    literally changes of the log.)  NECESSARY for `held_inv`: `held_inv_needs_no_reinsertion_counterexample`
    (`Props/C01ClusterFull.lean`).
R3. `OpOK`: at every `write` step the local write path agrees with merging its own change list
    (`WriteAgrees`, decidable; the local write path of cr-sqlite is trusted, DESIGN §2);
R4. (`held_inv`, convergence) no `kill` / `restart` in the run (`ReachLive`; the node-level restart
    theorems are C06's), and the run passes only through states in which no node has a sequence row of
    a version without a buffered row of it (`Cluster.clean`).  R4's second half is NECESSARY:
    `held_inv_needs_clean_counterexample`.
R5. (convergence) `NoTies` (a decidable predicate on the log): no two distinct sentinel-only changes
    — deletes, inserts into a key-only table — of the same row with the same causal length (e.g. two
    sites deleting the same row concurrently), and no two changes of a cell and incarnation with
    equal keys `(col_version, value, site)`.  NECESSARY: `converged_at_quiescence_ties_counterexample`;
    the divergence occurs on real agents (known finding `equal-cl-sentinel-tie-empty-answer`).
R6. (liveness) fairness is a HYPOTHESIS: the schedule contains, after the last write, a lossless
    session `i ← a` for every ordered pair of distinct nodes (`LosslessRun`, `hcov`).  That the real
    sync loop provides such sessions (peer choice, timeouts) is not shown.
-/
import Corro.Lemmas.ClusterConv

namespace Corro.ClusterSys
open Corro.Crdt Corro.Node

/-- **C01 ("a node never shows a value that no acknowledged transaction produced"), cluster level,
`store_from_log`.**  In EVERY reachable cluster state (any steps, including kill / restart; R1–R3)
every live entry of every node's `crsql_changes` — `(tbl, pk, cid, val, col_version, cl, site,
db_version, seq)`, sentinel entries included — is literally a change of some transaction of the
global log, and so is every buffered row.

Without R2 the statement is false (`held_inv_needs_no_reinsertion_counterexample`: an implicit sentinel
in a store).  A statement for histories with re-insertions has to allow as a live entry also a zeroed
leftover (`col_version = 0`, value and attribution of a log change of that cell) and an implicit
sentinel (attributed to the column change that created the incarnation); it is not proved. -/
theorem store_from_log_partial {k : Nat} {c : Cluster} (h : Reach k c) (hL : LogOK c.log) (i : Nat)
    (n : Node) (hi : c.nodes[i]? = some n) :
    (∀ e ∈ n.db.changes, e ∈ c.log.all) ∧ (∀ e ∈ n.buf, e ∈ c.log.all) := by
  have hN := (reach_ninv h hL).node i n hi
  exact ⟨fun e he => hN.rsub e (hN.store.lit.mem he), hN.bufsub⟩

/-- the same, read on the stored rows: the causal length of every stored row is that of a log change
for the row, and every stored cell carries the value, column version and attribution of a log change
of that very cell and incarnation -/
theorem no_invented_values_cluster_partial {k : Nat} {c : Cluster} (h : Reach k c) (hL : LogOK c.log)
    (i : Nat) (n : Node) (hi : c.nodes[i]? = some n) :
    ∀ r ∈ n.db.rows,
      (∃ ch ∈ c.log.all, ch.tbl = r.tbl ∧ ch.pk = r.pk ∧ ch.cl = r.cl) ∧
      ∀ l ∈ r.cells, ∃ ch ∈ c.log.all, ch.tbl = r.tbl ∧ ch.pk = r.pk ∧ ch.cid = l.cid ∧
        ch.val = l.val ∧ ch.colv = l.clk.colv ∧ ch.cl = r.cl ∧ ch.site = l.clk.site ∧
        ch.dbv = l.clk.dbv ∧ ch.seq = l.clk.seq := by
  intro r hr
  have hN := (reach_ninv h hL).node i n hi
  constructor
  · obtain ⟨ch, hch, h1, h2⟩ := hN.store.inv.row_prov (findRow_of_mem hN.store.nodup hr)
    exact ⟨ch, hN.rsub ch hch, h1, h2⟩
  · intro l hl
    exact ⟨_, hN.rsub _ ((hN.store.lit r hr).cells l hl), rfl, rfl, rfl, rfl, rfl, rfl, rfl, rfl, rfl⟩

/-- **`received_set`.**  In every reachable cluster state the store of node `i` is a merge of
exactly the set `R i` of changes it has merged so far (`Inv`, the invariant of the CRDT half of
C01: everything `Props/C01.lean` proves about `mergeAll ∅ P` holds of `(node i).db` with `P = R i`),
and `R i` consists of changes of the log. -/
theorem received_set_partial {k : Nat} {c : Cluster} (h : Reach k c) (hL : LogOK c.log) (i : Nat)
    (n : Node) (hi : c.nodes[i]? = some n) :
    Inv n.db (c.R i) ∧ n.db.NoDup ∧ ∀ e ∈ c.R i, e ∈ c.log.all := by
  have hN := (reach_ninv h hL).node i n hi
  exact ⟨hN.store.inv, hN.store.nodup, hN.rsub⟩

/-- the ghost list is exact: one delivery merges `mergedBy n it`, in that order, and nothing else -/
theorem received_set_exact (n : Node) (it : Item) :
    (n.deliver [it]).db = mergeAll n.db (mergedBy n it) :=
  mergedByBatch_single n it ▸ mergedByBatch_spec n [it]

/-- **`held_inv` (the core).**  In every cluster state reachable under R1–R4: if node `i` books
`(a, v)` as held (`Held`: `v` within the head, not needed, no partial or a complete and applied one)
then every change `ch` of the transaction `L(a, v)` is in `R i` — merged into the node's store — or is
dominated in the log (`Dom`: some OTHER change of the log for the same row has a larger causal
length; or `ch` is a sentinel / delete and the other change carries the same causal length; or `ch`
is a column change and the other is a change of the same cell and incarnation whose key
`(col_version, value, site)` is not below `ch`'s).

Preserved by every step: original chunks in any chunking and order (a version is booked only when
its seq range is covered), relay answers (a relay serves exactly its live entries of `(a, v)`, and a
change of `L(a, v)` missing from them is dominated — `Crash.live_covers`), `Empty` answers, answers cut from
buffered rows, any loss / duplication / reordering inside a session (`keep`), later local writes
(domination is monotone in the log).

With kill / restart between the steps: `held_inv_crash_partial`; for batches of several changesets:
`held_inv_batch_partial`; both: `held_inv_full_partial`.  Without R2 it is false
(`held_inv_needs_no_reinsertion_counterexample`). -/
theorem held_inv_partial {k : Nat} {c : Cluster} (h : ReachLive k c) (hL : LogOK c.log) (i : Nat)
    (n : Node) (hi : c.nodes[i]? = some n) (a v : Nat) (hh : Held n a v) :
    ∀ ch ∈ c.log.get a v, ch ∈ c.R i ∨ Dom c.log.all ch :=
  ((Crash.reachC_inv (Crash.reachC_of_reachLive h) hL).node i n hi).2.held a v hh

/-- **the relay lemma** behind it: what a node that holds `(a, v)` serves for it — its live entries
attributed to `(a, v)` — contains every change of `L(a, v)` that is not dominated -/
theorem relay_serves_nondominated_partial {k : Nat} {c : Cluster} (h : ReachLive k c) (hL : LogOK c.log)
    (j : Nat) (n : Node) (hj : c.nodes[j]? = some n) (a v : Nat) (hh : Held n a v) :
    ∀ ch ∈ c.log.get a v, ch ∈ n.live a v ∨ Dom c.log.all ch := by
  have := (Crash.reachC_inv (Crash.reachC_of_reachLive h) hL).node j n hj
  exact fun ch hch => Crash.live_covers this.1 this.2 hL hh hch

/-- everything a server sends in a session from a clean state satisfies `ChunkOK`: it carries
changes of its version only, every non-dominated change of its seq range, every change beyond its
`last_seq` is dominated, and an `Empty` covers only versions all of whose changes are dominated -/
theorem served_chunks_ok_partial {k : Nat} {c : Cluster} (h : ReachLive k c) (hL : LogOK c.log)
    (hcl : c.clean = true) (j : Nat) (nj : Node) (hj : c.nodes[j]? = some nj) (ni : Node) :
    ∀ it ∈ answers ni nj, ChunkOK c.log it := by
  have := (Crash.reachC_inv (Crash.reachC_of_reachLive h) hL).node j nj hj
  exact fun it hit => Crash.chunkOK_answers this.1 this.2 hL (clean_node hcl hj) hit

/-- every node holds every transaction of the log -/
def AllHeld (c : Cluster) : Prop :=
  ∀ (i : Nat) (n : Node), c.nodes[i]? = some n → ∀ e ∈ c.log, Held n e.1.1 e.1.2

/-- **`converged_at_quiescence`.**  In a cluster state reachable under R1–R4 in which every node
holds every transaction of the log, every node shows the view (rows, causal lengths, values, column
versions — `Lemmas/CrdtSpec.lean`) that is the specification of the set of ALL changes of the log —
"equal to the merge of all transactions ever acknowledged by any node" — provided the log has no
ties (R5) and is incarnation-complete (`CompleteStrong`, the hypothesis of the CRDT half of C01; true
of real histories because an INSERT writes every non-key column, `localTx_insert_emits_all_columns`;
kept as an explicit hypothesis here). -/
theorem converged_at_quiescence_partial {k : Nat} {c : Cluster} (h : ReachLive k c) (hL : LogOK c.log)
    (hnt : NoTies c.log.all) (hcs : CompleteStrong c.log.all) (hq : AllHeld c) (i : Nat) (n : Node)
    (hi : c.nodes[i]? = some n) : view n.db = spec c.log.all := by
  obtain ⟨hN, hI⟩ := (Crash.reachC_inv (Crash.reachC_of_reachLive h) hL).node i n hi
  exact view_of_holds_log hN hL hI.held hnt hcs (hq i n hi)

/-- **all replicas agree** -/
theorem replicas_agree_at_quiescence_partial {k : Nat} {c : Cluster} (h : ReachLive k c)
    (hL : LogOK c.log) (hnt : NoTies c.log.all) (hcs : CompleteStrong c.log.all) (hq : AllHeld c)
    (i j : Nat) (ni nj : Node) (hi : c.nodes[i]? = some ni) (hj : c.nodes[j]? = some nj) :
    view ni.db = view nj.db := by
  rw [converged_at_quiescence_partial h hL hnt hcs hq i ni hi,
    converged_at_quiescence_partial h hL hnt hcs hq j nj hj]

/-- quiescence as the sync states show it: for every actor the head is the log's, nothing is needed,
nothing is partial (a partial that is complete and applied stays in memory until the next restart;
`generate_sync` does not list it) -/
def Quiescent (c : Cluster) : Prop :=
  ∀ (i : Nat) (n : Node), c.nodes[i]? = some n → ∀ a, (n.booked a).max = c.log.head a ∧
    (n.booked a).needed = [] ∧
    ∀ vp ∈ (n.booked a).partials, vp.2.complete = true ∧ ¬ HasRows n a vp.1

theorem allHeld_of_quiescent {c : Cluster} (hL : LogOK c.log) (hq : Quiescent c) : AllHeld c := by
  intro i n hi e he
  obtain ⟨h1, h2, h3⟩ := hq i n hi e.1.1
  have hv := hL.ver_le e he
  refine ⟨(containsVersion_iff _ _).mpr ⟨?_, by omega⟩, ?_⟩
  · rw [h2]; rintro ⟨p, hp, _⟩; cases hp
  · intro p hp
    exact h3 (e.1.2, p) (alook_some_mem hp)

/-- `converged_at_quiescence`, with quiescence read off the bookkeeping ("all heads equal the log's,
no needs, no partials") -/
theorem converged_when_quiescent_partial {k : Nat} {c : Cluster} (h : ReachLive k c) (hL : LogOK c.log)
    (hnt : NoTies c.log.all) (hcs : CompleteStrong c.log.all) (hq : Quiescent c) (i : Nat) (n : Node)
    (hi : c.nodes[i]? = some n) : view n.db = spec c.log.all :=
  converged_at_quiescence_partial h hL hnt hcs (allHeld_of_quiescent hL hq) i n hi

/-- **`sync_round_progress`.**  From a clean state of a cluster reachable under R1–R4, one LOSSLESS
session of client `i` with server `j` (every answer delivered: `pick (answers ni nj) keep = answers
ni nj`) leaves `i` holding every version of every actor other than `i` itself that `j` holds, and
everything `i` held before: `held i ⊇ held j` (a node always holds its own versions, `Crash.OwnAt`).
Uses the counterparts for `answers` of C04 (the version / the missing seq ranges ARE requested) and
of C05 (a holder answers with one complete changeset, one changeset per requested range, or `Empty`),
derived in `Lemmas/ClusterLive.lean` from the lemmas about `computeAvailableNeeds` and `Node.serve`
those properties rest on, and the delivery lemmas (a complete changeset or an `Empty` settles a version; a partial grows by
every delivered range and is applied when covered). -/
theorem sync_round_progress_partial {k : Nat} {c : Cluster} (h : ReachLive k c) (hL : LogOK c.log)
    (hcl : c.clean = true) {i j : Nat} (hij : i ≠ j) {ni nj : Node} (hi : c.nodes[i]? = some ni)
    (hj : c.nodes[j]? = some nj) {keep : List Nat} (hkeep : pick (answers ni nj) keep = answers ni nj) :
    ∃ ni', (step c (.sync i j keep)).nodes[i]? = some ni' ∧
      (∀ a v, a ≠ i → 1 ≤ v → Held nj a v → Held ni' a v) ∧ (∀ a v, Held ni a v → Held ni' a v) := by
  obtain ⟨ni', h1, _, h2⟩ := Crash.sync_step_progress_crash (Crash.reachC_of_reachLive h) hL hij hi hj (clean_node hcl hj)
    (Crash.allAlive_of_reachLive h i ni hi) hkeep
  exact ⟨ni', h1, h2⟩

/-- **every node always holds its own versions** (so a session with the origin of a version always
delivers it) -/
theorem origin_holds_own_partial {k : Nat} {c : Cluster} (h : ReachLive k c) (hL : LogOK c.log) (i : Nat)
    (n : Node) (hi : c.nodes[i]? = some n) (v : Nat) (h1 : 1 ≤ v) (h2 : v ≤ c.log.head i) : Held n i v :=
  (((Crash.reachC_own (Crash.reachC_of_reachLive h) hL).node i n hi).own v h1 h2).held

/-- **`eventual_convergence`.**  Let `c` be reachable under R1–R4 with a well-formed log without
ties that is incarnation-complete.  Writes stop; the cluster runs ANY schedule `ops` of lossless sync
sessions, each from a clean state (`LosslessRun`), that contains for every ordered pair of distinct
nodes `(i, a)` at least one session `i ← a` (`hcov` — ONE round of all ordered pairs, in any order,
interleaved with any other lossless sessions, is enough, because every node holds its own versions).
Then the log is unchanged, every node holds every version of it, and every node shows the
specification of all acknowledged changes: all replicas agree.

The existence of such a schedule is the fairness ASSUMPTION of C01's liveness; it is a hypothesis
here and not shown of the real scheduler. -/
theorem eventual_convergence_partial {k : Nat} {c : Cluster} (h : ReachLive k c) (hL : LogOK c.log)
    (hnt : NoTies c.log.all) (hcs : CompleteStrong c.log.all) (ops : List Op) (hrun : LosslessRun c ops)
    (hcov : ∀ i a, i < k → a < k → i ≠ a → ∃ keep, Op.sync i a keep ∈ ops) :
    (run c ops).log = c.log ∧ AllHeld (run c ops) ∧
    ∀ (i : Nat) (n : Node), (run c ops).nodes[i]? = some n → view n.db = spec c.log.all :=
  Crash.converges_after_schedule_allAlive (Crash.reachC_of_reachLive h) hL hnt hcs (Crash.allAlive_of_reachLive h) ops hrun hcov

/-! Concrete runs (non-vacuity) and the two counterexamples.  Field order of `Chg`:
`tbl pk cid val colv cl site dbv seq`. -/

namespace Ex

def nodeOf (c : Cluster) (i : Nat) : Node := (c.nodes[i]?).getD (Node.fresh i)

/-- what a node's bookkeeping shows: per actor `(head, needed, versions held only partially)` -/
def books (c : Cluster) (i : Nat) : List (Nat × Nat × RSet × List Nat) :=
  (nodeOf c i).book.map (fun e => (e.1, e.2.max, e.2.needed,
    (e.2.partials.filter (fun vp => !vp.2.complete ||
      (nodeOf c i).seqRows.any (fun r => r.site = e.1 ∧ r.ver = vp.1))).map (·.1)))

/-- Three nodes.  Node 0 inserts row `t/1` (two changes, seqs 0..1) and then updates column `b`;
node 1 receives the insert in two chunks, in the wrong order, one of them twice, and the update
whole; node 2 learns everything from node 1 (a relay that has lost the tail `b@1` of version 1 to
version 2: it serves version 1 with `last_seq = 0`), with one answer lost in the first session;
node 1 deletes the row; everybody syncs with everybody. -/
def opsA : List Op := [
  .write 0 [.ins "t" "1" [("a", .int 1), ("b", .int 2)]],
  .write 0 [.upd "t" "1" [("b", .int 9)]],
  .deliverOrigin 1 0 1 1 1, .deliverOrigin 1 0 1 1 1, .deliverOrigin 1 0 1 0 0,
  .deliverOrigin 1 0 2 0 0,
  .sync 2 1 [1], .sync 2 1 [0, 1, 2],
  .write 1 [.del "t" "1"],
  .sync 0 1 [0, 1], .sync 2 0 [0, 1, 2], .sync 2 1 [0, 1]]

def cA : Cluster := run (Cluster.init 3) opsA

set_option maxRecDepth 100000 in
set_option synthInstance.maxSize 4096 in
/-- the run satisfies R3 and R4 at every step, its log satisfies R2 and R5 and is
incarnation-complete, and the final state is quiescent: all hypotheses of
`converged_when_quiescent_partial` hold -/
example : runOK (Cluster.init 3) opsA ∧ LogOK cA.log ∧ NoTies cA.log.all ∧ CompleteStrong cA.log.all ∧
    books cA 0 = [(0, 2, [], []), (1, 1, [], [])] ∧ books cA 1 = [(0, 2, [], []), (1, 1, [], [])] ∧
    books cA 2 = [(0, 2, [], []), (1, 1, [], [])] := by decide +kernel

theorem cA_reach : ReachLive 3 cA := reachLive_run ReachLive.init opsA (by decide +kernel)

set_option maxRecDepth 100000 in
set_option synthInstance.maxSize 4096 in
example : (view (nodeOf cA 0).db "t" "1").cl = 2 ∧ (view (nodeOf cA 1).db "t" "1").cl = 2 ∧
    (view (nodeOf cA 2).db "t" "1").cl = 2 ∧ (spec cA.log.all "t" "1").cl = 2 := by decide +kernel

set_option maxRecDepth 100000 in
set_option synthInstance.maxSize 4096 in
/-- the relay in the middle of that run: node 1 serves version 1 of actor 0 as the single live
change `a@0` with `last_seq = 0` (the original had `last_seq = 1`), and version 2 whole -/
example : answers (nodeOf (run (Cluster.init 3) (opsA.take 6)) 2) (nodeOf (run (Cluster.init 3) (opsA.take 6)) 1) =
    [Item.full 0 2 0 0 0 [⟨"t", "1", "b", .int 9, 2, 1, 0, 2, 0⟩],
     Item.full 0 1 0 0 0 [⟨"t", "1", "a", .int 1, 1, 1, 0, 1, 0⟩]] := by decide +kernel

example : NoTies cA.log.all := by decide +kernel

/-- `NoTies` fails as soon as two sites delete the same row concurrently -/
example : ¬ NoTies [⟨"t", "1", "-1", .null, 2, 2, 1, 1, 0⟩, ⟨"t", "1", "-1", .null, 2, 2, 2, 1, 0⟩] := by
  decide +kernel

/-- liveness, concretely: stop `opsA` after the chunks and the first, lossy session (node 1 holds
versions 1 and 2 of actor 0; node 2 has only been given version 1), let node 1
delete the row, then run ONE round of lossless sessions over all ordered pairs … -/
def opsA' : List Op := opsA.take 7 ++ [.write 1 [.del "t" "1"]]

def cA' : Cluster := run (Cluster.init 3) opsA'

theorem cA'_reach : ReachLive 3 cA' := reachLive_run ReachLive.init opsA' (by decide +kernel)

set_option maxRecDepth 100000 in
set_option synthInstance.maxSize 4096 in
/-- … the hypotheses of `eventual_convergence_partial` hold (6 sessions, each lossless from a clean
state), before the round node 2 lacks versions, afterwards every node holds everything and shows the
row deleted -/
example : LogOK cA'.log ∧ NoTies cA'.log.all ∧ CompleteStrong cA'.log.all ∧
    losslessCheck cA' (allPairs 3 8) = true ∧
    books cA' 2 = [(0, 1, [], [])] ∧
    books (run cA' (allPairs 3 8)) 0 = [(0, 2, [], []), (1, 1, [], [])] ∧
    books (run cA' (allPairs 3 8)) 1 = [(0, 2, [], []), (1, 1, [], [])] ∧
    books (run cA' (allPairs 3 8)) 2 = [(0, 2, [], []), (1, 1, [], [])] ∧
    (view (nodeOf (run cA' (allPairs 3 8)) 0).db "t" "1").cl = 2 ∧
    (view (nodeOf (run cA' (allPairs 3 8)) 2).db "t" "1").cl = 2 := by decide +kernel

example : ∀ (i : Nat) (n : Node), (run cA' (allPairs 3 8)).nodes[i]? = some n →
    view n.db = spec cA'.log.all :=
  (eventual_convergence_partial cA'_reach (by decide +kernel) (by decide +kernel) (by decide +kernel) (allPairs 3 8)
    (losslessRun_of_check (by decide +kernel))
    (fun _ _ hi ha hne => ⟨_, allPairs_covers hi ha hne⟩)).2.2

/-- Node 0 inserts row `t/1`; nodes 1 and 2 receive it and both delete it (two deletes of causal
length 2: a tie).  Each of them receives the other's delete and ignores it (same causal length), so
node 1's store attributes the tombstone to `(1,1)` and serves `(2,1)` as `Empty`, and vice versa.
Node 0 asks node 2 for everything and the answer for `(2,1)` is lost; it asks node 1 and gets
`Empty` for `(2,1)`. -/
def opsB : List Op := [
  .write 0 [.ins "t" "1" [("a", .int 1)]],
  .deliverOrigin 1 0 1 0 1, .deliverOrigin 2 0 1 0 1,
  .write 1 [.del "t" "1"], .write 2 [.del "t" "1"],
  .deliverOrigin 2 1 1 0 0, .deliverOrigin 1 2 1 0 0,
  .sync 0 2 [0], .sync 0 1 [0]]

def cB : Cluster := run (Cluster.init 3) opsB

end Ex

set_option synthInstance.maxSize 4096 in
/-- **`converged_at_quiescence` is FALSE without `NoTies` (R5).**  The run `Ex.opsB` satisfies
R1–R4, its log is well formed and incarnation-complete, the final state is quiescent (every node
holds every version: equal heads, no needs, no partials — no further sync session will move
anything), and yet node 0 shows row `t/1` alive (`cl = 1`, `a = 1`) while nodes 1 and 2 show it
deleted (`cl = 2`).  Two sites deleted the same row concurrently; each relay holds both deletes but
serves only the one its tombstone is attributed to, and answers `Empty` for the other. -/
theorem converged_at_quiescence_ties_counterexample :
    runOK (Cluster.init 3) Ex.opsB ∧ LogOK Ex.cB.log ∧ CompleteStrong Ex.cB.log.all ∧
    ¬ NoTies Ex.cB.log.all ∧
    Ex.books Ex.cB 0 = [(0, 1, [], []), (1, 1, [], []), (2, 1, [], [])] ∧
    Ex.books Ex.cB 1 = [(0, 1, [], []), (1, 1, [], []), (2, 1, [], [])] ∧
    Ex.books Ex.cB 2 = [(0, 1, [], []), (1, 1, [], []), (2, 1, [], [])] ∧
    answers (Ex.nodeOf Ex.cB 0) (Ex.nodeOf Ex.cB 1) = [] ∧ answers (Ex.nodeOf Ex.cB 0) (Ex.nodeOf Ex.cB 2) = [] ∧
    (view (Ex.nodeOf Ex.cB 0).db "t" "1").cl = 1 ∧
    (view (Ex.nodeOf Ex.cB 0).db "t" "1").cell "a" = some (.int 1, 1) ∧
    (view (Ex.nodeOf Ex.cB 1).db "t" "1").cl = 2 ∧ (view (Ex.nodeOf Ex.cB 2).db "t" "1").cl = 2 ∧
    (spec Ex.cB.log.all "t" "1").cl = 2 := by decide +kernel

namespace Ex

/-- Node 0 inserts row `t/1` (version 1) and then, in ONE transaction, updates column `a` twice
(version 2: the first update is overwritten inside the transaction, so the change list is the single
change `a@1` with `last_seq = 1` — seq 0 is a gap).  Node 1 receives version 1 and the chunk `[0, 0]`
of version 2, which carries no change: it now holds version 2 partially, with a sequence row and no
buffered row.  Node 2 receives version 1 and asks node 1 for version 2: the answer is `Empty`. -/
def opsC : List Op := [
  .write 0 [.ins "t" "1" [("a", .int 1)]],
  .write 0 [.upd "t" "1" [("a", .int 5)], .upd "t" "1" [("a", .int 6)]],
  .deliverOrigin 1 0 1 0 1, .deliverOrigin 2 0 1 0 1,
  .deliverOrigin 1 0 2 0 0,
  .sync 2 1 [0],
  .deliverOrigin 1 0 2 1 1]

def cC : Cluster := run (Cluster.init 3) opsC

end Ex

set_option synthInstance.maxSize 4096 in
/-- **`held_inv` is FALSE without the `clean` half of R4.**  In the run `Ex.opsC` every step is a
no-crash step satisfying R3, the log satisfies R2 and R5; after the fifth step node 1 has a sequence
row of version `(0,2)` without a buffered row (`clean = false`), and in the session that follows it
declares `(0,2)` `Empty`.  At the end node 2 holds `(0,2)`, has merged nothing of it, and its only
change `a = 6` is not dominated: node 2 shows `a = 1` for ever (equal heads, no needs, no partials),
nodes 0 and 1 show `a = 6`.

Reachability in the real system: an origin's broadcast chunks always carry at
least one change (`ChunkedChanges` only cuts after pushing a change) and a relay's answer to a
`Full` need is one complete chunk, so a real node can receive a change-less INCOMPLETE chunk only as
the answer to a `Partial` need, i.e. when it already holds the version partially with a buffered
row; the model's `deliverOrigin` allows any range, which is what this run uses.  The `clean`
hypothesis (R4) excludes exactly the states in which the wrong `Empty` can be produced. -/
theorem held_inv_needs_clean_counterexample :
    runOKAny (Cluster.init 3) Ex.opsC ∧ LogOK Ex.cC.log ∧ NoTies Ex.cC.log.all ∧
    (run (Cluster.init 3) (Ex.opsC.take 5)).clean = false ∧
    answers (Ex.nodeOf (run (Cluster.init 3) (Ex.opsC.take 5)) 2)
      (Ex.nodeOf (run (Cluster.init 3) (Ex.opsC.take 5)) 1) = [Item.empty 0 2 2] ∧
    Held (Ex.nodeOf Ex.cC 2) 0 2 ∧
    (∃ ch ∈ Ex.cC.log.get 0 2, ch ∉ Ex.cC.R 2 ∧ ¬ Dom Ex.cC.log.all ch) ∧
    Ex.books Ex.cC 0 = [(0, 2, [], [])] ∧ Ex.books Ex.cC 2 = [(0, 2, [], [])] ∧
    (view (Ex.nodeOf Ex.cC 2).db "t" "1").cell "a" = some (.int 1, 1) ∧
    (view (Ex.nodeOf Ex.cC 0).db "t" "1").cell "a" = some (.int 6, 3) ∧
    (view (Ex.nodeOf Ex.cC 1).db "t" "1").cell "a" = some (.int 6, 3) := by decide +kernel

end Corro.ClusterSys
