/-
C08 — changeset chunks tile the sequence range exactly, whatever the size limit.
The vocabulary of the statements (`Incr`, `Tiles`, `Inside`), the inductions over the loop `go`
and the property theorems they give; the model is `Corro/Model/Chunker.lean`.
-/
import Corro.Model.Chunker

namespace Corro.Chunker

/-- Well-formed input of the property's quantifier: sequence numbers strictly increasing,
all inside `[lb, last]` (holes allowed, may end before `last`, may be empty). -/
def Incr (last : Nat) : Nat → List Chg → Prop
  | _, [] => True
  | lb, c :: r => lb ≤ c.seq ∧ c.seq ≤ last ∧ Incr last (c.seq + 1) r

/-- The ranges are contiguous: first starts at `s`, each next one right after the previous end,
the last one ends at `l`, none is inverted. -/
def Tiles : Nat → Nat → List Chunk → Prop
  | _, _, [] => False
  | s, l, [c] => c.lo = s ∧ c.hi = l ∧ s ≤ l
  | s, l, c :: c2 :: r => c.lo = s ∧ s ≤ c.hi ∧ c.hi < l ∧ Tiles (c.hi + 1) l (c2 :: r)

/-- Every change of a chunk lies inside the chunk's range. -/
def Inside (ch : Chunk) : Prop := ∀ c ∈ ch.changes, ch.lo ≤ c.seq ∧ c.seq ≤ ch.hi

theorem incr_last_nil {last lb : Nat} {r : List Chg} (h : Incr last lb r) (hlb : last < lb) :
    r = [] := by
  cases r with
  | nil => rfl
  | cons c r => exact absurd (Nat.le_trans h.1 h.2.1) (Nat.not_le.mpr hlb)

/-- `lb` is the least seq the rest of the input may still carry: the chunk being filled started at
`start ≤ lb`, and a cut after `c` opens the next chunk at `c.seq + 1`. -/
theorem go_tiles (last : Nat) (lim : Nat → Nat) (k start : Nat) (acc : List Chg) (buf : Nat)
    (rest : List Chg) (lb : Nat) (h1 : start ≤ lb) (h2 : lb ≤ last) (hi : Incr last lb rest) :
    Tiles start last (go last lim k start acc buf rest) := by
  fun_induction go last lim k start acc buf rest generalizing lb with
  | case1 | case2 | case3 => exact ⟨rfl, rfl, Nat.le_trans h1 h2⟩
  | case4 k start acc buf c hne _ r rs ih =>
    have ht := ih (c.seq + 1) (Nat.le_refl _) (Nat.lt_of_le_of_ne hi.2.1 hne) hi.2.2
    revert ht
    cases go last lim (k + 1) (c.seq + 1) [] 0 (r :: rs) with
    | nil => exact False.elim
    | cons d ds => exact fun ht => ⟨rfl, Nat.le_trans h1 hi.1, Nat.lt_of_le_of_ne hi.2.1 hne, ht⟩
  | case5 k start acc buf c rs hne _ ih =>
    exact ih (c.seq + 1) (Nat.le_succ_of_le (Nat.le_trans h1 hi.1)) (Nat.lt_of_le_of_ne hi.2.1 hne)
      hi.2.2

/-- **C08 (ranges).** For every strictly increasing change list inside `[start,last]` and every
sequence of limits, the chunk ranges are contiguous from `start` to `last`. -/
theorem chunks_contiguous (start last : Nat) (lim : Nat → Nat) (cs : List Chg)
    (h : start ≤ last) (hi : Incr last start cs) :
    Tiles start last (chunks start last lim cs) :=
  go_tiles last lim 0 start [] 0 cs start (Nat.le_refl _) h hi

theorem tiles_none_below : ∀ (chs : List Chunk) (s l x : Nat), Tiles s l chs → x < s →
    (chs.filter (fun c => decide (c.lo ≤ x ∧ x ≤ c.hi))).length = 0 := by
  intro chs
  induction chs with
  | nil => exact fun _ _ _ h => h.elim
  | cons d ds ih =>
    intro s l x hd hlt
    have hlo : d.lo = s := by cases ds <;> exact hd.1
    rw [List.filter_cons, if_neg (fun h => Nat.not_le.mpr hlt (hlo ▸ (of_decide_eq_true h).1))]
    cases ds with
    | nil => rfl
    | cons d2 ds2 =>
      exact ih (d.hi + 1) l x hd.2.2.2 (Nat.lt_succ_of_le (Nat.le_trans (Nat.le_of_lt hlt) hd.2.1))

/-- Contiguous ranges cover each sequence number of `[s,l]` exactly once. -/
theorem tiles_cover_once : ∀ (chs : List Chunk) (s l : Nat), Tiles s l chs →
    ∀ x, s ≤ x → x ≤ l → (chs.filter (fun c => decide (c.lo ≤ x ∧ x ≤ c.hi))).length = 1 := by
  intro chs
  induction chs with
  | nil => exact fun _ _ h => h.elim
  | cons c r ih =>
    intro s l h x hx1 hx2
    cases r with
    | nil =>
      have hc : c.lo ≤ x ∧ x ≤ c.hi := ⟨h.1 ▸ hx1, h.2.1 ▸ hx2⟩
      rw [List.filter_cons, if_pos (decide_eq_true hc)]; rfl
    | cons c2 r2 =>
      by_cases hin : x ≤ c.hi
      · have hc : c.lo ≤ x ∧ x ≤ c.hi := ⟨h.1 ▸ hx1, hin⟩
        rw [List.filter_cons, if_pos (decide_eq_true hc), List.length_cons,
          tiles_none_below _ _ l x h.2.2.2 (Nat.lt_succ_of_le hin)]
      · rw [List.filter_cons, if_neg (fun hd => hin (of_decide_eq_true hd).2)]
        exact ih (c.hi + 1) l h.2.2.2 x (Nat.not_le.mp hin) hx2

theorem go_flatten (last : Nat) (lim : Nat → Nat) (k start : Nat) (acc : List Chg) (buf : Nat)
    (rest : List Chg) (lb : Nat) (hi : Incr last lb rest) :
    ((go last lim k start acc buf rest).map Chunk.changes).flatten = acc.reverse ++ rest := by
  fun_induction go last lim k start acc buf rest generalizing lb with
  | case1 => simp
  | case2 k start acc buf c rs heq =>
    -- nothing follows the change that carries the last seq
    rw [incr_last_nil hi.2.2 (heq ▸ Nat.lt_succ_self _)]; simp
  | case3 => simp
  | case4 k start acc buf c _ _ r rs ih => simp [ih (c.seq + 1) hi.2.2]
  | case5 k start acc buf c rs _ _ ih => simp [ih (c.seq + 1) hi.2.2]

/-- **C08 (changes).** Concatenating the chunks gives back the input: every change appears in
exactly one chunk and order is preserved. -/
theorem chunks_partition_changes (start last : Nat) (lim : Nat → Nat) (cs : List Chg)
    (hi : Incr last start cs) :
    ((chunks start last lim cs).map Chunk.changes).flatten = cs :=
  go_flatten last lim 0 start [] 0 cs start hi

/-- `acc` holds the changes of the chunk being filled, all in `[start, lb)`. -/
theorem go_inside (last : Nat) (lim : Nat → Nat) (k start : Nat) (acc : List Chg) (buf : Nat)
    (rest : List Chg) (lb : Nat) (h1 : start ≤ lb) (h2 : lb ≤ last) (hi : Incr last lb rest)
    (hacc : ∀ a ∈ acc, start ≤ a.seq ∧ a.seq < lb) :
    ∀ ch ∈ go last lim k start acc buf rest, Inside ch := by
  have hpush : ∀ {start lb : Nat} {acc : List Chg} (c : Chg), start ≤ lb → lb ≤ c.seq →
      (∀ a ∈ acc, start ≤ a.seq ∧ a.seq < lb) →
      ∀ a ∈ c :: acc, start ≤ a.seq ∧ a.seq < c.seq + 1 := by
    intro start lb acc c h1 hc hacc a ha
    rcases List.mem_cons.mp ha with rfl | ha
    · exact ⟨Nat.le_trans h1 hc, Nat.lt_succ_self _⟩
    · exact ⟨(hacc a ha).1, Nat.lt_succ_of_lt (Nat.lt_of_lt_of_le (hacc a ha).2 hc)⟩
  have hclose : ∀ {start lb : Nat} {l : List Chg} (hi' : Nat),
      (∀ a ∈ l, start ≤ a.seq ∧ a.seq < lb) → lb ≤ hi' + 1 → Inside ⟨l.reverse, start, hi'⟩ :=
    fun hi' hl hle a ha =>
      ⟨(hl a (List.mem_reverse.mp ha)).1,
        Nat.le_of_lt_succ (Nat.lt_of_lt_of_le (hl a (List.mem_reverse.mp ha)).2 hle)⟩
  fun_induction go last lim k start acc buf rest generalizing lb with
  | case1 =>
    intro ch hch
    cases List.mem_singleton.mp hch
    exact hclose last hacc (Nat.le_succ_of_le h2)
  | case2 k start acc buf c | case3 k start acc buf c =>
    intro ch hch
    cases List.mem_singleton.mp hch
    exact hclose last (hpush c h1 hi.1 hacc) (Nat.succ_le_succ hi.2.1)
  | case4 k start acc buf c hne _ r rs ih =>
    intro ch hch
    rcases List.mem_cons.mp hch with rfl | hch
    · exact hclose c.seq (hpush c h1 hi.1 hacc) (Nat.le_refl _)
    · exact ih (c.seq + 1) (Nat.le_refl _) (Nat.lt_of_le_of_ne hi.2.1 hne) hi.2.2
        (fun _ ha => (List.not_mem_nil ha).elim) ch hch
  | case5 k start acc buf c rs hne _ ih =>
    exact ih (c.seq + 1) (Nat.le_succ_of_le (Nat.le_trans h1 hi.1))
      (Nat.lt_of_le_of_ne hi.2.1 hne) hi.2.2 (hpush c h1 hi.1 hacc)

/-- **C08 (containment).** Every change lies inside the range of the chunk that carries it. -/
theorem chunks_inside (start last : Nat) (lim : Nat → Nat) (cs : List Chg)
    (h : start ≤ last) (hi : Incr last start cs) :
    ∀ ch ∈ chunks start last lim cs, Inside ch :=
  go_inside last lim 0 start [] 0 cs start (Nat.le_refl _) h hi
    (fun _ ha => (List.not_mem_nil ha).elim)

/-- A cut is made only right after a change was pushed; only the closing chunk, made when the
input is exhausted, can be empty. -/
theorem go_nonfinal_nonempty (last : Nat) (lim : Nat → Nat) (k start : Nat) (acc : List Chg)
    (buf : Nat) (rest : List Chg) :
    ∀ ch ∈ (go last lim k start acc buf rest).dropLast, ch.changes ≠ [] := by
  fun_induction go last lim k start acc buf rest with
  | case1 | case2 | case3 => exact fun ch hch => (List.not_mem_nil hch).elim
  | case4 k start acc buf c _ _ r rs ih =>
    intro ch hch
    revert ih hch
    cases go last lim (k + 1) (c.seq + 1) [] 0 (r :: rs) with
    | nil => exact fun _ hch => (List.not_mem_nil hch).elim
    | cons d ds =>
      intro ih hch
      rcases List.mem_cons.mp hch with rfl | hch
      · exact fun h => List.cons_ne_nil _ _ (List.reverse_eq_nil_iff.mp h)
      · exact ih ch hch
  | case5 k start acc buf c rs _ _ ih => exact ih

/-- **C08 (no empty chunk before the last).** Every chunk except the final one carries at least one
change, whatever the limits. -/
theorem nonfinal_chunk_nonempty (start last : Nat) (lim : Nat → Nat) (cs : List Chg) :
    ∀ ch ∈ (chunks start last lim cs).dropLast, ch.changes ≠ [] :=
  go_nonfinal_nonempty last lim 0 start [] 0 cs

/-- with fuel for every block start up to `hi`, the blocks from `cur` on are forward ranges inside
`[cur, hi]` that leave no gap (consecutive blocks share their end point). -/
theorem chunkRangeAux_spec (hi k : Nat) (hk : 1 ≤ k) (f cur : Nat) (hf : hi + 1 - cur ≤ f) :
    (∀ b ∈ chunkRangeAux hi k f cur, cur ≤ b.1 ∧ b.1 ≤ b.2 ∧ b.2 ≤ hi) ∧
    (∀ x, cur ≤ x → x ≤ hi → ∃ b ∈ chunkRangeAux hi k f cur, b.1 ≤ x ∧ x ≤ b.2) := by
  fun_induction chunkRangeAux hi k f cur with
  | case1 cur =>
    exact ⟨fun b hb => (List.not_mem_nil hb).elim, fun x h1 h2 => absurd
      (Nat.sub_pos_of_lt (Nat.lt_succ_of_le (Nat.le_trans h1 h2))) (Nat.not_lt.mpr hf)⟩
  | case2 f cur hle ih =>
    obtain ⟨ih1, ih2⟩ := ih (by omega)
    constructor
    · intro b hb
      rcases List.mem_cons.mp hb with rfl | hb
      · exact ⟨Nat.le_refl _, Nat.le_min.mpr ⟨Nat.le_add_right _ _, hle⟩, Nat.min_le_right _ _⟩
      · exact ⟨Nat.le_trans (Nat.le_add_right _ _) (ih1 b hb).1, (ih1 b hb).2⟩
    · intro x h1 h2
      by_cases hx : x ≤ cur + k
      · exact ⟨_, List.mem_cons_self, h1, Nat.le_min.mpr ⟨hx, h2⟩⟩
      · obtain ⟨b, hb, hb2⟩ := ih2 x (Nat.le_of_lt (Nat.not_le.mp hx)) h2
        exact ⟨b, List.mem_cons_of_mem _ hb, hb2⟩
  | case3 f cur hlt =>
    exact ⟨fun b hb => (List.not_mem_nil hb).elim, fun x h1 h2 => absurd (Nat.le_trans h1 h2) hlt⟩

/-- **C08 (version requests).** For every chunk size `k ≥ 1` the union of the blocks of
`chunk_range(lo..=hi, k)` is exactly `[lo,hi]`, and every block is a forward range inside it. -/
theorem chunkRange_union (lo hi k : Nat) (hk : 1 ≤ k) :
    (∀ b ∈ chunkRange lo hi k, lo ≤ b.1 ∧ b.1 ≤ b.2 ∧ b.2 ≤ hi) ∧
    (∀ x, (∃ b ∈ chunkRange lo hi k, b.1 ≤ x ∧ x ≤ b.2) ↔ (lo ≤ x ∧ x ≤ hi)) := by
  have ⟨h1, h2⟩ := chunkRangeAux_spec hi k hk (hi + 1 - lo) lo (Nat.le_refl _)
  refine ⟨h1, fun x => ⟨?_, fun ⟨a, b⟩ => h2 x a b⟩⟩
  rintro ⟨b, hb, hx1, hx2⟩
  have := h1 b hb
  exact ⟨Nat.le_trans this.1 hx1, Nat.le_trans hx2 this.2.2⟩

/-! Non-vacuity: the hypotheses are met by concrete inputs with holes and a limit change. -/

example : Incr 9 2 [⟨2, 10⟩, ⟨3, 10⟩, ⟨5, 100⟩, ⟨9, 1⟩] := by simp [Incr]
example : (chunks 2 9 (fun k => if k = 0 then 15 else 1) [⟨2, 10⟩, ⟨3, 10⟩, ⟨5, 100⟩, ⟨9, 1⟩]).map
    (fun c => (c.lo, c.hi)) = [(2, 3), (4, 5), (6, 9)] := by decide +kernel
example : chunkRange 1 25 10 = [(1, 11), (11, 21), (21, 25)] := by decide +kernel

end Corro.Chunker
