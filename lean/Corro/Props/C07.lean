/-
C07 — local transactions are all-or-nothing and get gap-free consecutive versions.

  "A write request of several statements either applies completely and is acknowledged with a
   version exactly one greater than the node's previous version, or has no effect at all: no row
   change, no version consumed, no change message emitted.  A request that changes nothing consumes
   no version, an acknowledged one is announced to the cluster as changesets whose sequence ranges
   tile 0..=last_seq and contain exactly its changes, and a node never lists a gap in its own
   versions."  — for every sequence of write requests.

Model: `Corro/Model/LocalTx.lean` (`submit`, `run`, `announce`).  An `LNode` is the replication state
`Node` (store, version counter `db.dbv`, own bookkeeping, db-version rows) with the `outbox`, so
`… = n` says that rows, `crsql_changes`, version counter, bookkeeping and outbox are all unchanged.
`Good n` is the invariant of a node only ever written through `submit` (`reachable_good`); the
theorems about announced changes need it (sequence numbers of one version are pairwise distinct).
Histories may contain complete versions of other actors in between (`Event.remote`, `runE`):
version numbers are per actor, so a remote version numbered like the node's next own changes nothing.
-/
import Corro.Lemmas.LocalTxRemote

namespace Corro.LocalTx
open Corro.Crdt Corro.Node
open Corro.Chunker (Tiles tiles_cover_once)

/-- **Atomicity.**  A request that contains a failing statement — no statement at all, an injected
failure (bad SQL, wrong parameter count, unknown table, timeout) at ANY position, or a statement
the cell store rejects (constraint violation) at any position in front of it — is answered with an
error and leaves rows, version counter, bookkeeping and outbox exactly as they were. -/
theorem tx_all_or_nothing (cfg : Cfg) (n : LNode) (req : Request) (hf : Failing n req) :
    ∃ e, submit cfg n req = (n, .err e) := by
  cases submit_outcome cfg n req with
  | failed _ e h => exact ⟨e, h⟩
  | noop hnf _ _ _ => exact absurd hf hnf
  | acked hnf _ _ _ _ _ => exact absurd hf hnf

/-- an error answer is given only to a failing request (so the three outcomes partition) -/
theorem error_only_if_failing (cfg : Cfg) (n : LNode) (req : Request) (e : ErrKind)
    (h : (submit cfg n req).2 = .err e) : Failing n req := by
  cases submit_outcome cfg n req with
  | failed hf _ _ => exact hf
  | noop _ _ _ h' => rw [h'] at h; cases h
  | acked _ _ _ _ _ h' => rw [h'] at h; cases h

/-- **No-op.**  A request acknowledged without a version leaves everything unchanged: no version
consumed, nothing announced. -/
theorem noop_consumes_nothing (cfg : Cfg) (n : LNode) (req : Request)
    (h : (submit cfg n req).2 = .noop) : (submit cfg n req).1 = n := by
  cases submit_outcome cfg n req with
  | failed _ _ h' => rw [h']
  | noop _ _ _ h' => rw [h']
  | acked _ _ _ _ _ h' => rw [h'] at h; cases h

/-- … and a request whose statements all succeed but leave no live change of the new version
behind (the transaction "changes nothing") is such a no-op. -/
theorem changes_nothing_is_noop (cfg : Cfg) (n : LNode) (req : Request) (hnf : ¬ Failing n req)
    (d : Db) (ht : localTx n.node.db (split req).1 = .ok (d, none)) :
    submit cfg n req = (n, .noop) := by
  cases submit_outcome cfg n req with
  | failed hf _ _ => exact absurd hf hnf
  | noop _ _ _ h' => exact h'
  | acked _ _ _ _ ht' _ => rw [ht] at ht'; cases ht'

/-- whatever is not acknowledged with a version has no effect at all -/
theorem unacknowledged_no_effect (cfg : Cfg) (n : LNode) (req : Request)
    (h : (submit cfg n req).2.version? = none) : (submit cfg n req).1 = n := by
  cases submit_outcome cfg n req with
  | failed _ _ h' => rw [h']
  | noop _ _ _ h' => rw [h']
  | acked _ _ _ _ _ h' => rw [h'] at h; cases h

/-- **Version.**  An acknowledged version is exactly the node's previous version + 1, it is the
node's version afterwards, and exactly its messages were added to the outbox. -/
theorem ack_version_succ (cfg : Cfg) (n : LNode) (req : Request) (v : Nat) (chs : List Chg)
    (msgs : List Msg) (h : (submit cfg n req).2 = .ack v chs msgs) :
    v = n.node.db.dbv + 1 ∧ (submit cfg n req).1.node.db.dbv = v ∧
    (submit cfg n req).1.outbox = n.outbox ++ [(v, msgs)] := by
  obtain ⟨_, d, ht, hs⟩ := submit_ack h
  rw [hs]
  exact ⟨(localTx_ver ht).1, (congrArg Db.dbv (ackNode_db _ _ _)).trans (localTx_ver ht).2, rfl⟩

/-- **No gap, no repeat, with remote versions in between.**  Over any history the acknowledged
versions are `dbv+1 .. dbv+k` in order and the own counter ends at `dbv+k`: remote versions — whatever
their numbers — consume none of the node's own. -/
theorem acked_versions_consecutive_with_remote (cfg : Cfg) (es : List Event) (n : LNode) :
    ackedVersions (runE cfg n es).2 =
      List.range' (n.node.db.dbv + 1) (ackedVersions (runE cfg n es).2).length ∧
    (runE cfg n es).1.node.db.dbv = n.node.db.dbv + (ackedVersions (runE cfg n es).2).length := by
  induction es generalizing n with
  | nil => exact ⟨rfl, rfl⟩
  | cons e es ih =>
    cases e with
    | remote chs =>
      have ih' := ih (n.remote chs)
      rw [remote_dbv] at ih'
      exact ih'
    | req r =>
      have ih' := ih (submit cfg n r).1
      simp only [runE, ackedVersions] at ih' ⊢
      rcases submit_version cfg n r with ⟨hv, hn⟩ | ⟨hv, hd⟩
      · rw [List.filterMap_cons_none hv]
        rw [hn] at ih' ⊢
        exact ih'
      · rw [List.filterMap_cons_some hv, List.length_cons, List.range'_succ]
        rw [hd] at ih'
        exact ⟨congrArg _ ih'.1, by rw [ih'.2]; omega⟩

/-- **No gap, no repeat.**  For every request sequence from every node: the acknowledged versions
are, in order, `dbv+1, dbv+2, …, dbv+k` (`k` = number of acknowledged requests), and the node's
version afterwards is `dbv+k`: failed and no-op requests in between consume nothing. -/
theorem acked_versions_consecutive (cfg : Cfg) (reqs : List Request) (n : LNode) :
    ackedVersions (run cfg n reqs).2 =
      List.range' (n.node.db.dbv + 1) (ackedVersions (run cfg n reqs).2).length ∧
    (run cfg n reqs).1.node.db.dbv = n.node.db.dbv + (ackedVersions (run cfg n reqs).2).length := by
  rw [← runE_req]
  exact acked_versions_consecutive_with_remote cfg _ n

/-- from a fresh node the acknowledged versions are exactly `1..k` -/
theorem acked_versions_from_fresh (cfg : Cfg) (i : Nat) (reqs : List Request) :
    ackedVersions (run cfg (LNode.fresh i) reqs).2 =
      List.range' 1 (ackedVersions (run cfg (LNode.fresh i) reqs).2).length :=
  (acked_versions_consecutive cfg reqs (LNode.fresh i)).1

/-- every node reached from a fresh one by any request sequence satisfies the invariant -/
theorem reachable_good (cfg : Cfg) (i : Nat) (reqs : List Request) :
    Good (run cfg (LNode.fresh i) reqs).1 :=
  good_run cfg (good_fresh i) reqs

/-- **Own bookkeeping.**  From any good node the own `needed` set stays empty and the own head
stays equal to the version counter (`insert_db` with `S = {max + 1}`). -/
theorem own_never_needed_step (cfg : Cfg) (n : LNode) (hg : Good n) (reqs : List Request) :
    (run cfg n reqs).1.own.needed = [] ∧
    (run cfg n reqs).1.own.max = (run cfg n reqs).1.node.db.dbv :=
  ⟨(good_run cfg hg reqs).needed, (good_run cfg hg reqs).max⟩

/-- … in particular from a fresh node: after any request sequence nothing of the own actor is
needed and the own head is the number of acknowledged requests. -/
theorem own_never_needed (cfg : Cfg) (i : Nat) (reqs : List Request) :
    (run cfg (LNode.fresh i) reqs).1.own.needed = [] ∧
    (run cfg (LNode.fresh i) reqs).1.own.max =
      (ackedVersions (run cfg (LNode.fresh i) reqs).2).length := by
  have h := own_never_needed_step cfg (LNode.fresh i) (good_fresh i) reqs
  have hv := (acked_versions_consecutive cfg reqs (LNode.fresh i)).2
  refine ⟨h.1, ?_⟩
  rw [h.2, hv]
  simp [LNode.fresh, Node.fresh]

/-- **Attribution.**  The change list of an acknowledged version is non-empty, has strictly
increasing sequence numbers, and is exactly the set of live entries of the new store attributed to
(the node's site id, that version): every change carries the node's site id and the version. -/
theorem tx_changes_attributed (cfg : Cfg) (n : LNode) (hg : Good n) (req : Request) (v : Nat)
    (chs : List Chg) (msgs : List Msg) (h : (submit cfg n req).2 = .ack v chs msgs) :
    chs ≠ [] ∧ chs.Pairwise (fun a b => a.seq < b.seq) ∧
    (∀ c ∈ chs, c.site = n.node.id ∧ c.dbv = v) ∧
    (∀ c, c ∈ chs ↔ c ∈ (submit cfg n req).1.node.db.changes ∧ c.site = n.node.id ∧ c.dbv = v) := by
  obtain ⟨_, d, ht, hs⟩ := submit_ack h
  obtain ⟨_, _, _, _, hne, hp, hmem⟩ := localTx_some hg.db ht
  rw [hg.site] at hmem
  rw [hs]
  exact ⟨hne, hp, fun c hc => ((hmem c).mp hc).2, fun c => by rw [ackNode_db]; exact hmem c⟩

/-- **Broadcast.**  For every size function and every sequence of size limits: the messages
announced for an acknowledged version `v` have ranges that tile `0 ..= last_seq` (first starts at
0, each next one right after the previous end, the last ends at `last_seq`, where `last_seq` is
the highest sequence number of the version), their concatenated changes are exactly the version's
change list in order, every change lies inside the range of the message that carries it, and every
message names version `v` and the same `last_seq`.  (C08's theorems instantiated with start 0.) -/
theorem broadcast_tiles (cfg : Cfg) (n : LNode) (hg : Good n) (req : Request) (v : Nat)
    (chs : List Chg) (msgs : List Msg) (h : (submit cfg n req).2 = .ack v chs msgs) :
    Tiles 0 (maxSeq chs) (msgs.map Msg.range) ∧
    (msgs.map (·.changes)).flatten = chs ∧
    ∀ m ∈ msgs, m.ver = v ∧ m.last = maxSeq chs ∧ ∀ c ∈ m.changes, m.lo ≤ c.seq ∧ c.seq ≤ m.hi := by
  have hp := (tx_changes_attributed cfg n hg req v chs msgs h).2.1
  obtain ⟨rfl, _⟩ := submit_ack h
  refine ⟨announce_tiles cfg v hp, announce_flatten cfg v hp, fun m hm => ?_⟩
  have hmeta := mem_announce hm
  exact ⟨hmeta.1, hmeta.2.1, fun c hc => (announce_inside cfg v hp hm c hc).2⟩

/-- … hence every sequence number of `0 ..= last_seq` lies in the range of exactly one message -/
theorem broadcast_covers_once (cfg : Cfg) (n : LNode) (hg : Good n) (req : Request) (v : Nat)
    (chs : List Chg) (msgs : List Msg) (h : (submit cfg n req).2 = .ack v chs msgs) (x : Nat)
    (hx : x ≤ maxSeq chs) :
    ((msgs.map Msg.range).filter (fun c => decide (c.lo ≤ x ∧ x ≤ c.hi))).length = 1 :=
  tiles_cover_once _ 0 (maxSeq chs) (broadcast_tiles cfg n hg req v chs msgs h).1 x (Nat.zero_le _) hx

/-- the same for every response of every request sequence from a fresh node -/
theorem broadcast_tiles_run (cfg : Cfg) (i : Nat) (reqs : List Request) :
    ∀ r ∈ (run cfg (LNode.fresh i) reqs).2, ∀ v chs msgs, r = .ack v chs msgs →
      Tiles 0 (maxSeq chs) (msgs.map Msg.range) ∧ (msgs.map (·.changes)).flatten = chs ∧
      (∀ c ∈ chs, c.site = i ∧ c.dbv = v) ∧
      ∀ m ∈ msgs, m.ver = v ∧ m.last = maxSeq chs ∧ ∀ c ∈ m.changes, m.lo ≤ c.seq ∧ c.seq ≤ m.hi := by
  intro r hr v chs msgs hrv
  obtain ⟨m, q, hg, (hid : m.node.id = i), rfl⟩ := mem_run (good_fresh i) hr
  have hb := broadcast_tiles cfg m hg q v chs msgs hrv
  have ha := (tx_changes_attributed cfg m hg q v chs msgs hrv).2.2.1
  exact ⟨hb.1, hb.2.1, fun c hc => hid ▸ ha c hc, hb.2.2⟩

/-! Non-vacuity: a concrete request sequence (chunk limit small enough to force two messages). -/

namespace Ex
def cfg : Cfg := { size := fun _ => 10, lim := fun _ => 15 }
def ins1 : RStmt := .sql (.ins "t" "1" [("a", .int 1)])
def insK : RStmt := .sql (.ins "k" "9" [])
def updSame : RStmt := .sql (.upd "t" "1" [("a", .int 1)])
def updA : RStmt := .sql (.upd "t" "1" [("a", .int 2)])
/-- insert; duplicate insert after a statement that did real work (constraint); update to the same
value (no-op); real work followed by bad SQL; delete + re-insert + update + insert (holes in the
sequence numbers); no statement at all -/
def reqs : List Request :=
  [[ins1], [insK, ins1], [updSame], [updA, .fail .syntax], [.sql (.del "t" "1"), ins1, updA, insK], []]
def out : LNode × List Response := run cfg (LNode.fresh 0) reqs
/-- the change list of version 2: live sequence numbers 1, 3, 4, 5 (0 and 2 were overwritten) -/
def chs2 : List Chg :=
  [⟨"t", "1", "-1", .null, 3, 3, 0, 2, 1⟩, ⟨"t", "1", "b", .null, 1, 3, 0, 2, 3⟩,
   ⟨"t", "1", "a", .int 2, 2, 3, 0, 2, 4⟩, ⟨"k", "9", "-1", .null, 1, 1, 0, 2, 5⟩]
end Ex

example : Ex.out.2.map Response.version? = [some 1, none, none, none, some 2, none] := by decide +kernel
example : Ex.out.2.map (fun r => match r with | .err e => some e | _ => none) =
    [none, some .constraint, none, some (.injected .syntax), none, some .empty] := by decide +kernel
/-- the hypothesis of `tx_all_or_nothing` is met by the duplicate insert behind real work -/
example : Failing (submit Ex.cfg (LNode.fresh 0) [Ex.ins1]).1 [Ex.insK, Ex.ins1] :=
  error_only_if_failing Ex.cfg _ _ .constraint (by decide +kernel)
example : Ex.out.1.own.needed = [] ∧ Ex.out.1.own.max = 2 ∧ Ex.out.1.node.db.dbv = 2 := by decide +kernel
example : (Ex.out.2.map fun r => match r with | .ack _ chs _ => chs | _ => []).getD 4 [] = Ex.chs2 := by
  decide +kernel
/-- version 2 is announced as `0-3` and `4-5` of last_seq 5 -/
example : (announce Ex.cfg 2 Ex.chs2).map (fun m => (m.lo, m.hi, m.last, m.changes.map (·.seq))) =
    [(0, 3, 5, [1, 3]), (4, 5, 5, [4, 5])] := by decide +kernel

/-- every remote change of a history comes from another actor than node `i` -/
def Foreign (i : Nat) : List Event → Prop
  | [] => True
  | .req _ :: es => Foreign i es
  | .remote chs :: es => (∀ c ∈ chs, c.site ≠ i) ∧ Foreign i es

/-- **Remote versions are not the node's own.**  Ingesting a complete version of another actor
leaves the node's own version counter, own bookkeeping and outbox untouched (version numbers are per
actor), and keeps the invariant `Good`. -/
theorem remote_keeps_own (n : LNode) (hg : Good n) (chs : List Chg) (hc : ∀ c ∈ chs, c.site ≠ n.node.id) :
    Good (n.remote chs) ∧ (n.remote chs).own = n.own ∧
    (n.remote chs).node.db.dbv = n.node.db.dbv ∧ (n.remote chs).outbox = n.outbox :=
  ⟨good_remote hg hc, remote_own n chs, remote_dbv n chs, rfl⟩

theorem remote_id (n : LNode) (chs : List Chg) : (n.remote chs).node.id = n.node.id :=
  mergeChanges_id n.node chs

theorem submit_id (cfg : Cfg) (n : LNode) (req : Request) : (submit cfg n req).1.node.id = n.node.id := by
  cases submit_outcome cfg n req with
  | failed _ _ h' => rw [h']
  | noop _ _ _ h' => rw [h']
  | acked _ _ _ _ _ h' => rw [h']; simp only [ackNode_id]

/-- every node reached from a fresh one by any interleaving of local requests and remote versions
of other actors satisfies the invariant — so `tx_changes_attributed`, `broadcast_tiles` and
`broadcast_covers_once` apply to every local request of such a history -/
theorem reachable_good_with_remote (cfg : Cfg) (es : List Event) (n : LNode) (hg : Good n)
    (hf : Foreign n.node.id es) : Good (runE cfg n es).1 := by
  induction es generalizing n with
  | nil => exact hg
  | cons e es ih =>
    cases e with
    | req r =>
      simp only [runE]
      exact ih _ (good_submit cfg hg r) (by rw [submit_id]; exact hf)
    | remote chs =>
      simp only [runE]
      exact ih _ (good_remote hg hf.1) (by rw [remote_id]; exact hf.2)

/-- … and the node never needs a version of its own, its head being the number of acknowledged
requests, whatever remote versions arrived in between -/
theorem own_never_needed_with_remote (cfg : Cfg) (i : Nat) (es : List Event) (hf : Foreign i es) :
    (runE cfg (LNode.fresh i) es).1.own.needed = [] ∧
    (runE cfg (LNode.fresh i) es).1.own.max = (ackedVersions (runE cfg (LNode.fresh i) es).2).length := by
  have hg := reachable_good_with_remote cfg es (LNode.fresh i) (good_fresh i) hf
  have hv := (acked_versions_consecutive_with_remote cfg es (LNode.fresh i)).2
  refine ⟨hg.needed, ?_⟩
  rw [hg.max, hv]
  simp [LNode.fresh, Node.fresh]

/-- version 1 of actor 1, with 4 changes -/
def Ex.remote1 : List Chg :=
  [⟨"t", "1", "a", .int 1, 1, 1, 1, 1, 0⟩, ⟨"t", "1", "b", .int 1, 1, 1, 1, 1, 1⟩,
   ⟨"t", "2", "a", .int 2, 1, 1, 1, 1, 2⟩, ⟨"t", "2", "b", .int 2, 1, 1, 1, 1, 3⟩]

/-- the history of the examples: that remote version on the fresh node 0, a no-op, then the node's
own version 1 -/
example : Foreign 0 [.remote Ex.remote1, .req [.sql (.upd "t" "9" [("a", .int 1)])], .req [Ex.insK]] := by
  simp [Foreign, Ex.remote1]
example : (runE Ex.cfg (LNode.fresh 0)
      [.remote Ex.remote1, .req [.sql (.upd "t" "9" [("a", .int 1)])], .req [Ex.insK]]).2.map
    Response.version? = [none, some 1] := by decide +kernel
example : (runE Ex.cfg (LNode.fresh 0)
      [.remote Ex.remote1, .req [.sql (.upd "t" "9" [("a", .int 1)])], .req [Ex.insK]]).1.outbox.map
    (fun e => (e.1, e.2.map (fun m => (m.lo, m.hi, m.last)))) = [(1, [(0, 0, 0)])] := by decide +kernel

end Corro.LocalTx
