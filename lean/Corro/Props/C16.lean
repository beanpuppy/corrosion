/-
C16 — nodes of different clusters never exchange data.  The model is `Corro/Model/ClusterGate.lean`;
the table of decision sites `Corro/Gen/ClusterSites.lean` is regenerated from /repo on every run
(tools/extract_c16.py).  Quantifier of the property: every pair of cluster ids (equal, different,
absent in the frame and therefore 0), every message type of the broadcast and sync paths, every
membership table mixing members of several clusters.
-/
import Corro.Lemmas.ClusterGate
import Corro.Gen.ClusterSites

namespace Corro.ClusterGate

/-- **C16 (absent id).**  A frame that ends before the `cluster_id` field is treated exactly like a frame
declaring cluster 0, on the broadcast path and on the sync path. -/
theorem missing_id_is_zero (mine : Nat) (permit : Bool) (requested : Nat) :
    decodeCluster none = 0 ∧
    acceptBroadcast mine none = acceptBroadcast mine (some 0) ∧
    serveSync mine none permit requested = serveSync mine (some 0) permit requested := by
  simp [decodeCluster, acceptBroadcast, serveSync]

/-- **C16 (broadcast).**  "A node never applies a change that was sent by a node declaring a different
cluster id … as a broadcast": for every pair (receiver id, declared id or absent) the payload goes on to
`tx_changes` iff the declared id (absent = 0) equals the receiver's. -/
theorem broadcast_accepted_iff_same_cluster (mine : Nat) (payloadCluster : Option Nat) :
    acceptBroadcast mine payloadCluster = true ↔ decodeCluster payloadCluster = mine := by
  simp [acceptBroadcast]
  exact eq_comm

/-- **C16 (sync server).**  "It refuses to serve sync sessions to such a node with an explicit rejection
instead of data": for different ids (absent = 0) everything the server writes is exactly one
`Rejection(DifferentCluster)` — no state, no clock, no changeset, whatever the permit situation and
whatever would have been requested.  For equal ids no `DifferentCluster` rejection is ever written and,
when a permit is free, the session proceeds with `State`, `Clock` and the requested changesets. -/
theorem sync_rejected_first (mine : Nat) (theirs : Option Nat) (permit : Bool) (requested : Nat) :
    (decodeCluster theirs ≠ mine →
        serveSync mine theirs permit requested = [Msg.rejection Rejection.differentCluster] ∧
        Msg.state ∉ serveSync mine theirs permit requested ∧
        changesetCount (serveSync mine theirs permit requested) = 0) ∧
    (decodeCluster theirs = mine →
        Msg.rejection Rejection.differentCluster ∉ serveSync mine theirs permit requested ∧
        firstIsRejection (serveSync mine theirs permit requested) ≠ some Rejection.differentCluster ∧
        (permit = true →
          serveSync mine theirs permit requested =
            Msg.state :: Msg.clock :: List.replicate requested Msg.changeset)) := by
  constructor
  · intro h
    simp [serveSync, h, changesetCount]
  · intro h
    cases permit <;> simp [serveSync, h, firstIsRejection, List.mem_replicate]

/-- **C16 (sync client).**  "…or as an answer in a sync session": a client of one cluster that opens a
session to a server of another cluster gets no changeset at all; between equal ids (and with a free
permit) it gets what it asked for. -/
theorem sync_answer_only_same_cluster (client server : Nat) (permit : Bool) (requested : Nat) :
    (client ≠ server → clientSync client server permit requested = 0) ∧
    (client = server → permit = true → clientSync client server permit requested = requested) := by
  constructor
  · intro h
    simp [clientSync, serveSync, decodeCluster, h, firstIsRejection]
  · intro h hp
    subst h; subst hp
    simp [clientSync, serveSync, decodeCluster, firstIsRejection, changesetCount]

/-- **C16 (sync partners).**  "it only picks same-cluster members as sync partners", for EVERY membership
table: every candidate is a listed member of the node's cluster other than
the node itself, and the filter removes nothing else — every listed same-cluster member other than the
node itself is a candidate. -/
theorem candidates_same_cluster (self mine : Nat) (ms : List Member) :
    (∀ m ∈ syncCandidates self mine ms, m ∈ ms ∧ m.cluster = mine ∧ m.actor ≠ self) ∧
    (∀ m ∈ ms, m.cluster = mine → m.actor ≠ self → m ∈ syncCandidates self mine ms) :=
  ⟨fun _ => mem_syncCandidates.1, fun _ hm hc hs => mem_syncCandidates.2 ⟨hm, hc, hs⟩⟩

/-- **C16 (broadcast targets).**  "…and broadcast targets", for EVERY membership table: every address a
pending broadcast may go to belongs to a listed member of the node's cluster other than the node itself;
and the cluster filter removes nothing else — a same-cluster member other than the node itself stays
eligible unless one of the two non-cluster exclusions of the code applies (ring-0 member already served
by the local broadcast, or already sent to). -/
theorem targets_same_cluster (self mine : Nat) (isLocal : Bool) (ring0 sentTo : List Nat) (ms : List Member) :
    (∀ a ∈ broadcastTargets self mine isLocal ring0 sentTo ms,
        ∃ m ∈ ms, m.addr = a ∧ m.cluster = mine ∧ m.actor ≠ self) ∧
    (∀ m ∈ ms, m.cluster = mine → m.actor ≠ self →
        ¬ (isLocal = true ∧ m.addr ∈ ring0) → m.addr ∉ sentTo →
        m.addr ∈ broadcastTargets self mine isLocal ring0 sentTo ms) := by
  constructor
  · intro a ha
    obtain ⟨m, hm, ha, hc, hs, _⟩ := mem_broadcastTargets.1 ha
    exact ⟨m, hm, ha, hc, hs⟩
  · intro m hm hc hs hr hst
    exact mem_broadcastTargets.2 ⟨m, hm, rfl, hc, hs, hr, hst⟩

/-- **C16 (ring-0 targets).**  The immediate targets of a local broadcast, for EVERY membership table:
exactly the addresses of the listed members that are in the node's cluster and in ring 0. -/
theorem ring0_targets_same_cluster (mine : Nat) (ms : List Member) (a : Nat) :
    a ∈ ring0Targets mine ms ↔ ∃ m ∈ ms, m.addr = a ∧ m.cluster = mine ∧ m.ring = some 0 := by
  simp only [ring0Targets, List.mem_filterMap]
  refine exists_congr fun m => and_congr_right fun _ => ?_
  cases m.ring <;> simp [and_comm]

/-- The decision sites the theorems above are about, under the names tools/extract_c16.py gives them
(that a name belongs to a theorem is this naming convention, nothing checks it); each must be present in
the regenerated table. -/
def requiredSites : List String := [
  "uni.drop_on_mismatch", "uni.captured_is_agent_id",
  "serve_sync.rejects_first", "bi.passes_payload_cluster",
  "handle_sync.candidates_same_cluster",
  "broadcast.targets_same_cluster", "broadcast.ring0_uses_agent_cluster", "members.ring0_same_cluster",
  "payload.uni_default_on_eof", "payload.bi_default_on_eof", "payload.default_cluster_is_zero",
  "sender.uni_declares_own_cluster", "client.declares_own_cluster", "client.rejection_aborts"]

/-- **C16 (every path is gated).**  In the CURRENT source every decision site carries its cluster-id
comparison with the expected polarity (table regenerated by tools/extract_c16.py on every run): the uni
handler drops on mismatch with the id it got from the agent, `serve_sync` rejects before anything else
with the id of the `BiPayload`, the sync-candidate and broadcast-target filters and `ring0` compare the
member's cluster with the agent's, both payloads default the field on EOF to `ClusterId(0)`, senders
declare their own id and the sync client aborts on a rejection. -/
theorem all_sites_guarded :
    requiredSites.all (fun n => (Corro.Gen.ClusterSites.sites.lookup n).map (·.1) == some true) = true ∧
    Corro.Gen.ClusterSites.sites.all (fun s => s.2.1) = true := by
  decide +kernel

/-- **C16 (every gate uses the node's CURRENT id).**  In the current source every site reads the node's own
cluster id with `agent.cluster_id()` at the use site (or binds it inside the loop / per call), so a run-time
`cluster set-id` reaches the broadcast loop (frame stamp, both `ring0` calls, the target filter), the
sync-partner choice of every sync round, `serve_sync` of every session and the `SyncStart` of every
client session.  The table's `fresh` flag is `false` for a local bound outside the task's loop (field
shorthand is resolved to its binding).

The only site that is allowed to be not fresh is `uni.drop_on_mismatch`: the uni handler compares with the
value `agent.cluster_id()` had when the connection was accepted (`uni.captured_is_agent_id`), so the
staleness window that remains in the code is exactly one accepted inbound connection — see
`observation_stale_connection_after_set_id`. -/
theorem all_sites_fresh :
    Corro.Gen.ClusterSites.sites.all (fun s => s.2.2 || s.1 == "uni.drop_on_mismatch") = true ∧
    requiredSites.all (fun n => n == "uni.drop_on_mismatch" ||
      (Corro.Gen.ClusterSites.sites.lookup n).map (·.2) == some true) = true := by
  have hall : Corro.Gen.ClusterSites.sites.all (fun s => s.2.2 || s.1 == "uni.drop_on_mismatch") = true := by
    decide +kernel
  refine ⟨hall, List.all_eq_true.2 fun n hn => ?_⟩
  -- `all_sites_guarded` has found an entry under every required name, and `hall` speaks of every entry
  have hg := List.all_eq_true.1 all_sites_guarded.1 n hn
  cases hv : Corro.Gen.ClusterSites.sites.lookup n with
  | none => simp [hv] at hg
  | some v => simpa [Bool.or_comm] using List.all_eq_true.1 hall _ (mem_of_lookup_eq_some hv)

/-- **C16 (run-time change of the id).**  The gate's id is a state component that `set-id` replaces; every
decision of the node uses the current one.  After `setCluster new`, for EVERY membership table (which may
still hold members of the former cluster): every sync candidate, every ring-0 target and every broadcast
target is a listed member of cluster `new`; the frames the node writes declare `new`, so a receiver that is
still in the former cluster drops them; a sync server of the former cluster answers its `SyncStart` with the
rejection only; and connections the node accepts from now on filter with `new`. -/
theorem decisions_follow_current_id (n : Node) (new : Nat) (isLocal : Bool) (ring0 sentTo : List Nat)
    (ms : List Member) :
    (∀ m ∈ (n.setCluster new).candidates ms, m ∈ ms ∧ m.cluster = new ∧ m.actor ≠ n.self) ∧
    (∀ a ∈ (n.setCluster new).ring0 ms, ∃ m ∈ ms, m.addr = a ∧ m.cluster = new ∧ m.ring = some 0) ∧
    (∀ a ∈ (n.setCluster new).targets isLocal ring0 sentTo ms,
        ∃ m ∈ ms, m.addr = a ∧ m.cluster = new ∧ m.actor ≠ n.self) ∧
    (n.setCluster new).stamp = new ∧
    (∀ old, old ≠ new →
        acceptBroadcast old (some (n.setCluster new).stamp) = false ∧
        serveSync old (some (n.setCluster new).stamp) true 1 = [Msg.rejection Rejection.differentCluster]) ∧
    (∀ p, acceptOnConn (n.setCluster new).accept p = true ↔ decodeCluster p = new) := by
  refine ⟨?_, ?_, ?_, rfl, ?_, ?_⟩
  · exact (candidates_same_cluster n.self new ms).1
  · intro a ha
    exact (ring0_targets_same_cluster new ms a).mp ha
  · exact (targets_same_cluster n.self new isLocal ring0 sentTo ms).1
  · intro old h
    have h' : ¬ new = old := fun e => h e.symm
    constructor
    · simp [Node.setCluster, Node.stamp, acceptBroadcast, decodeCluster, h]
    · simp [Node.setCluster, Node.stamp, serveSync, decodeCluster, h']
  · intro p
    exact broadcast_accepted_iff_same_cluster new p

/-- **Observation, outside the property's quantifier** (pairs of ids / message types / membership
tables): the uni handler of an already accepted connection keeps the id it was spawned with (the one site
with `fresh = false` in the unchanged tree), so after a run-time `cluster set-id old → new` that connection
still lets payloads declaring `old` through and drops payloads declaring `new`, until the connection is
re-established.  Within that window the node — whose id is now `new` — applies a change declared for
`old`; the harness op `reconf` reproduces it on the real agent and records it as an observation. -/
theorem observation_stale_connection_after_set_id (old new : Nat) (h : old ≠ new) :
    acceptOnConn ⟨old⟩ (some old) = true ∧ acceptOnConn ⟨old⟩ (some new) = false := by
  simp [acceptOnConn, acceptBroadcast, decodeCluster, h]

/-- members of clusters 0, 1 and 7, the node itself (actor 9, cluster 1) listed too -/
def exampleTable : List Member := [
  ⟨1, 101, 1, some 0⟩, ⟨2, 102, 0, some 0⟩, ⟨3, 103, 1, none⟩, ⟨4, 104, 7, some 2⟩,
  ⟨9, 109, 1, some 0⟩, ⟨5, 105, 1, some 3⟩, ⟨6, 106, 0, none⟩]

example : (syncCandidates 9 1 exampleTable).map (·.actor) = [1, 3, 5] := by decide +kernel
example : ring0Targets 1 exampleTable = [101, 109] := by decide +kernel
example : broadcastTargets 9 1 false [] [] exampleTable = [101, 103, 105] := by decide +kernel
example : broadcastTargets 9 1 true [101, 109] [] exampleTable = [103, 105] := by decide +kernel
example : broadcastTargets 9 1 false [] [103] exampleTable = [101, 105] := by decide +kernel
example : syncCandidates 9 2 exampleTable = [] := by decide +kernel
example : broadcastTargets 9 0 false [] [] exampleTable = [102, 106] := by decide +kernel
example : acceptBroadcast 0 none = true ∧ acceptBroadcast 3 none = false ∧
    acceptBroadcast 3 (some 3) = true ∧ acceptBroadcast 3 (some 259) = false := by decide +kernel
example : serveSync 1 (some 2) true 5 = [Msg.rejection Rejection.differentCluster] := by decide +kernel
example : serveSync 0 none true 2 = [Msg.state, Msg.clock, Msg.changeset, Msg.changeset] := by decide +kernel
example : serveSync 4 none true 2 = [Msg.rejection Rejection.differentCluster] := by decide +kernel
example : clientSync 1 2 true 5 = 0 ∧ clientSync 2 2 true 5 = 5 := by decide +kernel
-- a node of cluster 1 (actor 9) is moved to cluster 0 while its table still lists both clusters
example : ((Node.mk 9 1).setCluster 0).targets false [] [] exampleTable = [102, 106] := by decide +kernel
example : ((Node.mk 9 1).setCluster 0).ring0 exampleTable = [102] := by decide +kernel
example : (((Node.mk 9 1).setCluster 0).candidates exampleTable).map (·.actor) = [2, 6] := by decide +kernel
example : acceptBroadcast 1 (some ((Node.mk 9 1).setCluster 0).stamp) = false := by decide +kernel

end Corro.ClusterGate
