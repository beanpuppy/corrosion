/-
C19 — backup and restore reproduce the replicated data with correct authorship; restoring over a
live database file is all-or-nothing for readers in other processes.
Models: `Corro/Model/Backup.lean` (the SQL `corrosion backup` / `corrosion restore` run),
`Corro/Model/Locks.lean` (the file-lock protocol `sqlite3_restore` relies on).
-/
import Corro.Lemmas.Backup
import Corro.Lemmas.Locks

namespace Corro.Backup

/-- **C19, "a backup … contains exactly the source's replicated rows and per-cell CRDT metadata with
every change still attributed to the actor that authored it, and none of the source's node-local
state".**  For every database satisfying cr-sqlite's table constraints: the resolved changes
(`crsql_changes`: clock rows with the author as a SITE ID, not an ordinal) of the backup are those
of the source, row by row; ordinal 0 is vacated (no site on it, no clock row attributed to it);
the replicated rows and `crsql_db_versions` are untouched; the node-local tables are empty. -/
theorem backup_preserves_authorship (db b : Db) (hwf : WF db) (h : backup db = some b) :
    b.changes = db.changes ∧ ZeroVacant b ∧ b.data = db.data ∧ b.dbVersions = db.dbVersions ∧
    (ConsulPaired db → LocalEmpty b) ∧ WF b := by
  have h1 := backup_changes hwf h
  have h2 := backup_zeroVacant h
  have h3 := backup_wf hwf h
  obtain ⟨self, _, rfl⟩ := backup_eq h
  refine ⟨h1, h2, rfl, rfl, fun hc => ⟨rfl, ?_, ?_, ?_⟩, h3⟩
  · simp only; cases db.subs <;> simp
  · simp only [dropConsul]; cases db.consulServices <;> rfl
  · simp only [dropConsul]
    cases hs : db.consulServices with
    | some _ => rfl
    | none =>
      cases hk : db.consulChecks with
      | none => rfl
      | some _ => simp [ConsulPaired, hs, hk] at hc

/-- `backup` succeeds on every database that has a row for itself -/
theorem backup_succeeds (db : Db) (h : (db.siteOf 0).isSome) : (backup db).isSome := by
  unfold backup
  cases hs : db.siteOf 0 with
  | none => simp [hs] at h
  | some _ => simp

/-- **C19, keeping the destination's actor id.**  For EVERY snapshot whose ordinal 0 is vacant (what
`backup` produces) — whatever ordinals it assigns, whether it does not know the actor `a` at all
or knows it under some ordinal `k` — `restore --self-actor-id` / `--actor-id a` succeeds, the
restored database is the edited snapshot, its ordinal 0 is `a`, and the resolved author of every
clock row (the rows of `a` included) is what it was in the snapshot. -/
theorem restore_keep_self (n : Node) (snap : Db) (keep : Keep) (a : Site)
    (hwf : WF snap) (hz : ZeroVacant snap) (ha : keepActor n keep = some a) :
    ∃ r, restore n snap keep = .ok r ∧ r.node.file = .db r.snapshot ∧
      r.snapshot.siteOf 0 = some a ∧ r.snapshot.changes = snap.changes ∧
      r.snapshot.data = snap.data ∧ WF r.snapshot := by
  exact ⟨_, restore_of_keepActor ha, rfl, adopt_zero hwf a, adopt_changes hwf hz a, rfl, adopt_wf hwf hz a⟩

/-- the snapshot does not know the actor: the clock rows are not touched at all -/
theorem restore_keep_self_unknown_actor (snap : Db) (a : Site) (h : snap.ordOf a = none) :
    (adopt snap a).clock = snap.clock := by
  unfold adopt; simp only [h]

/-- the snapshot knows the actor under ordinal `k + 1`: exactly its rows move to ordinal 0 -/
theorem restore_keep_self_known_actor (snap : Db) (a : Site) (k : Nat) (h : snap.ordOf a = some (k + 1)) :
    (adopt snap a).clock = rewriteOrd (k + 1) 0 snap.clock := by
  unfold adopt; simp only [h]

/-- The vacancy hypothesis is needed: a snapshot that still has a site on ordinal 0 (a plain copy of
a database file instead of a `backup`) gets that site's changes re-attributed to the kept actor.
Site 7 wrote the row; after `restore --actor-id 9` it is attributed to 9. -/
theorem restore_keep_self_needs_vacant_counterexample :
    let snap : Db := { sites := [(0, 7)], clock := [⟨"t", "1", "a", 1, 1, 0, 0⟩] }
    snap.changes.map (·.site) = [some 7] ∧ (adopt snap 9).changes.map (·.site) = [some 9] := by
  decide +kernel

/-- The snapshot FILE is edited in place by a restore that keeps an actor id, so it is no longer a
vacant-ordinal-0 snapshot afterwards: restoring the same file a second time for another actor
re-attributes the first actor's changes.  (One backup → one restore is what C19 quantifies over.) -/
theorem restore_same_file_twice_counterexample :
    let db : Db := { sites := [(0, 1), (1, 2)], clock := [⟨"t", "1", "a", 1, 1, 0, 0⟩, ⟨"t", "2", "a", 1, 1, 0, 1⟩] }
    (backup db).map (fun b => (adopt (adopt b 2) 3).changes.map (·.site)) = some [some 1, some 3] := by
  decide +kernel

/-- **C19, round trip.**  For every source database, every destination (absent, empty, any existing
database) and with or without keeping an actor id: if `backup` and then `restore` go through, the
restored database file holds exactly the source's resolved changes (same list, hence same
multiset), replicated rows and `crsql_db_versions`. -/
theorem restore_roundtrip (db b : Db) (n : Node) (keep : Keep) (r : Restored)
    (hwf : WF db) (hb : backup db = some b) (hr : restore n b keep = .ok r) :
    ∃ d, r.node.file = .db d ∧ d.changes = db.changes ∧ d.data = db.data ∧
      d.dbVersions = db.dbVersions := by
  obtain ⟨hch, hz, hdata, hdbv, _, hwfb⟩ := backup_preserves_authorship db b hwf hb
  cases restore_ok hr
  refine ⟨_, rfl, ?_⟩
  cases keepActor n keep with
  | none => exact ⟨hch, hdata, hdbv⟩
  | some a => exact ⟨(adopt_changes hwfb hz a).trans hch, hdata, hdbv⟩

/-- **C19, "none of the source's node-local state".**  Whatever the destination held, after
`backup` + `restore` the database has no membership rows, no subscription rows and no consul hash
tables, and the destination's subscriptions directory has been wiped. -/
theorem no_local_state_leaks (db b : Db) (n : Node) (keep : Keep) (r : Restored)
    (hwf : WF db) (hc : ConsulPaired db) (hb : backup db = some b) (hr : restore n b keep = .ok r) :
    (∃ d, r.node.file = .db d ∧ LocalEmpty d) ∧ r.node.subsDir = 0 := by
  obtain ⟨_, _, _, _, hloc, _⟩ := backup_preserves_authorship db b hwf hb
  cases restore_ok hr
  refine ⟨⟨_, rfl, ?_⟩, rfl⟩
  cases keepActor n keep <;> exact hloc hc

/-- **C19, "replaces its content completely".**  The restored node does not depend on what the
destination held before, only on the snapshot and on the actor id that is kept. -/
theorem restore_replaces_completely (n1 n2 : Node) (snap : Db) (keep : Keep) (r1 r2 : Restored)
    (h1 : restore n1 snap keep = .ok r1) (h2 : restore n2 snap keep = .ok r2)
    (ha : keepActor n1 keep = keepActor n2 keep) : r1 = r2 := by
  rw [restore_ok h1, restore_ok h2, ha]

/-- **C19, "or fails leaving it untouched"** (the SQL part; lock time-outs are
`Corro.Locks.timeout_releases_untouched`): when `restore` refuses (`--self-actor-id` without a
readable destination), the destination database is what it was — except that an absent file now
exists with length 0 — and its subscriptions directory is not wiped. -/
theorem restore_failure_untouched (n n' : Node) (snap : Db) (keep : Keep) (e : RestoreErr)
    (h : restore n snap keep = .error (e, n')) :
    n'.subsDir = n.subsDir ∧ (n'.file = n.file ∨ (n.file = .absent ∧ n'.file = .empty)) := by
  cases keep with
  | no => cases h
  | actor a => cases h
  | self =>
    simp only [restore] at h
    split at h
    · rename_i hf
      cases h
      exact ⟨rfl, Or.inr ⟨hf, rfl⟩⟩
    · cases h
      exact ⟨rfl, Or.inl rfl⟩
    · split at h
      · cases h
        exact ⟨rfl, Or.inl rfl⟩
      · cases h

/-- source: site 1 (self), knows sites 2 and 3; rows written by itself, by 2 and by 3; one deleted
row (sentinel entry `-1`); members, subscriptions and consul tables populated; rollback mode. -/
def exSrc : Db :=
  { sites := [(0, 1), (1, 2), (2, 3)]
    clock := [⟨"t", "1", "a", 1, 1, 0, 0⟩, ⟨"t", "1", "b", 2, 3, 0, 0⟩, ⟨"t", "2", "a", 1, 1, 0, 1⟩,
              ⟨"t", "3", "-1", 2, 2, 0, 2⟩, ⟨"u", "1+x", "x", 1, 2, 1, 1⟩]
    data := [("t", "1", "x,5"), ("t", "2", "y,n"), ("u", "1+x", "z")]
    dbVersions := [(1, 3), (2, 2), (3, 2)]
    members := 4, subs := some 2, consulServices := some 3, consulChecks := some 1, wal := false }

/-- a node of another actor (site 5) that knows the source under ordinal 1 -/
def exOther : Node :=
  { file := .db { sites := [(0, 5), (1, 1)], clock := [⟨"t", "9", "a", 1, 1, 0, 0⟩], members := 2 }
    subsDir := 3 }

example : WF exSrc := by
  -- `OrdsKey` and `SitesKey` have no `Decidable` instance: `intro` unfolds them and `revert` puts the
  -- bounded `∀ p ∈ …` back, which `decide` evaluates
  refine ⟨?_, ?_, ?_⟩
  · intro p hp q hq; revert p q; decide
  · intro p hp q hq; revert p q; decide
  · decide +kernel

example : (backup exSrc).map (·.sites) = some [(1, 2), (2, 3), (3, 1)] := by decide +kernel
example : (backup exSrc).map (fun b => b.clock.map (·.ord)) = some [3, 3, 1, 2, 1] := by decide +kernel
example : (backup exSrc).map (fun b => decide (b.changes = exSrc.changes)) = some true := by decide +kernel
example : (backup exSrc).map (fun b => (b.members, b.subs, b.consulServices, b.consulChecks, b.wal)) =
    some (0, some 0, none, none, true) := by decide +kernel
/-- restored onto a node with a different actor id, keeping that id: ordinal 0 = 5, authors kept -/
example : (backup exSrc).map (fun b => match restore exOther b .self with
    | .ok r => (r.snapshot.sites, r.snapshot.changes.map (·.site), r.node.subsDir)
    | .error _ => ([], [], 99)) =
    some ([(1, 2), (2, 3), (3, 1), (0, 5)], [some 1, some 1, some 2, some 3, some 2], 0) := by decide +kernel
/-- restored onto the source itself, keeping its id: its rows are back on ordinal 0 -/
example : (backup exSrc).map (fun b => ((adopt b 1).sites, (adopt b 1).clock.map (·.ord))) =
    some ([(1, 2), (2, 3), (0, 1)], [0, 0, 1, 2, 1]) := by decide +kernel
/-- without keeping an id the snapshot is copied as it is; `--self-actor-id` needs a destination -/
example : (backup exSrc).map (fun b => match restore {} b .no with
    | .ok r => r.node.file == .db b | .error _ => false) = some true := by decide +kernel
example : (backup exSrc).map (fun b => match restore {} b .self with
    | .ok _ => none | .error e => some e) = some (some (.noSelf, { file := .empty })) := by decide +kernel
/-- a database without a row for itself (restored without an id and never opened) cannot be backed up -/
example : (backup exSrc).map (fun b => backup b) = some none := by decide +kernel
/-- only the checks table exists: the batch `DROP` stops at the first error and it survives -/
example : ((backup { exSrc with consulServices := none }).map (·.consulChecks)) = some (some 1) := by decide +kernel

end Corro.Backup

namespace Corro.Locks

/-- the restore is somewhere between "its next step is its first change to the destination" and
"its next step is its last one" -/
def midCopy (p : Proc) : Bool :=
  p.prog.any Step.isMut &&
    (p.done.any Io.isMut || (match p.prog.head? with | some st => st.isMut | none => false))

/-- every read slot of the journal mode is held exclusively -/
def fullHeld (wal : Bool) (h : Held) : Bool := (readSlots wal).all fun s => h.contains (s, Kind.ex)

/-- **POSIX record locks, as modelled: an exclusive lock excludes.**  In every state any schedule can
reach from a lock-free start, if one process holds a slot exclusively no other process holds it in
any mode. -/
theorem exclusive_excludes {init sys : List Proc} (hi : Init init) (h : Reach init sys)
    {i j : Nat} {p q : Proc} (hij : i ≠ j) (hp : sys[i]? = some p) (hq : sys[j]? = some q)
    {s : Slot} (hs : (s, Kind.ex) ∈ p.held) : ∀ k, (s, k) ∉ q.held := by
  intro k hk
  have := reach_compat hi h i j p q hij hp hq s .ex k hs hk
  cases this.1

/-- while changes to the destination are under way every read slot is held exclusively -/
def holdsAllAt (wal : Bool) (pre post : List Step) : Bool :=
  !(post.any Step.isMut &&
      ((iosOf pre).any Io.isMut || (match post.head? with | some st => st.isMut | none => false)))
    || fullHeld wal (heldAfter [] pre)

/-- no change to the destination precedes a lock request -/
def locksFirstAt (pre post : List Step) : Bool :=
  match post.head? with
  | some (.acquire _ _) => !(iosOf pre).any Io.isMut
  | _ => true

/-- checked by evaluation at every program point of `lock_all` + `restore`: from the first change to
the destination to the last one, every read slot of the destination's journal mode is held
exclusively -/
theorem restore_holds_all (wal : Bool) :
    (List.range ((restoreProg wal).length + 1)).all (fun n =>
      holdsAllAt wal ((restoreProg wal).take n) ((restoreProg wal).drop n)) = true := by
  cases wal <;> decide +kernel

/-- checked at every program point: no change to the destination precedes a lock request, and the
program ends without locks -/
theorem restore_locks_first (wal : Bool) :
    (List.range ((restoreProg wal).length + 1)).all (fun n =>
      locksFirstAt ((restoreProg wal).take n) ((restoreProg wal).drop n)) = true ∧
    heldAfter [] (restoreProg wal) = [] := by
  cases wal <;> decide +kernel

/-- **C19, "a reader in another process may be refused while the restore runs".**  For both journal
modes, every number of other processes running any programs whatsoever, and every schedule: while
the restore is between its first and its last change to the destination, no other process holds a
lock that lets it read pages (rollback journal: SHARED; WAL: a read-mark), and a request for one
is refused. -/
theorem copy_excludes_readers (wal : Bool) (init sys : List Proc) (r : Nat) (p0 p : Proc)
    (hi : Init init) (hr0 : init[r]? = some p0) (hprog : p0.prog = restoreProg wal)
    (h : Reach init sys) (hp : sys[r]? = some p) (hmid : midCopy p = true) :
    ∀ (j : Nat) (q : Proc), j ≠ r → sys[j]? = some q →
      holdsRead wal q.held = false ∧
      ∀ s k rest, q.prog = .acquire s k :: rest → s ∈ readSlots wal → stepAt sys j .go = none := by
  -- the restore holds every read slot exclusively
  have hall : ∀ s ∈ readSlots wal, (s, Kind.ex) ∈ p.held := by
    have ht := (reach_tracks hi h).2 r p0 p hr0 hp
    rw [hprog] at ht
    obtain ⟨pre, post, hP, hdone, hst⟩ := ht
    rcases hst with ⟨hheld, hpr⟩ | ⟨_, hpr, _⟩
    · have hc := split_check (restore_holds_all wal) hP
      simp only [midCopy, hpr, hdone] at hmid
      simp only [holdsAllAt, hmid, Bool.not_true, Bool.false_or] at hc
      intro s hs
      simp only [fullHeld, List.all_eq_true] at hc
      have := hc s hs
      rw [hheld]
      simpa using this
    · simp [midCopy, hpr] at hmid
  intro j q hj hq
  constructor
  · cases hr : holdsRead wal q.held with
    | false => rfl
    | true =>
      simp only [holdsRead, List.any_eq_true] at hr
      obtain ⟨⟨s, k⟩, hm, hs⟩ := hr
      have hs' : s ∈ readSlots wal := by simpa using hs
      exact absurd hm (exclusive_excludes hi h (Ne.symm hj) hp hq (hall s hs') k)
  · intro s k rest hq' hs
    have hconf : conflicts (others sys j) s k = true :=
      conflicts_iff.2 ⟨p, mem_others.2 ⟨r, Ne.symm hj, hp⟩, .ex, hall s hs, Or.inr rfl⟩
    simp only [stepAt, hq, Proc.step, hq', hconf, if_true, Option.map_none]

/-- **C19, "either fails leaving it untouched or replaces its content completely"** (lock part).
In every schedule: when the restore's program has ended — it ran to the end or gave up on a lock
(time-out) — it holds no lock, and either it has not changed the destination at all or it has
performed every one of its changes. -/
theorem timeout_releases_untouched (wal : Bool) (init sys : List Proc) (r : Nat) (p0 p : Proc)
    (hi : Init init) (hr0 : init[r]? = some p0) (hprog : p0.prog = restoreProg wal)
    (h : Reach init sys) (hp : sys[r]? = some p) (hfin : p.prog = []) :
    p.held = [] ∧ (p.done.any Io.isMut = false ∨ p.done = iosOf (restoreProg wal)) := by
  have ht := (reach_tracks hi h).2 r p0 p hr0 hp
  rw [hprog] at ht
  obtain ⟨pre, post, hP, hdone, hst⟩ := ht
  rcases hst with ⟨hheld, hpr⟩ | ⟨hheld, _, s, k, rest, hpost⟩
  · have : post = [] := by rw [← hpr]; exact hfin
    subst this
    simp only [List.append_nil] at hP
    subst hP
    exact ⟨by rw [hheld]; exact (restore_locks_first wal).2, Or.inr hdone⟩
  · have hc := split_check (restore_locks_first wal).1 hP
    simp only [locksFirstAt, hpost, List.head?_cons] at hc
    refine ⟨hheld, Or.inl ?_⟩
    rw [hdone]
    simpa using hc

/-- giving up is possible at every lock request, whatever the others hold -/
theorem give_up_always_possible (sys : List Proc) (i : Nat) (p : Proc) (s : Slot) (k : Kind)
    (rest : List Step) (hp : sys[i]? = some p) (hprog : p.prog = .acquire s k :: rest) :
    stepAt sys i .giveUp = some (sys.set i { p with held := [], prog := [] }) := by
  simp only [stepAt, hp, Proc.step, hprog, Option.map_some]

/-- **C19, "every read that succeeds shows entirely the old or entirely the new database".**  A
process that follows SQLite's discipline (`readsUnderLock`: pages are read only under the journal
mode's read lock) never reads a page while the restore is between its first and its last change,
and does not even hold its read lock then.  A read transaction is the interval during which the
read lock is held; it never overlaps the interval of the restore's changes, so it lies entirely
before the first change or entirely after the last one — in every schedule, with any number of
readers. -/
theorem reads_atomic (wal : Bool) (init sys : List Proc) (r : Nat) (p0 p : Proc)
    (hi : Init init) (hr0 : init[r]? = some p0) (hprog : p0.prog = restoreProg wal)
    (h : Reach init sys) (hp : sys[r]? = some p) (hmid : midCopy p = true)
    (j : Nat) (q0 q : Proc) (hj : j ≠ r) (hq0 : init[j]? = some q0)
    (hdisc : readsUnderLock wal q0.prog = true) (hq : sys[j]? = some q) :
    holdsRead wal q.held = false ∧ q.prog.head? ≠ some (.io .readPages) := by
  have hex := (copy_excludes_readers wal init sys r p0 p hi hr0 hprog h hp hmid j q hj hq).1
  refine ⟨hex, ?_⟩
  intro hhead
  have ht := (reach_tracks hi h).2 j q0 q hq0 hq
  obtain ⟨pre, post, hP, _, hst⟩ := ht
  rcases hst with ⟨hheld, hpr⟩ | ⟨_, hpr, _⟩
  · unfold readsUnderLock at hdisc
    have hc := split_check (φ := fun pre post => match post.head? with
      | some (.io .readPages) => holdsRead wal (heldAfter [] pre)
      | _ => true) hdisc hP
    rw [← hpr, hhead] at hc
    simp only at hc
    rw [← hheld, hex] at hc
    cases hc
  · rw [hpr] at hhead; cases hhead

/-! ### after the restore: what the lock protocol does NOT give (known finding
`restore-live-wal-stale-readers`) -/

/-- While the destination's WAL holds frames, every attached reader notices the restore: whatever
other readers did in between (recovered the wal-index or not), its next read transaction drops its
cache, so it reads the snapshot only. -/
theorem restore_nonempty_wal_readers_notice (f : WalDb) (r : WalReader) (g : Nat) (recovered : Bool)
    (hm : 0 < r.hdr.mxFrame) :
    let f1 := walRestore f g
    let f2 := if recovered then walRecover f1 else f1
    (walBeginRead f2 r).2.cacheGen = none ∧ walQueryGens (walBeginRead f2 r).1 (walBeginRead f2 r).2 = [g] := by
  cases recovered
  · simp [walRestore, walBeginRead, walRecover, walQueryGens]
  · have hne : (⟨true, 0, 0⟩ : WalHdr) ≠ r.hdr := by
      intro h; rw [← h] at hm; exact Nat.lt_irrefl 0 hm
    simp [walRestore, walBeginRead, walRecover, walQueryGens, hne]

/-- **Counterexample (the code as it stands violates C19's reader clause).**  Destination in
WAL mode with an EMPTY WAL, two attached readers A and B that have both read it.  After the restore
A starts a read transaction: the header is zeroed, A recovers it — from an empty WAL, so it comes
out exactly as before — and drops its cache.  B then finds a valid header equal to its own copy and
keeps its cache: a query of B that touches a cached and an uncached page sees the old AND the new
database.  Observed on the real CLI with reader processes (corpus/C19/restore_stale_readers_empty_wal.ops). -/
theorem restore_empty_wal_stale_reader_counterexample :
    let h0 : WalHdr := ⟨true, 0, 0⟩
    let f0 : WalDb := { gen := 0, walFrames := 0, walSalt := 7, shm := h0 }
    let a : WalReader := { hdr := h0, cacheGen := some 0 }
    let b : WalReader := { hdr := h0, cacheGen := some 0 }
    let f1 := walRestore f0 1
    let (f2, a') := walBeginRead f1 a
    let (f3, b') := walBeginRead f2 b
    walQueryGens f2 a' = [1] ∧ b'.cacheGen = some 0 ∧ walQueryGens f3 b' = [0, 1] := by
  decide +kernel

example : readsUnderLock false (rollbackReader 3) = true := by decide +kernel
example : readsUnderLock false rollbackWriter = true := by decide +kernel
example : readsUnderLock true (walReader .wRead0 2) = true := by decide +kernel
example : readsUnderLock true (walReader .wRead3 1) = true := by decide +kernel
example : readsUnderLock true (walWriter .wRead1) = true := by decide +kernel
/-- a process that reads pages without any lock does not -/
example : readsUnderLock true [.io .readPages] = false := by decide +kernel

/-- rollback mode: the restore (process 0) has taken its locks and copies; the reader (process 1)
cannot even get PENDING, and after the restore has closed its files it reads -/
example :
    let sys0 : List Proc := [{ prog := restoreProg false }, { prog := rollbackReader 1 }]
    let sys1 := runSched sys0 (List.replicate 8 (0, .go))
    (sys1[0]?.map midCopy) = some true ∧ stepAt sys1 1 .go = none ∧
    ((runSched sys1 (List.replicate 3 (0, .go) ++ List.replicate 5 (1, .go)))[1]?.map (·.done)) =
      some [.readPages] := by decide +kernel

/-- WAL mode: a reader inside a transaction on read-mark 0 holds the restore off (it times out
without having touched anything); once the reader is done the restore gets through -/
example :
    let sys0 : List Proc := [{ prog := restoreProg true }, { prog := walReader .wRead0 1 }]
    let sys1 := runSched sys0 (List.replicate 5 (1, .go) ++ List.replicate 8 (0, .go))
    (sys1[0]?.map (fun p => p.prog.head?)) = some (some (.acquire .wRead0 .ex)) ∧
    stepAt sys1 0 .go = none ∧
    ((runSched sys1 [(0, .giveUp)])[0]?.map (fun p => (p.held, p.done))) = some ([], [.readHdr]) ∧
    ((runSched sys1 (List.replicate 2 (1, .go) ++ List.replicate 10 (0, .go)))[0]?.map (·.done)) =
      some [.readHdr, .rmJournal, .truncWal, .copy, .zeroShm] := by decide +kernel

end Corro.Locks
