/-
C02 — advertised sync state is an exact, durable summary of what a node holds (model
`Corro/Model/Book.lean`; `GapsOk`, `VersOk`, `Inv`, `OpOk`, `Touched`, `Completed` are in `Corro/Lemmas/Book*.lean`).
`VersOk S` excludes version 0 (`1 ≤ lo`): `versions.start().0 - 1` (agent.rs:1214) underflows there, and
the property does not quantify over it.  `OpOk L op` admits a partial chunk with any seq range, also an inverted one.
-/
import Corro.Lemmas.BookHist

namespace Corro.Book
open Corro Corro.RSet

/-- "the versions a node lists as needed" after one `insert_db`: for a well-formed state and any
non-empty set `S` of versions ≥ 1, `insert_db` succeeds, the head becomes `max(head, sup S)` and, as
point sets, `needed' = (needed ∪ [head+1, sup S]) \ S`. -/
theorem insert_db_spec {b : Book} {rows : Rows} {S : RSet} (h : GapsOk b rows) (hS : VersOk S) :
    ∃ b' rows', insertDb b rows S = .ok (b', rows') ∧
      b'.max = some (max (b.max.getD 0) (supHi S)) ∧
      ∀ x, Mem b'.needed x ↔ (Mem b.needed x ∨ (b.max.getD 0 + 1 ≤ x ∧ x ≤ supHi S)) ∧ ¬ Mem S x := by
  obtain ⟨P', N', e1, _, e3, _⟩ := insertDb_ok h hS
  exact ⟨_, N', e1, rfl, e3⟩

/-- The same for what the callers actually pass: any non-empty list of forward ranges with
`1 ≤ lo` (overlapping, adjacent, repeated, in any order), collected into a `RangeInclusiveSet`. -/
theorem insert_db_spec_ranges {b : Book} {rows : Rows} {rs : List (Nat × Nat)} (h : GapsOk b rows)
    (hne : rs ≠ []) (hrs : ∀ r ∈ rs, 1 ≤ r.1 ∧ r.1 ≤ r.2) :
    ∃ b' rows', insertDb b rows (RSet.ofList rs) = .ok (b', rows') ∧
      b'.max = some (max (b.max.getD 0) (supHi rs)) ∧
      ∀ x, Mem b'.needed x ↔
        (Mem b.needed x ∨ (b.max.getD 0 + 1 ≤ x ∧ x ≤ supHi rs)) ∧ ¬ ∃ r ∈ rs, r.1 ≤ x ∧ x ≤ r.2 := by
  have hf : ∀ r ∈ rs, r.1 ≤ r.2 := fun r hr => (hrs r hr).2
  obtain ⟨b', rows', e1, e2, e3⟩ := insert_db_spec h (versOk_ofList hne hrs)
  rw [supHi_ofList hf] at e2 e3
  exact ⟨b', rows', e1, e2, fun x => (e3 x).trans (and_congr_right' (not_congr (mem_ofList hf x)))⟩

/-- "gap ranges pairwise disjoint, non-adjacent, inside 1..head" and "the persisted gap records
describe the same set as the in-memory view": after `insert_db` on a well-formed state the new
`needed` is canonical, lies inside `1 .. head'`, the modelled `__corro_bookkeeping_gaps` rows are
exactly its intervals — and neither a `DELETE` with `count != 1` nor an `INSERT` primary-key
conflict occurs (those are the only error outcomes of `insertDb`). -/
theorem insert_db_wf_noerror {b : Book} {rows : Rows} {S : RSet} (h : GapsOk b rows) (hS : VersOk S) :
    ∃ b' rows', insertDb b rows S = .ok (b', rows') ∧ GapsOk b' rows' := by
  obtain ⟨P', N', e1, e2, _⟩ := insertDb_ok h hS
  exact ⟨_, N', e1, e2⟩

/-- partial versions survive `insert_db` untouched when none of them is needed (the
`self.partials.remove(&version)` loop only ever sees needed versions) -/
theorem insert_db_keeps_partials {b : Book} {rows : Rows} {S : RSet} (h : GapsOk b rows) (hS : VersOk S)
    (hp : ∀ e ∈ b.partials, ¬ Mem b.needed e.1) :
    ∃ b' rows', insertDb b rows S = .ok (b', rows') ∧ b'.partials = b.partials := by
  obtain ⟨P', N', e1, _, _, e5⟩ := insertDb_ok h hS
  exact ⟨_, N', e1, e5 hp⟩

/-- one operation of the property's quantifier keeps the invariant -/
theorem step_wf {L : Nat → Nat} {st : Node} (h : Inv L st) {op : Op} (hop : OpOk L op) :
    Inv L (step st op) := step_inv h hop

/-- "for every sequence of version-range insertions …, interleaved with partial-chunk insertions
for any versions, starting from any reachable bookkeeping state": the invariant holds after ANY
sequence of operations from any well-formed state. -/
theorem reachable_wf {L : Nat → Nat} (st : Node) (ops : List Op) (h : Inv L st)
    (hops : ∀ op ∈ ops, OpOk L op) : Inv L (run st ops) := by
  induction ops generalizing st with
  | nil => exact h
  | cons op t ih =>
    have hops' := List.forall_mem_cons.mp hops
    exact ih _ (step_inv h hops'.1) hops'.2

/-- `reachable_wf` from the empty state, the invariant spelled out: rows = in-memory `needed`,
canonical, inside `1 .. head`; partial versions are `≥ 1`, `≤ head`, not needed; the seq rows mirror
the partials. -/
theorem reachable_wf_from_empty {L : Nat → Nat} (ops : List Op) (hops : ∀ op ∈ ops, OpOk L op) :
    let st := run Node.empty ops
    st.db.gaps = st.book.needed ∧ WF st.book.needed ∧
    (∀ x, Mem st.book.needed x → 1 ≤ x ∧ x < st.book.max.getD 0) ∧
    (∀ e ∈ st.book.partials, 1 ≤ e.1 ∧ e.1 ≤ st.book.max.getD 0 ∧ ¬ Mem st.book.needed e.1) ∧
    st.db.seqs = seqRowsOf st.book.partials := by
  have h := reachable_wf Node.empty ops (inv_empty L) hops
  exact ⟨h.gaps.rows, h.gaps.wf, h.gaps.inside,
    fun e he => ⟨keysFrom_forall h.keys e he, (h.pin e he).1, (h.pin e he).2⟩, h.seqrows⟩

/-- `v` is advertised as partially received: it is a buffered partial, it is listed in
`partial_need`, and the listed ranges are exactly (and non-vacuously) the seqs of `0..=last_seq`
that were not received. -/
def AdvPartial (b : Book) (out : SyncOut) (v : Nat) : Prop :=
  ∃ p, b.partials.lookup v = some p ∧
    out.partialNeed.lookup v = some (p.seqs.gaps (0, p.last)) ∧
    p.seqs.gaps (0, p.last) ≠ [] ∧
    ∀ q, Mem (p.seqs.gaps (0, p.last)) q ↔ q ≤ p.last ∧ ¬ Mem p.seqs q

/-- `v` is advertised as held: `contains_version` knows it, it is not in `partial_need`, and if
it is still buffered as a partial, every seq of `0..=last_seq` has arrived. -/
def AdvHeld (b : Book) (out : SyncOut) (v : Nat) : Prop :=
  containsVersion b v = true ∧ out.partialNeed.lookup v = none ∧
    ∀ p, b.partials.lookup v = some p → ∀ q, q ≤ p.last → Mem p.seqs q

/-- "the versions 1..head that a node advertises split exactly into versions it holds, versions it
lists as needed, and versions it lists as partially received together with exactly the missing
sequence ranges; nothing is in two classes and nothing is missing": on every well-formed (hence
every reachable) state, each version of `1..=head` is in exactly one of the three classes of
`generate_sync`'s output. -/
theorem advertised_partition {L : Nat → Nat} {st : Node} (h : Inv L st) (hd : Nat)
    (hhead : (generateSync st.book).head = some hd) (v : Nat) (_h1 : 1 ≤ v) (h2 : v ≤ hd) :
    let out := generateSync st.book
    (Mem out.need v ∧ ¬ AdvPartial st.book out v ∧ ¬ AdvHeld st.book out v) ∨
    (¬ Mem out.need v ∧ AdvPartial st.book out v ∧ ¬ AdvHeld st.book out v) ∨
    (¬ Mem out.need v ∧ ¬ AdvPartial st.book out v ∧ AdvHeld st.book out v) := by
  obtain ⟨hhd, hneed, hpn⟩ := generateSync_spec h
  have hlk := hpn v
  have hcv : containsVersion st.book v = true ↔ ¬ Mem st.book.needed v :=
    (containsVersion_iff _ _).trans (and_iff_left (by rw [← hhd, hhead]; exact h2))
  simp only [hneed]
  by_cases hN : Mem st.book.needed v
  · refine Or.inl ⟨hN, ?_, ?_⟩
    · rintro ⟨p, hp, _⟩
      exact (h.pin _ (mem_of_lookup hp)).2 hN
    · rintro ⟨hc, _⟩
      exact (hcv.mp hc) hN
  · refine Or.inr ?_
    cases hl : st.book.partials.lookup v with
    | none =>
      rw [hl] at hlk
      refine Or.inr ⟨hN, ?_, hcv.mpr hN, hlk, ?_⟩
      · rintro ⟨p, hp, _⟩; rw [hl] at hp; cases hp
      · intro p hp; rw [hl] at hp; cases hp
    | some p =>
      rw [hl] at hlk
      have hw := (h.pwf _ (mem_of_lookup hl)).1
      cases hc : p.isComplete with
      | true =>
        simp only [hc, if_true] at hlk
        refine Or.inr ⟨hN, ?_, hcv.mpr hN, hlk, ?_⟩
        · rintro ⟨p', _, hp2, _⟩
          rw [hlk] at hp2; cases hp2
        · intro p' hp'
          rw [hl] at hp'
          cases hp'
          exact (isComplete_iff hw).mp hc
      | false =>
        simp only [hc, Bool.false_eq_true, if_false] at hlk
        refine Or.inl ⟨hN, ⟨p, hl, hlk, ?_, ?_⟩, ?_⟩
        · intro hnil
          rw [Partial.isComplete, Partial.fullRange, hnil] at hc
          cases hc
        · intro q
          rw [mem_gaps p.seqs 0 p.last q 0 hw, and_iff_right (Nat.zero_le q)]
        · rintro ⟨_, hnone, _⟩
          rw [hlk] at hnone; cases hnone

/-- nothing outside `1..=head` is advertised, the advertised `need` is the canonical `needed`
set itself, and no version is listed twice in `partial_need`. -/
theorem advertised_inside {L : Nat → Nat} {st : Node} (h : Inv L st) :
    let out := generateSync st.book
    (∀ x, Mem out.need x → 1 ≤ x ∧ x < out.head.getD 0) ∧
    (out.head ≠ none → out.need = st.book.needed) ∧
    (∀ v g, out.partialNeed.lookup v = some g →
      ∃ p, (v, p) ∈ st.book.partials ∧ 1 ≤ v ∧ v ≤ out.head.getD 0 ∧ ¬ Mem out.need v) := by
  obtain ⟨hhd, hneed, hpn⟩ := generateSync_spec h
  simp only [hhd, hneed]
  refine ⟨h.gaps.inside, fun _ => trivial, fun v g hg => ?_⟩
  rw [hpn v] at hg
  cases hl : st.book.partials.lookup v with
  | none => rw [hl] at hg; cases hg
  | some p =>
    have hmem := mem_of_lookup hl
    exact ⟨p, hmem, keysFrom_forall h.keys _ hmem, h.pin _ hmem⟩

/-- "a version is never advertised as held unless the transaction that stored it committed" and
"nothing is missing": after ANY sequence of operations from the empty state, with
`Touched ops` = the versions some executed operation handed to `insert_db` (complete, cleared or
partial; a skipped / dropped / rolled-back chunk touches nothing), the advertised `need` is exactly
`1..=head` minus `Touched`, everything touched lies in `1..=head`, and the head itself is a touched
version (or nothing was ever inserted). So `held ∪ partial = Touched`, whatever the order,
overlaps or repeats. -/
theorem advertised_exact {L : Nat → Nat} (ops : List Op) (hops : ∀ op ∈ ops, OpOk L op) :
    let st := run Node.empty ops
    let hd := st.book.max.getD 0
    (∀ x, Mem (generateSync st.book).need x ↔ 1 ≤ x ∧ x ≤ hd ∧ ¬ Touched Node.empty ops x) ∧
    (∀ x, Touched Node.empty ops x → 1 ≤ x ∧ x ≤ hd) ∧
    (hd = 0 ∨ Touched Node.empty ops hd) ∧
    (generateSync st.book).head = st.book.max := by
  have hinv := reachable_wf (L := L) Node.empty ops (inv_empty L) hops
  have r := run_arrive (L := L) ops Node.empty (inv_empty L) hops
  obtain ⟨hhd, hneed, _⟩ := generateSync_spec hinv
  refine ⟨fun x => ?_, fun x hx => ⟨r.pos x hx, (r.arrived hx).2⟩, r.head, hhd⟩
  rw [hneed]
  -- known = touched, and a needed version is in `1..head` and not known
  have hk := r.known x
  have hin := hinv.gaps.inside x
  exact ⟨fun hx => ⟨(hin hx).1, Nat.le_of_lt (hin hx).2, fun ht => (r.arrived ht).1 hx⟩,
    fun hx => Classical.byContradiction fun hn =>
      (hk.mp ⟨hx.2.1, hn⟩).elim (fun h0 => Nat.not_succ_le_zero 0 (Nat.le_trans hx.1 h0.1)) hx.2.2⟩

/-- "a version … it durably holds (applied or recorded as cleared)" is advertised as held: after ANY
sequence of operations from the empty state, every version that arrived as a whole (complete or
cleared changeset — also when a part of it was still buffered as an incomplete partial at that
moment, and also when the `contains_all` guard dropped the changeset as already known) is not
needed, lies in `1..=head`, is not in `partial_need`, and `contains_version` knows it.
(Holds since /repo 0a29c94, which drops a partial when its version arrives as a whole: without it
`partial 1 1-1 1` / `insert 1-1` leaves version 1 in `partial_need`; a regression `example` below
pins that sequence.) -/
theorem advertised_held {L : Nat → Nat} (ops : List Op) (hops : ∀ op ∈ ops, OpOk L op)
    (x : Nat) (hx : Completed ops x) :
    let st := run Node.empty ops
    let out := generateSync st.book
    ¬ Mem out.need x ∧ x ≤ out.head.getD 0 ∧ out.partialNeed.lookup x = none ∧
    containsVersion st.book x = true := by
  have hinv := reachable_wf (L := L) Node.empty ops (inv_empty L) hops
  obtain ⟨⟨c1, c2⟩, c3⟩ := (contains_none_iff _ x).mp
    (known_run (L := L) ops Node.empty (inv_empty L) hops (.inr hx))
  obtain ⟨hhd, hneed, hpn⟩ := generateSync_spec hinv
  simp only [hhd, hneed, hpn]
  refine ⟨c1, c2, ?_, (containsVersion_iff _ _).mpr ⟨c1, c2⟩⟩
  cases hl : (run Node.empty ops).book.partials.lookup x with
  | none => rfl
  | some p => exact if_pos (c3 p hl)

/-- "the persisted gap and partial records always describe the same sets as the in-memory view":
reloading from the durable rows of a well-formed (hence of every reachable) state gives back the
same `BookedVersions` — the same `needed`, the same partials with the same seq sets, and the head,
which `from_conn` computes as max(`crsql_db_versions` row, partial versions). -/
theorem from_conn_roundtrip {L : Nat → Nat} {st : Node} (h : Inv L st) : fromConn st.db = st.book :=
  fromConn_eq h

/-- what `from_conn` guarantees about the head on its own: it is the larger of the db-version row
and the partial versions read from `__corro_seq_bookkeeping` (gap rows never move it). -/
theorem from_conn_head {L : Nat → Nat} {st : Node} (h : Inv L st) :
    (fromConn st.db).max.getD 0 = max (st.db.dbv.getD 0) (supKeys st.book.partials) := by
  rw [fromConn_eq h]; exact h.head1

/-! The hypotheses are satisfiable by non-trivial states. -/

example : GapsOk ⟨[], [(2, 3), (7, 8)], some 10⟩ [(2, 3), (7, 8)] :=
  ⟨⟨Nat.zero_le _, by decide, by decide, by decide, trivial⟩, rfl, fun x hx => by
    have : (2 ≤ x ∧ x ≤ 3) ∨ (7 ≤ x ∧ x ≤ 8) := (mem_cons.trans (or_congr_right mem_singleton)).mp hx
    show 1 ≤ x ∧ x < 10
    omega⟩

example : VersOk [(3, 7), (12, 12)] :=
  ⟨⟨Nat.zero_le _, by decide, by decide, by decide, trivial⟩, List.cons_ne_nil _ _, fun x hx => by
    have : (3 ≤ x ∧ x ≤ 7) ∨ (12 ≤ x ∧ x ≤ 12) := (mem_cons.trans (or_congr_right mem_singleton)).mp hx
    omega⟩

/-- `insert_db` splits, shrinks and creates gaps exactly as `insert_db_spec` says:
`({2,3,7,8} ∪ [11,12]) \ {3..7,12} = {2, 8, 11}`. -/
example : insertDb ⟨[], [(2, 3), (7, 8)], some 10⟩ [(2, 3), (7, 8)] [(3, 7), (12, 12)] =
    .ok (⟨[], [(2, 2), (8, 8), (11, 11)], some 12⟩, [(2, 2), (8, 8), (11, 11)]) := by rfl

/-- a reachable state with gaps, an incomplete partial missing only seq 0, and a complete one -/
example : run Node.empty [.ins [(5, 6)], .part 9 (1, 3) 3, .part 2 (0, 0) 1, .part 2 (1, 1) 1, .ins [(12, 12)]] =
    ⟨⟨[(2, ⟨[(0, 1)], 1⟩), (9, ⟨[(1, 3)], 3⟩)], [(1, 1), (3, 4), (7, 8), (10, 11)], some 12⟩,
     ⟨[(1, 1), (3, 4), (7, 8), (10, 11)], [(2, 0, 1, 1), (9, 1, 3, 3)], some 12⟩⟩ := by decide +kernel

/-- its operations are inside the quantifier (`L 9 = 3`, `L 2 = 1`) -/
example : ∀ op ∈ [Op.ins [(5, 6)], .part 9 (1, 3) 3, .part 2 (0, 0) 1, .part 2 (1, 1) 1, .ins [(12, 12)]],
    OpOk (fun v => if v = 9 then 3 else 1) op := by
  intro op hop
  simp only [List.mem_cons, List.not_mem_nil, or_false] at hop
  -- `OpOk` of a closed op is two closed facts (`.ins`: non-empty, ranges forward from 1; `.part`: `1 ≤ v`, `last = L v`)
  rcases hop with rfl | rfl | rfl | rfl | rfl <;> exact ⟨by decide, by decide⟩

/-- and what it advertises: head 12, four gaps, version 9 partial with exactly seq 0 missing,
version 2 (complete partial) held. -/
example : generateSync (run Node.empty
      [.ins [(5, 6)], .part 9 (1, 3) 3, .part 2 (0, 0) 1, .part 2 (1, 1) 1, .ins [(12, 12)]]).book =
    ⟨some 12, [(1, 1), (3, 4), (7, 8), (10, 11)], [(9, [(0, 0)])]⟩ := by decide +kernel

example : opReload (run Node.empty [.ins [(5, 6)], .part 9 (1, 3) 3, .part 2 (0, 0) 1, .part 2 (1, 1) 1]) =
    run Node.empty [.ins [(5, 6)], .part 9 (1, 3) 3, .part 2 (0, 0) 1, .part 2 (1, 1) 1] := by decide +kernel

/-- regression (fixed in /repo 0a29c94): a complete changeset over a still incomplete partial
drops the partial; the version is advertised as held -/
example : generateSync (run Node.empty [.part 1 (1, 1) 1, .ins [(1, 1)]]).book = ⟨some 1, [], []⟩ := by
  decide +kernel

/-- regression (fixed in /repo 15a7241): a cleared version that supersedes the partial which was
the head writes the db-version row, so the head survives a restart -/
example : opReload (run Node.empty [.part 2 (0, 0) 1, .ins [(2, 2)]]) =
    ⟨⟨[], [(1, 1)], some 2⟩, ⟨[(1, 1)], [], some 2⟩⟩ := by decide +kernel

/-- the hypothesis of `advertised_held` holds of a history in which whole versions arrive over an
incomplete partial (2), over a complete one (7) and as an already known range (5-6) -/
example : Completed [.part 2 (0, 0) 1, .part 7 (0, 0) 1, .part 7 (1, 1) 1, .ins [(5, 6)], .ins [(2, 2), (7, 7)],
    .ins [(5, 6)]] 7 := ⟨[(2, 2), (7, 7)], by decide, (7, 7), by decide, by decide⟩

end Corro.Book
