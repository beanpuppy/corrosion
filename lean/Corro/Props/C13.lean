/-
C13 — subscriptions survive a clean restart and are discarded after an unclean one.
The property theorems and the schedules of their counterexamples; the model is
`Corro/Model/SubLife.lean`.  Every theorem quantifies over ALL sequences `ops` of model operations
from the initial state (creation, initial query, transactions with immediate or deferred match step,
matcher batches, unsubscription, tripwire, `drop_handles`, drain, process stop at ANY point,
restart), i.e. over every history of changes and every stop point of the property's quantifier.
-/
import Corro.Lemmas.SubLife

namespace Corro.SubLife

/-- **"A subscription is restored at start iff its persisted state is `completed`, otherwise its
directory is removed."**  For every reachable stopped node that has the directory: the new process
serves the subscription (same id, state back to `running`) exactly when the state read from
`sub.sqlite` is `completed`; in every other case (`created`, `running`, `cancelled`, no `meta` table)
the directory is gone afterwards and a client asking for the id gets 404. -/
theorem restore_iff_completed (ops : List Op) :
    let s := run init ops
    s.up = false → s.dir = true →
    ∃ r, step s .restart = some r ∧
      (r.served = true ↔ s.state = some .completed) ∧
      (s.state = some .completed → r.dir = true ∧ r.sid = s.sid ∧ r.state = some .running) ∧
      (s.state ≠ some .completed → r.dir = false ∧ r.served = false) := by
  intro s hup hdir
  have hreg : s.reg = false := ((reach_wf ops).down hup).2.1
  by_cases hc : s.state = some .completed
  · have hr : step s .restart
        = some { s with up := true, reg := true, phase := .loop, state := some .running } := by
      simp [step, hup, hdir, hc]
    exact ⟨_, hr, by simp [S.served, hc], by simp [hdir], by simp [hc]⟩
  · have hr : step s .restart
        = some { s with up := true, dir := false, state := none, rows := Tbl.empty, log := [], applied := 0 } := by
      simp [step, hup, hdir, hc]
    exact ⟨_, hr, by simp [S.served, hc, hreg], by simp [hc], by simp [S.served, hreg]⟩

/-- `completed` is written by exactly one step: the end of the drain. -/
theorem completed_only_by_drainEnd (s c : S) (o : Op) (h : step s o = some c)
    (hn : s.state ≠ some .completed) (hc : c.state = some .completed) : o = .drainEnd := by
  cases Step.of_step h with
  | drainEnd => rfl
  | process => rw [flush_eq] at hc; exact absurd hc hn
  | mkdir | create | initialDone | ackCancel | restore | cleanup => exact nomatch hc
  | _ => exact absurd hc hn

/-- **"Whenever `completed` is written, every batch accepted before the channel closed has been
applied: applied = produced; the log ends with the last produced change."**
First part: in every reachable state whose persisted state is `completed` nothing accepted is
waiting (`produced = applied`), the handle has left the manager (nothing can be accepted any more)
and the matcher task is gone.  Second part, the moment of writing: the step that writes `completed`
(also over a `cancelled` written earlier on the same path) first applies every waiting candidate
(each accepted key now carries the table's value), its change log is the log after the last
produced change, with consecutive ids. -/
theorem completed_implies_drained (ops : List Op) :
    let s := run init ops
    (s.state = some .completed →
        s.pending = [] ∧ s.produced = s.applied ∧ s.reg = false ∧ s.phase = .gone) ∧
    (∀ c, step s .drainEnd = some c →
        c.state = some .completed ∧ c.pending = [] ∧ c.applied = s.produced ∧
        (∀ k ∈ s.pending, c.rows k = s.db k) ∧
        c.log = (applyAll s s.pending).log ∧ Consecutive c.log) := by
  intro s
  have hw : WF s := reach_wf ops
  refine ⟨fun h => ?_, fun c hc => ?_⟩
  · obtain ⟨h1, h2, h3⟩ := hw.completed h
    exact ⟨h3, by simp [S.produced, h3], h2, h1⟩
  · cases Step.of_step hc
    rw [flush_eq]
    exact ⟨rfl, rfl, rfl, fun k hk => (applyAll_rows s s.pending k).trans (if_pos hk), rfl,
      applyAll_consecutive s s.pending hw.ids⟩

/-- **"After a graceful stop + restart: same subscription id, rows = query result at close, next
change id = max + 1."**  From every reachable state in which the subscription is served, the
binary's stop sequence (`gracefulRestart`: trip, the matcher leaves its loop, `drop_handles()`, the
drain ends, exit) followed by a start
* passes through a state `c` (the matcher has finished) marked `completed` in which everything
  accepted has been applied,
* ends in a state `r` that serves the SAME id from the same directory, state `running`, nothing
  waiting, with exactly the rows and the change log of `c` (the log ends with the last change
  produced before the stop) and an unchanged table;
* if no transaction was missed before and no match step is outstanding at the stop
  (`missed = 0`, `held = []`: see `restored_stale_*_counterexample` for what happens otherwise),
  the restored rows equal the table, and the next transaction that changes a key yields exactly one
  new change whose id is the previous maximum + 1. -/
theorem restart_continues_ids (ops : List Op) :
    let s := run init ops
    s.served = true →
    let c := run s (gracefulRestart.take 8)
    let r := run s gracefulRestart
    (c.state = some .completed ∧ c.pending = [] ∧ c.applied = (run s (gracefulRestart.take 3)).produced) ∧
    (r.served = true ∧ r.dir = true ∧ r.sid = s.sid ∧ r.state = some .running ∧ r.pending = [] ∧
      r.log = c.log ∧ r.rows = c.rows ∧ r.db = s.db) ∧
    (s.missed = 0 → s.held = [] →
      (∀ k, r.rows k = s.db k) ∧
      (∀ k v, s.db k ≠ v →
        (run r [.write [(k, v)], .process]).log = (r.lastId + 1) :: r.log ∧
        (run r [.write [(k, v)], .process]).rows k = v)) := by
  -- `c` and `r` stay `let`s of the goal: they meet those of `woundDown_restart` by unfolding op lists only
  intro s hs
  have hw : WF s := reach_wf ops
  obtain ⟨_, _, hd⟩ := to_drain hw hs
  obtain ⟨_, _, hc⟩ := graceful_woundDown hw hs
  obtain ⟨hr, r_ph, hrows⟩ :=
    woundDown_restart (ops := gracefulRestart.take 8) (all := gracefulRestart) hw (reach_fresh ops) hs hc rfl
  have r_wf : WF (run s gracefulRestart) := run_wf _ hw
  refine ⟨⟨congrArg S.state hc, congrArg S.pending hc,
      (congrArg S.applied hc).trans (congrArg S.produced hd).symm⟩, hr,
    fun hm hh => ⟨hrows hm hh, fun k v hv => ?_⟩⟩
  -- `r` is served, in its loop, with nothing waiting and `rows k = db k ≠ v`
  replace hrows := hrows hm hh k
  obtain ⟨r_srv, r_dir, _, r_st, r_pend, _⟩ := hr
  generalize run s gracefulRestart = r at *
  have ⟨r_up, r_reg⟩ : r.up = true ∧ r.reg = true := by simpa [S.served] using r_srv
  have r_canc := (r_wf.reg_alive r_reg).2.2.1
  have hv' : r.rows k ≠ v := by rw [hrows]; exact hv
  have hdbk : (r.db.apply [(k, v)]) k = v := by simp [Tbl.apply, Tbl.set]
  simp [run, stepD, step, r_up, r_reg, r_ph, r_canc, S.onDisk, r_dir, r_st, r_pend, Tx.keys, S.flush,
    applyAll, applyOne, hdbk, hv', S.lastId, Tbl.set]

/-- the binary's stop sequence with `drop_handles()` reaching the matcher BEFORE the matcher has
looked at the tripwire (it is still inside its initial query, or busy with a batch, or simply was
not polled in between), followed by a start -/
def gracefulRestartOvertaken : List Op :=
  [.trip, .unreg false, .dropClone, .initialDone, .ack, .drainEnd, .stop, .restart]

/-- **A graceful stop restores the subscription also when the cancellation of `drop_handles()`
overtakes the tripwire** — at any point of the subscription's life (creation, initial query,
running, draining).  `drop_handles()` cancels with the same token as an unsubscription and
`cmd_loop`'s biased `select!` looks at the cancellation first: the matcher writes `cancelled`, the
drain runs, `cancelled` is overwritten by `completed`, and the next start serves the same id with
everything accepted applied (and rows equal to the table if nothing was missed).  (Replay `fill 6000
| w 1=1 | sub slow nowait | graceful | restart live | subinfo`.  The repository's own
`pubsub::tests::test_diff` relies on the same path: it cancels, expects `completed` and restores.) -/
theorem graceful_overtaken_restores (ops : List Op) :
    let s := run init ops
    s.served = true →
    let c := run s (gracefulRestartOvertaken.take 6)
    let r := run s gracefulRestartOvertaken
    (c.state = some .completed ∧ c.pending = []) ∧
    (r.served = true ∧ r.dir = true ∧ r.sid = s.sid ∧ r.state = some .running ∧ r.pending = [] ∧
      r.log = c.log ∧ r.rows = c.rows ∧ r.db = s.db) ∧
    (s.missed = 0 → s.held = [] → ∀ k, r.rows k = s.db k) := by
  intro s hs
  have hw : WF s := reach_wf ops
  obtain ⟨_, _, hc⟩ := overtaken_woundDown hw hs
  obtain ⟨hr, _, hrows⟩ :=
    woundDown_restart (ops := gracefulRestartOvertaken.take 6) (all := gracefulRestartOvertaken) hw (reach_fresh ops)
      hs hc rfl
  exact ⟨⟨congrArg S.state hc, congrArg S.pending hc⟩, hr, hrows⟩

/-- While the matcher task of the subscription is alive — creation, initial query, running, draining,
cancelled but not yet finished — the persisted state is never `completed`. -/
theorem alive_not_completed (ops : List Op) :
    let s := run init ops
    s.phase ≠ .gone →
    s.state = some .created ∨ s.state = some .running ∨ s.state = some .cancelled := by
  intro s hp
  have hw : WF s := reach_wf ops
  cases h : s.phase with
  | gone => exact absurd h hp
  | init => exact Or.inl (hw.init_state h)
  | loop => exact Or.inr (Or.inl (hw.loop_state h))
  | drain => rcases hw.drain_state h with h' | h' <;> simp [h']

/-- **"Any stop before `completed` is written leaves `created`/`running`/`cancelled` (or no `meta`
table at all), and restart removes the directory, so clients get 404 and must resubscribe."**
For every reachable running node whose directory is not marked `completed` (by
`alive_not_completed`: in particular at every point of the matcher's life): stopping the process
right there leaves the persisted state as last written, and the next start removes the directory
and does not serve the id. -/
theorem abrupt_is_discarded (ops : List Op) :
    let s := run init ops
    s.up = true → s.dir = true → s.state ≠ some .completed →
    let a := stepD s .stop
    let r := stepD a .restart
    a.state = s.state ∧ a.dir = true ∧ a.up = false ∧
    r.up = true ∧ r.dir = false ∧ r.served = false := by
  intro s hup hdir hc
  simp [stepD, step, hup, hdir, hc, S.served]

/-- **"A restored subscription never has unapplied accepted batches."**  Whatever happened before,
a subscription that is served right after a start has nothing waiting, `produced = applied`, and
exactly the rows and the log that were on disk. -/
theorem no_stale_serving (ops : List Op) :
    let s := run init ops
    s.up = false →
    let r := stepD s .restart
    r.served = true →
    r.pending = [] ∧ r.produced = r.applied ∧ r.rows = s.rows ∧ r.log = s.log ∧ Consecutive r.log := by
  intro s hup r hsrv
  have hw : WF s := reach_wf ops
  obtain ⟨_, _, er⟩ := served_restart hw hup hsrv
  have hp := (hw.down hup).2.2.2.2.1
  rw [show r = _ from er]
  exact ⟨hp, by rw [S.produced, show _ = s.pending from rfl, hp]; rfl, rfl, rfl, hw.ids⟩

/-- **Partial: "a restored subscription's rows equal its query on the database."**
Full statement (FALSE for the code as it is, see the two counterexamples below):
`∀ ops, (run init ops).up = false → (stepD (run init ops) .restart).served → rows = db`.
Proved under the hypothesis that no committed transaction was missed by the subscription
(`missed = 0`: every transaction that committed while the directory existed had its match step run
while the handle was still in the manager). -/
theorem restored_rows_eq_query_partial (ops : List Op) :
    let s := run init ops
    s.up = false →
    let r := stepD s .restart
    r.served = true → s.missed = 0 →
    ∀ k, r.rows k = r.db k := by
  intro s hup r hsrv hm k
  have hw : WF s := reach_wf ops
  obtain ⟨hd, hc, er⟩ := served_restart hw hup hsrv
  obtain ⟨hg, _, _, _, hp, hh⟩ := hw.down hup
  have := reach_fresh ops hm (onDisk_of hd hc) (.inr hc) k (by rw [hp]; nofun) (by rw [hh]; nofun)
  rw [hg] at this
  rw [show r = _ from er]
  exact this

/-! ### the code as it is: `completed` although work is lost -/

/-- an unsubscribed subscription (all listeners gone for `MAX_UNSUB_TIME`: `subs.remove` +
`handle.cleanup()`), a later transaction, a stop of any kind, a start -/
def unsubThenWrite : List Op :=
  [.mkdir, .create, .initialDone, .write [(1, some 1)], .process,
   .unreg false, .ack, .drainEnd, .write [(2, some 2)], .stop, .restart]

/-- **Counterexample (replayed on the real code: known finding `unsubscribed-sub-restored-stale`).**
Cancellation writes `cancelled`, the same code path then writes `completed`; the directory is kept;
the transaction that commits afterwards finds no handle (`missed`); at the next start — after a
graceful or an abrupt stop alike — the subscription is restored and served although its rows differ
from the table.  (`restored_rows_eq_query_partial` is the positive statement: with `missed = 0`, in
particular with no transaction between the unsubscription and the stop, the restored rows are the
table.) -/
theorem restored_stale_unsub_counterexample :
    let s := run init unsubThenWrite
    (run init (unsubThenWrite.take 7)).state = some .cancelled ∧
    (run init (unsubThenWrite.take 8)).state = some .completed ∧
    s.served = true ∧ s.missed = 1 ∧ s.rows 2 = none ∧ s.db 2 = some 2 ∧ s.rows 2 ≠ s.db 2 := by
  decide +kernel

/-- a transaction whose match step runs after `drop_handles()` (its `broadcast_changes` task was
waiting for a read connection), inside the binary's own stop sequence -/
def lateMatch : List Op :=
  [.mkdir, .create, .initialDone, .write [(1, some 1)], .process,
   .writeHeld [(2, some 2)], .trip, .ack, .unreg false, .drainEnd, .matchHeld, .stop, .restart]

/-- **Counterexample (replayed on the real code: known finding `match-after-wind-down`).**
`drop_handles()` comes before `wait_for_all_pending_handles()`: the drain ends and `completed` is
written while a committed transaction has not been matched yet; its match step then finds an empty
manager. -/
theorem restored_stale_late_match_counterexample :
    let s := run init lateMatch
    s.served = true ∧ s.missed = 1 ∧ s.rows 2 = none ∧ s.db 2 = some 2 ∧ s.rows 2 ≠ s.db 2 := by
  decide +kernel

/-! ### examples: the hypotheses are satisfiable, the mechanisms are exercised -/

/-- `cancelled` is overwritten by `completed` on the same path; unsubscribed and nothing written
afterwards: restored with the rows it had, which are the table -/
example :
    (run init [.mkdir, .create, .initialDone, .unreg false, .ack]).state = some .cancelled ∧
    (run init [.mkdir, .create, .initialDone, .unreg false, .ack, .drainEnd]).state = some .completed ∧
    (let r := run init [.mkdir, .create, .initialDone, .write [(1, some 1)], .unreg false, .ack, .drainEnd,
                        .stop, .restart]
     r.served = true ∧ r.missed = 0 ∧ r.rows 1 = some 1 ∧ r.db 1 = some 1) := by
  decide +kernel

/-- a stop while `cancelled` (another clone of the handle keeps the drain open) is discarded -/
example :
    let s := run init [.mkdir, .create, .initialDone, .unreg true, .ack, .drainEnd, .stop, .restart]
    s.dir = false ∧ s.served = false := by
  decide +kernel

/-- graceful stop with a candidate still buffered and one accepted during the drain: both applied,
same id, ids continue -/
example :
    let s := run init [.mkdir, .create, .initialDone, .write [(1, some 1)], .process, .write [(2, some 2)]]
    let r := run s [.trip, .ack, .write [(3, some 3)], .unreg false, .drainEnd, .stop, .restart]
    s.served = true ∧ s.lastId = 1 ∧ r.served = true ∧ r.sid = s.sid ∧ r.log = [3, 2, 1] ∧
    r.rows 1 = some 1 ∧ r.rows 2 = some 2 ∧ r.rows 3 = some 3 ∧
    (run r [.write [(1, none)], .process]).log = [4, 3, 2, 1] := by
  decide +kernel

/-- `gracefulRestart` from the middle of the initial query, with a transaction that arrived during it -/
example :
    let s := run init [.write [(1, some 1)], .mkdir, .create, .write [(1, some 2), (2, some 5)]]
    let r := run s gracefulRestart
    s.served = true ∧ s.state = some .created ∧ r.served = true ∧ r.sid = s.sid ∧
    r.rows 1 = some 2 ∧ r.rows 2 = some 5 ∧ r.log = [2, 1] := by
  decide +kernel

/-- `gracefulRestartOvertaken` from the middle of the initial query -/
example :
    let s := run init [.write [(1, some 1)], .mkdir, .create, .write [(2, some 5)]]
    let r := run s gracefulRestartOvertaken
    s.state = some .created ∧ r.served = true ∧ r.sid = s.sid ∧ r.rows 1 = some 1 ∧ r.rows 2 = some 5 := by
  decide +kernel

/-- abrupt stops at each phase: directory without `meta`, `created`, `running` with work waiting,
draining — all removed, and a later subscription gets a new id -/
example :
    (run init [.mkdir, .stop, .restart]).dir = false ∧
    (run init [.mkdir, .create, .stop, .restart]).dir = false ∧
    (run init [.mkdir, .create, .initialDone, .write [(1, some 1)], .stop, .restart]).dir = false ∧
    (run init [.mkdir, .create, .initialDone, .trip, .ack, .write [(1, some 1)], .stop, .restart]).served = false ∧
    (run init [.mkdir, .create, .initialDone, .stop, .restart, .mkdir, .create]).sid = 2 := by
  decide +kernel

end Corro.SubLife
