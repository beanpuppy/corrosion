/-
C10 — load shedding and duplicate suppression never lose a change for good.
The model is `Corro/Model/Ingest.lean` (the receive loop `handle_changes`); the vocabulary (`pool`,
`Backs`, `Covers`, `Inv`, `CoveredBy`, `Fresh`) is defined in `Corro/Lemmas/Ingest.lean`.

"Applied" below means: handed to `process_multiple_changes` in a batch that returned `Ok`
(`s.delivered`).  That such a batch stores what it is given is `Node.deliver`'s business (C03) and is
checked here by the correspondence (`held` after `reoffer` on the real node).
-/
import Corro.Lemmas.IngestSeen

namespace Corro.Ingest
open Corro Corro.Node

/-- `seen_sound`'s invariant: everything recorded in `seen` is in the queue, in a running batch, was
in a failed batch, or was delivered by a successful batch. -/
def SeenSound (s : State) : Prop := Inv true s

/-- the stronger invariant that holds as long as no batch has failed (since the last full trim):
everything recorded in `seen` is queued, running or delivered. -/
def NoResidue (s : State) : Prop := Inv false s

/-- **C10, "the node still does not claim to hold it" (1).**  For ALL event sequences and ALL
parameters: the node state after the run is the node state before it with `Node.deliver` applied
to the batches that finished with `Ok` during the run, in completion order — nothing else ever
writes bookkeeping (not an offer, a drop, a suppression, a tick or a failed batch). -/
theorem bookkeeping_only_through_deliver (p : Params) : ∀ (evs : List Event) (s : State),
    ∃ bs : List (List Item), (run p s evs).delivered = s.delivered ++ bs ∧
      (run p s evs).node = bs.foldl Node.deliver s.node := by
  intro evs s
  -- of all the moves an event is made of, only a batch that ends well touches `delivered` and `node`
  refine run_induction p (I := fun t => ∃ bs, t.delivered = s.delivered ++ bs ∧ t.node = bs.foldl Node.deliver s.node)
    (fun _ _ _ _ _ _ h => h) (fun _ _ _ _ _ _ _ _ h => h) (fun _ h => h) (fun _ _ h => h) ?_
    (fun _ _ _ _ _ h => h) (fun _ _ _ _ _ _ h => h) s ⟨[], (List.append_nil _).symm, rfl⟩
  rintro t i b - ⟨bs, h1, h2⟩
  exact ⟨bs ++ [b], by rw [← List.append_assoc, ← h1], by rw [List.foldl_append, ← h2]; rfl⟩

/-- **C10, "the node still does not claim to hold it" (2).**  If no batch finished successfully
during a run, whatever was offered, dropped or suppressed in it, `contains_all` answers exactly as
before: a changeset is never reported as held unless it went through a successful batch. -/
theorem not_claimed_unless_stored (p : Params) (s : State) (evs : List Event) (it : Item)
    (h : (run p s evs).delivered = s.delivered) : held (run p s evs).node it = held s.node it := by
  obtain ⟨bs, h1, h2⟩ := bookkeeping_only_through_deliver p evs s
  obtain rfl : bs = [] := List.append_right_eq_self.1 (h1.symm.trans h)
  rw [h2]; rfl

/-- **C10 (3).**  Whatever a successful batch delivered was accepted from an offer of this run (or
was already queued / running before it): batches are made of offered changesets only. -/
theorem delivered_were_offered (p : Params) : ∀ (evs : List Event) (s : State),
    ∀ it ∈ pool true (run p s evs), it ∈ pool true s ∨ ∃ b, Event.offer it b ∈ evs := by
  intro evs s
  refine run_induction p (I := fun t => ∀ it ∈ pool true t, it ∈ pool true s ∨ ∃ b, Event.offer it b ∈ evs)
    ?_ ?_ (fun _ h => h) ?_ ?_ ?_ ?_ s fun _ h => .inl h
  -- an offer adds the offered changeset to the queue, at most; no other move adds anything
  · exact fun t it b hev _ _ ht x hx =>
      (pool_queue_mono (t := t) (P := (· = it)) hx rfl rfl rfl
        fun y hy => (List.mem_append.1 hy).imp_right List.mem_singleton.1).elim (ht x)
        fun h => .inr ⟨b, h ▸ hev⟩
  · exact fun t it b d rest hev _ hq ht x hx =>
      (pool_queue_mono (t := t) (P := (· = it)) hx rfl rfl rfl
        fun y hy => (List.mem_append.1 hy).imp (hq ▸ List.mem_cons_of_mem _) List.mem_singleton.1).elim
        (ht x) fun h => .inr ⟨b, h ▸ hev⟩
  · exact fun t _ ht x hx => ht x (by rwa [pool_move true (List.append_nil _).symm] at hx)
  · exact fun t i b hb ht x hx => ht x ((mem_pool_done true hb _ x).1 hx)
  · exact fun t i b _ hb ht x hx => ht x ((mem_pool_failed hb _ x).1 hx)
  · exact fun t b rest _ hq _ ht x hx => ht x (by rwa [pool_move true hq] at hx)

/-- **C10, `seen_sound`.**  With the eviction keyed by the DROPPED change's actor and emptied entries
removed (the code since repo commit f26a9aa): for every sequence of events whatsoever, from every
state satisfying it, every `(actor, version, seqs)` recorded in `seen` is in the queue, in a running
batch, was in a failed batch, or was delivered by a successful batch. -/
theorem seen_sound_run (p : Params) (hp : p.evictDropped = true) : ∀ (evs : List Event) (s : State),
    SeenSound s → SeenSound (run p s evs) :=
  fun evs => inv_run p hp true evs nofun

/-- `seen_sound` from the initial state, all parameters, all event sequences. -/
theorem seen_sound (p : Params) (hp : p.evictDropped = true) (n : Node) (evs : List Event) :
    SeenSound (run p (State.init n) evs) :=
  seen_sound_run p hp evs _ (inv_init true n)

/-! The code as it stood before f26a9aa: the eviction keyed with the INCOMING change's actor. -/

/-- actors 0 and 1, `processing_queue_len = 1`, the node under test is actor 3 -/
def cxParams : Params := { maxQueueLen := 1, maxChangesChunk := 50 }
def cxX : Item := .full 0 1 0 0 0 []
def cxA : Item := .full 0 2 0 0 0 []
def cxB : Item := .full 1 2 0 0 0 []
/-- `X` is taken into a batch at once; `A` is queued; `B` arrives while the queue is full: `A` is
dropped and, with `evictDropped = false`, the loop evicts `seen[(actor of B, 2)]` — which does not
exist — instead of `A`'s entry -/
def cxState : State :=
  run cxParams (State.init (Node.fresh 3)) [.offer cxX false, .offer cxA false, .offer cxB false]

/-- **C10, `seen_sound_counterexample` (the eviction rule the code had, `evictDropped = false`).**
After the three offers `A` has been dropped (it is neither queued nor running nor delivered nor
failed), the node does not hold it, its entry `((0, 2), {0})` is still in `seen`, and offering `A`
again is refused. -/
theorem seen_sound_counterexample :
    cxState.seen = [((0, 1), [(0, 0)]), ((0, 2), [(0, 0)]), ((1, 2), [(0, 0)])] ∧
    cxState.queue = [cxB] ∧ cxState.inflight = [[cxX]] ∧ cxState.delivered = [] ∧ cxState.failed = [] ∧
    cxState.droppedItems = [cxA] ∧ held cxState.node cxA = false ∧ accepts cxState cxA = false := by
  decide +kernel

/-- consequently `SeenSound` is false of that reachable state under the old eviction rule. -/
theorem seen_sound_fails_as_is : ¬ SeenSound cxState := by
  intro h
  have hp : pool true cxState = [cxX, cxB] := by decide +kernel
  obtain ⟨⟨it, hit, hb⟩, _⟩ := h.2.1 ((0, 2), [(0, 0)]) (by rw [seen_sound_counterexample.1]; decide)
  -- neither of the two is about version 2 of actor 0
  rw [hp] at hit
  rcases List.mem_cons.1 hit with rfl | hit
  · exact absurd hb.2.2 (by decide)
  · cases List.mem_singleton.1 hit
    exact absurd hb.1 (by decide)

/-- the same three offers with the repaired eviction: `A`'s entry is gone and `A` is accepted again -/
theorem repaired_eviction_example :
    let s := run { cxParams with evictDropped := true } (State.init (Node.fresh 3))
      [.offer cxX false, .offer cxA false, .offer cxB false]
    s.seen = [((0, 1), [(0, 0)]), ((1, 2), [(0, 0)])] ∧ accepts s cxA = true := by
  decide +kernel

/-- **C10, `reoffer_accepted`.**  Under `seen_sound`: a changeset of another actor (forward seq range)
that the node does not hold and some part of which is carried by nothing pending, failed or delivered is accepted by
the next offer — it becomes the newest element of the queue and is queued or running when the loop
waits again; if the queue has room, nothing is dropped for it. -/
theorem reoffer_accepted (p : Params) (s : State) (it : Item) (b : Bool)
    (hs : SeenSound s) (hown : it.site ≠ s.node.id) (hfwd : inverted it = false)
    (hheld : held s.node it = false) (hfresh : Fresh (pool true s) it) :
    accepts s it = true ∧ (∃ pre, (offer p s it).queue = pre ++ [it]) ∧
    it ∈ pending (step p s (.offer it b)) ∧
    (s.queue.length < p.maxQueueLen →
      (offer p s it).queue = s.queue ++ [it] ∧ (step p s (.offer it b)).droppedItems = s.droppedItems) := by
  have hsup : suppresses s.seen it = false :=
    Bool.eq_false_iff.2 fun h => not_coveredBy_of_fresh hfresh (coveredBy_of_suppressed hs.2.1 h)
  have hacc : accepts s it = true := accepts_iff.2 ⟨hown, hfwd, hsup, hheld⟩
  have hoff : offer p s it = enqueue (shed p s it) it := if_pos hacc
  refine ⟨hacc, ⟨_, congrArg State.queue hoff⟩, ?_, fun hroom => ?_⟩
  · rw [step, loopTop_pending, hoff]
    exact List.mem_append_right _ (List.mem_append_right _ List.mem_cons_self)
  · have hsh : shed p s it = s := if_neg (Nat.not_le_of_gt hroom)
    rw [step, loopTop_droppedItems, hoff, hsh]
    exact ⟨rfl, rfl⟩

/-- **C10, `eventually_applied` (with the bound).**  For all parameters with `MAX_CONCURRENT ≥ 1`,
every state in which no failed batch has left a residue (`NoResidue` — an invariant of ALL runs of
the code since bcbe93d, see `no_residue_run`), and every changeset of another actor: ONE more offer
followed by the overload ending — no more competing offers, the running and queued batches finish
successfully, which takes at most `queue length + running batches + 1` completions (the measure) —
leaves queue and running set empty and the changeset either already held or carried, seq by seq,
by changesets that went through a successful batch, whichever actors the competing traffic came
from.  (A changeset with an inverted seq range carries no seq: the statement is vacuous for it.) -/
theorem eventually_applied (p : Params) (hm : 1 ≤ p.maxConcurrent) (s : State) (it : Item) (b : Bool)
    (hs : NoResidue s) (hown : it.site ≠ s.node.id) :
    Idle (drain p true (step p s (.offer it b))) ∧
    (held s.node it = true ∨ CoveredBy (drain p true (step p s (.offer it b))).delivered.flatten it) ∧
    ∃ evs : List Event,
      evs.length ≤ (step p s (.offer it b)).queue.length + (step p s (.offer it b)).inflight.length + 1 ∧
      (∀ e ∈ evs, e = .batchDone 0 true) ∧
      drain p true (step p s (.offer it b)) = run p (step p s (.offer it b)) evs := by
  have hidle := drain_idle p true hm _ (step_stable p hm s (.offer it b))
  refine ⟨hidle, (offer_covered p hs hown).imp_right fun hcov => ?_, drainN_is_run p true _ _⟩
  -- what covers it stays in the pool while the batches succeed, and in an idle state the pool is what was delivered
  have : CoveredBy (pool false (drain p true (step p s (.offer it b)))) it :=
    coveredBy_mono (drainN_pool p false _ _) (by rwa [step, loopTop_pool])
  simpa only [pool, hidle.1, hidle.2, List.flatten_nil, List.nil_append, List.append_nil, Bool.false_eq_true,
    if_false] using this

/-- `NoResidue` is an invariant of EVERY run of the code as repaired (a failed batch clears the
cache, bcbe93d) — and, for the code before that, of every run in which no batch fails. -/
theorem no_residue_run (p : Params) (hp : p.evictDropped = true) : ∀ (evs : List Event) (s : State),
    (p.clearOnFail = true ∨ ∀ i, Event.batchDone i false ∉ evs) → NoResidue s → NoResidue (run p s evs) :=
  fun evs s hnf => inv_run p hp false evs (fun _ => hnf) s

/-- **C10, the property's last sentence for the code as repaired.**  In every state reachable by ANY
sequence of offers, ticks, successful and FAILED batches (both repairs in place), one more offer of
a changeset of another actor followed by the overload ending leaves it held or carried by
successfully delivered changesets. -/
theorem eventually_applied_reachable (p : Params) (hp : p.evictDropped = true) (hm : 1 ≤ p.maxConcurrent)
    (n : Node) (evs : List Event) (hnf : p.clearOnFail = true ∨ ∀ i, Event.batchDone i false ∉ evs)
    (it : Item) (b : Bool) (hown : it.site ≠ (run p (State.init n) evs).node.id) :
    Idle (drain p true (step p (run p (State.init n) evs) (.offer it b))) ∧
    (held (run p (State.init n) evs).node it = true ∨
      CoveredBy (drain p true (step p (run p (State.init n) evs) (.offer it b))).delivered.flatten it) := by
  have h := eventually_applied p hm (run p (State.init n) evs) it b
    (no_residue_run p hp evs _ hnf (inv_init false n)) hown
  exact ⟨h.1, h.2.1⟩

/-- **C10, `failed_batch_residue` (true of the code before bcbe93d, `clearOnFail = false`).**  A batch
that fails is only logged: its changesets are gone from queue and running set, nothing was written,
and `seen` is untouched — it still records them. -/
theorem failed_batch_residue (p : Params) (hc : p.clearOnFail = false) (s : State) (i : Nat) (b : List Item)
    (hb : s.inflight[i]? = some b) :
    (step p s (.batchDone i false)).seen = s.seen ∧ (step p s (.batchDone i false)).node = s.node ∧
    (step p s (.batchDone i false)).delivered = s.delivered ∧
    (step p s (.batchDone i false)).failed = s.failed ++ [b] := by
  simp only [step, loopTop_seen, loopTop_node, loopTop_delivered, loopTop_failed, batchDone, hb, hc]
  exact ⟨rfl, rfl, rfl, rfl⟩

/-- the repaired loop (`clearOnFail = true`): a failed batch empties the duplicate cache, nothing is
written, the batch is recorded as failed. -/
theorem failed_batch_clears (p : Params) (hc : p.clearOnFail = true) (s : State) (i : Nat) (b : List Item)
    (hb : s.inflight[i]? = some b) :
    (step p s (.batchDone i false)).seen = [] ∧ (step p s (.batchDone i false)).node = s.node ∧
    (step p s (.batchDone i false)).delivered = s.delivered ∧
    (step p s (.batchDone i false)).failed = s.failed ++ [b] := by
  simp only [step, loopTop_seen, loopTop_node, loopTop_delivered, loopTop_failed, batchDone, hb, hc]
  exact ⟨rfl, rfl, rfl, rfl⟩

/-- the consequence: as long as `seen` still covers a changeset, offering it again does nothing — the
loop behaves as if nothing had arrived — however often it is offered. -/
theorem residue_suppresses (p : Params) (s : State) (it : Item) (b : Bool) (h : suppresses s.seen it = true) :
    step p s (.offer it b) = loopTop p s := by
  simp [step, offer, accepts, h]

def rsA : Item := .full 0 1 0 0 0 []
/-- one changeset is offered and its batch fails -/
def rsState : State :=
  run { cxParams with evictDropped := true } (State.init (Node.fresh 3)) [.offer rsA false, .batchDone 0 false]

/-- **C10, the hypothesis of `eventually_applied` cannot be dropped (code before bcbe93d).**  After a
failed batch that is only logged (even with the repaired eviction) the changeset is neither held
nor pending, yet the next offer — and, by `residue_suppresses`, every later one — is refused, and
draining delivers nothing: the conclusion of `eventually_applied` is false.  That loop recovers
only through the trim (`trim_restores`), which runs when `seen` holds more than
`processing_queue_len` (default 20 000) keys. -/
theorem failed_batch_residue_counterexample :
    rsState.queue = [] ∧ rsState.inflight = [] ∧ rsState.failed = [[rsA]] ∧
    held rsState.node rsA = false ∧ accepts rsState rsA = false ∧
    (drain { cxParams with evictDropped := true } true
      (step { cxParams with evictDropped := true } rsState (.offer rsA false))).delivered = [] := by
  decide +kernel

/-- the same run with the repaired loop: the cache is cleared and the changeset is accepted again -/
theorem failed_batch_recovers_example :
    let p : Params := { cxParams with evictDropped := true, clearOnFail := true }
    let s := run p (State.init (Node.fresh 3)) [.offer rsA false, .batchDone 0 false]
    s.seen = [] ∧ s.failed = [[rsA]] ∧ accepts s rsA = true ∧
    (drain p true (step p s (.offer rsA false))).delivered = [[rsA]] := by
  decide +kernel

/-- the explicit hypothesis for the old loop: after a tick that trims the whole cache (`keep_seen_cache_size = 0`, i.e.
`processing_queue_len ≤ 10`, and more keys than `processing_queue_len`), `NoResidue` holds again
whatever failed before — so `eventually_applied` applies from there. -/
theorem trim_restores (p : Params) (s : State) (hk : p.keepSeen = 0) (hl : s.seen.length > p.maxQueueLen)
    (hq : ∀ it ∈ s.queue, ItemWF it) : NoResidue (step p s .tick) := by
  have hseen : (trim p s).seen = [] := by
    rw [trim_seen, if_pos hl, hk]; exact List.drop_length
  refine inv_of_seen_nil (withFailed := false) ?_ fun it hit => hq it ?_
  · rw [step, loopTop_seen]
    rcases tick_cases p s with h | ⟨_, h⟩ <;> rw [h] <;> exact hseen
  · have := (loopTop_queue_suffix p (tick p s)).subset hit
    rcases tick_cases p s with h | ⟨_, h⟩ <;> rw [h] at this
    · exact this
    · cases this

/-- `buf_cost` is the cost of the queue after every event: the `-=` never underflows. -/
theorem bufCost_is_queue_cost (p : Params) : ∀ (evs : List Event) (s : State), s.bufCost = costs s.queue →
    (run p s evs).bufCost = costs (run p s evs).queue := by
  intro evs
  refine run_induction p (I := fun t => t.bufCost = costs t.queue) ?_ ?_ (fun _ h => h) (fun _ _ _ => rfl)
    (fun _ _ _ _ h => h) (fun _ _ _ _ _ h => h) ?_
  · intro t it _ _ _ _ ht
    show t.bufCost + cost it = costs (t.queue ++ [it])
    rw [costs_concat, ht]
  · intro t it _ d rest _ _ hq ht
    show t.bufCost - cost d + cost it = costs (rest ++ [it])
    rw [costs_concat, ht, hq, costs_cons, Nat.add_sub_cancel_left]
  · intro t b rest _ hq _ ht
    show t.bufCost - costs b = costs rest
    rw [ht, hq, costs_append, Nat.add_sub_cancel_left]

/-- the queue never holds more than `processing_queue_len` changesets. -/
theorem queue_never_exceeds (p : Params) (hq : 1 ≤ p.maxQueueLen) : ∀ (evs : List Event) (s : State),
    s.queue.length ≤ p.maxQueueLen → (run p s evs).queue.length ≤ p.maxQueueLen := by
  intro evs
  refine run_induction p (I := fun t => t.queue.length ≤ p.maxQueueLen) ?_ ?_ (fun _ h => h)
    (fun _ _ _ => Nat.zero_le _) (fun _ _ _ _ h => h) (fun _ _ _ _ _ h => h) ?_
  · intro t it _ _ _ hroom _
    show (t.queue ++ [it]).length ≤ _
    rw [List.length_append]
    rcases hroom with hroom | hnil
    · exact hroom
    · rw [hnil]; exact hq
  · intro t it _ d rest _ _ hd ht
    show (rest ++ [it]).length ≤ _
    rw [hd] at ht
    rw [List.length_append]; exact ht
  · intro t b rest _ hd _ ht
    rw [hd, List.length_append] at ht
    exact Nat.le_trans (Nat.le_add_left _ _) ht

/-- at most `MAX_CONCURRENT` batches run at any time. -/
theorem inflight_never_exceeds (p : Params) : ∀ (evs : List Event) (s : State),
    s.inflight.length ≤ p.maxConcurrent → (run p s evs).inflight.length ≤ p.maxConcurrent := by
  intro evs
  refine run_induction p (I := fun t => t.inflight.length ≤ p.maxConcurrent) (fun _ _ _ _ _ _ h => h)
    (fun _ _ _ _ _ _ _ _ h => h) (fun _ h => h) ?_ ?_ ?_ ?_
  · intro t hroom _
    show (t.inflight ++ [t.queue]).length ≤ _
    rw [List.length_append]; exact hroom
  · exact fun t i _ _ h => Nat.le_trans (List.length_eraseIdx_le _ _) h
  · exact fun t i _ _ _ h => Nat.le_trans (List.length_eraseIdx_le _ _) h
  · intro t b _ _ _ hroom _
    show (t.inflight ++ [b]).length ≤ _
    rw [List.length_append]; exact hroom

/-! The hypotheses are satisfiable, the definitions compute. -/

example (n : Node) : SeenSound (State.init n) ∧ NoResidue (State.init n) := ⟨inv_init true n, inv_init false n⟩

example : Fresh [] cxA ∧ inverted cxA = false := by
  refine ⟨⟨0, by decide, by decide, by simp⟩, by decide⟩

/-- a changeset with an inverted seq range is ignored: no state change at all -/
example :
    let s := run cxParams (State.init (Node.fresh 3)) [.offer (.full 0 1 5 2 7 []) true]
    s.queue = [] ∧ s.inflight = [] ∧ s.seen = [] := by decide +kernel

/-- overload with ONE actor: the dropped changeset is evicted and accepted again, in both variants -/
example :
    let s := run cxParams (State.init (Node.fresh 3))
      [.offer cxX false, .offer cxA false, .offer (.full 0 3 0 0 0 []) false]
    s.droppedItems = [cxA] ∧ accepts s cxA = true := by decide +kernel

/-- drop-oldest, batches, tick flush and a successful completion on concrete numbers: queue length 2,
chunk 50; the third queued changeset pushes the first out; the tick flushes; the first batch finishes -/
example :
    let s := run { maxQueueLen := 2, maxChangesChunk := 50 } (State.init (Node.fresh 3))
      [.offer cxX true, .offer cxA false, .offer cxB false, .offer (.empty 1 5 6) false, .tick, .batchDone 0 true]
    s.queue = [] ∧ s.inflight = [[cxB, .empty 1 5 6]] ∧ s.delivered = [[cxX]] ∧ s.droppedItems = [cxA] ∧
    held s.node cxX = true ∧ held s.node cxA = false := by decide +kernel

/-- the emptied-entry variant of the defect: dropping the only changeset of `(0, 2)` leaves the key
with an empty seq set (`evictDropped = false`), which refuses a later `Empty` for that version; the
rule of f26a9aa removes the key -/
example :
    let evs := [Event.offer cxX false, .offer cxA false, .offer (.full 0 3 0 0 0 []) false]
    suppresses (run cxParams (State.init (Node.fresh 3)) evs).seen (.empty 0 2 2) = true ∧
    suppresses (run { cxParams with evictDropped := true } (State.init (Node.fresh 3)) evs).seen (.empty 0 2 2) = false := by
  decide +kernel

end Corro.Ingest
