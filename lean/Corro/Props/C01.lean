/-
C01 — replicas converge under any delivery order, duplication, chunking and loss, stated of the
model `Corro/Model/Crdt.lean` of the cr-sqlite cell store; then concrete runs (namespace `Ex`).
What a replica shows follows from `inv_mergeAll_empty : Inv (mergeAll ∅ P) P`, which has no side
condition on the changes; that duplicates change nothing, from `mergeAll_absorbs`, which needs no invariant.
-/
import Corro.Lemmas.CrdtView
import Corro.Lemmas.CrdtLocal

namespace Corro.Crdt

/-- **C01 ("equal to the merge of all transactions").**  The order `wins` decides by is a strict
total order on the key `(col_version, value, site)`, so "the winner" of a cell is well defined. -/
theorem wins_order_strict_total :
    (∀ a : Key, keyLt a a = false) ∧
    (∀ a b c : Key, keyLt a b = true → keyLt b c = true → keyLt a c = true) ∧
    (∀ a b : Key, keyLt a b = false → keyLt b a = false → a = b) ∧
    (∀ (c : Chg) (l : Cell), wins c l = keyLt l.key c.key) :=
  ⟨keyLt_strict.irrefl, fun _ _ _ => keyLt_strict.trans, fun _ _ => keyLt_strict.total, wins_eq_keyLt⟩

/-- the value order used at equal column versions is a strict total order -/
theorem val_order_strict_total :
    (∀ a : Val, a.lt a = false) ∧
    (∀ a b c : Val, a.lt b = true → b.lt c = true → a.lt c = true) ∧
    (∀ a b : Val, a.lt b = false → b.lt a = false → a = b) :=
  ⟨Val.lt_strict.irrefl, fun _ _ _ => Val.lt_strict.trans, fun _ _ => Val.lt_strict.total⟩

/-- **C01 ("same per-cell CRDT versions … causal length").**  After merging any list of changes in
any order with any duplication, the causal length of every row is the largest one delivered for
that row.  No side condition. -/
theorem row_cl_is_max (s : Nat) (P : List Chg) (t p : String) :
    (view (mergeAll (Db.empty s) P) t p).cl = specCl P t p :=
  (inv_mergeAll_empty s P).cl_eq t p

/-- Two replicas that merged the same set of changes show the specification of that set.  `Chg.WF`
is not assumed: it is enough that the change of the final incarnation carries a positive column
version (`CompleteStrong`).  This covers sets that contain re-exported zeroed leftovers
(`Db.changes` of a relay shows them with `col_version = 0`). -/
theorem merge_order_irrelevant_strong (s s' : Nat) (P Q : List Chg) (hsame : ∀ c, c ∈ P ↔ c ∈ Q)
    (hc : CompleteStrong P) :
    view (mergeAll (Db.empty s) P) = spec P ∧ view (mergeAll (Db.empty s') Q) = spec P :=
  ⟨(inv_mergeAll_empty s P).view_eq hc,
    ((inv_mergeAll_empty s' Q).congr (fun c => (hsame c).symm)).view_eq hc⟩

/-- **C01 ("all nodes end up with byte-identical contents … and the same per-cell CRDT versions,
equal to the merge of all transactions … no matter how the change messages were reordered,
duplicated …").**  Two replicas that merged the same *set* of well-formed changes — in any two
orders, each change any number of times — show the same view, and it is the specification of that
set, provided the set is incarnation-complete (`Complete`: every column the set mentions for a live
row has a change in the row's final incarnation; histories of local transactions are, because an
INSERT writes every non-key column). -/
theorem merge_order_irrelevant (s s' : Nat) (P Q : List Chg) (hsame : ∀ c, c ∈ P ↔ c ∈ Q)
    (hwf : ∀ c ∈ P, c.WF) (hc : Complete P) :
    view (mergeAll (Db.empty s) P) = spec P ∧ view (mergeAll (Db.empty s') Q) = spec P :=
  merge_order_irrelevant_strong s s' P Q hsame (hc.strong hwf)

/-- **C01 (convergence).**  The two replicas agree. -/
theorem replicas_converge (s s' : Nat) (P Q : List Chg) (hsame : ∀ c, c ∈ P ↔ c ∈ Q)
    (hwf : ∀ c ∈ P, c.WF) (hc : Complete P) :
    view (mergeAll (Db.empty s) P) = view (mergeAll (Db.empty s') Q) := by
  have := merge_order_irrelevant s s' P Q hsame hwf hc
  rw [this.1, this.2]

/-- **C01 without `Complete`.**  For ANY two delivery orders of the same set of well-formed
changes: every row has the same causal length `cl*` (the maximum); a row whose `cl*` is even, and
the sentinel column, show no cell; every cell that has a change in the final incarnation shows the
specification's winner on both replicas; and whatever else a replica shows is a zeroed leftover
(`col_version = 0`).  The zeroed leftovers are the only order-dependent part of the view
(`leftover_depends_on_order` below). -/
theorem merge_order_irrelevant_partial (s s' : Nat) (P Q : List Chg) (hsame : ∀ c, c ∈ P ↔ c ∈ Q)
    (hwf : ∀ c ∈ P, c.WF) :
    let A := mergeAll (Db.empty s) P
    let B := mergeAll (Db.empty s') Q
    (∀ t p, (view A t p).cl = specCl P t p ∧ (view B t p).cl = specCl P t p) ∧
    (∀ t p x, specCl P t p % 2 = 0 ∨ x = sentinel →
      (view A t p).cell x = none ∧ (view B t p).cell x = none) ∧
    (∀ t p x, specCl P t p % 2 = 1 → x ≠ sentinel → (∃ d ∈ P, d.atCell t p x (specCl P t p)) →
      (view A t p).cell x = specCell P t p x ∧ (view B t p).cell x = specCell P t p x) ∧
    (∀ t p x, (∀ d ∈ P, ¬ d.atCell t p x (specCl P t p)) →
      (∀ v n, (view A t p).cell x = some (v, n) → n = 0) ∧
      (∀ v n, (view B t p).cell x = some (v, n) → n = 0)) := by
  intro A B
  have hA : Inv A P := inv_mergeAll_empty s P
  have hB : Inv B P := (inv_mergeAll_empty s' Q).congr (fun c => (hsame c).symm)
  have hzero : ∀ (D : Db), Inv D P → ∀ t p x, (∀ d ∈ P, ¬ d.atCell t p x (specCl P t p)) →
      ∀ v n, (view D t p).cell x = some (v, n) → n = 0 := by
    intro D hD t p x hno v n hv
    obtain ⟨l, hl, he⟩ := Option.map_eq_some_iff.mp hv
    rw [← (Prod.mk.inj he).2]
    exact hD.leftover_zero hl hno
  refine ⟨fun t p => ⟨hA.cl_eq t p, hB.cl_eq t p⟩, ?_, ?_, ?_⟩
  · intro t p x h
    constructor
    · show (A.cell t p x).map _ = none
      rw [hA.cell_none h]; rfl
    · show (B.cell t p x).map _ = none
      rw [hB.cell_none h]; rfl
  · intro t p x hodd hx ⟨d, hd, hat⟩
    have hd' : ∃ d ∈ P, d.atCell t p x (specCl P t p) ∧ 1 ≤ d.colv :=
      ⟨d, hd, hat, hwf d hd (by rw [hat.cid]; exact hx)⟩
    exact ⟨hA.cell_eq hodd hx hd', hB.cell_eq hodd hx hd'⟩
  · intro t p x hno
    exact ⟨hzero A hA t p x hno, hzero B hB t p x hno⟩

/-- **C01 ("duplicated").**  Delivering a list a second time changes nothing — not only in the
view: the database is literally the same.  `db` is stated as a database reachable from the empty
one (`hreach`; e.g. `mergeAll ∅ P₀`); the proof does not use that: `mergeAll_absorbs` holds of any
database. -/
theorem merge_idempotent (db : Db) (P₀ P : List Chg) (hreach : Inv db P₀) :
    mergeAll (mergeAll db P) P = mergeAll db P :=
  mergeAll_absorbs db P (fun _ h => h)

/-- the property compares views: `merge_idempotent` read through `view` -/
theorem merge_idempotent_view (db : Db) (P₀ P : List Chg) (hreach : Inv db P₀) :
    view (mergeAll (mergeAll db P) P) = view (mergeAll db P) := by
  rw [merge_idempotent db P₀ P hreach]

/-- **C01 ("duplicated, delayed").**  Re-delivering, at any later time and in any order, any
changes that were already merged leaves the database unchanged. -/
theorem merge_redelivery (s : Nat) (P R : List Chg) (hR : ∀ c ∈ R, c ∈ P) :
    mergeAll (mergeAll (Db.empty s) P) R = mergeAll (Db.empty s) P :=
  mergeAll_absorbs _ P hR

/-- **C01 ("split into partial chunks").**  Delivering a history chunk by chunk is the fold over
the concatenation, so every statement above about lists covers every chunking (and, with
`hsame`, every interleaving of chunks of different versions). -/
theorem merge_chunks_flatten (db : Db) (chunks : List (List Chg)) :
    chunks.foldl mergeAll db = mergeAll db chunks.flatten := by
  induction chunks generalizing db with
  | nil => rfl
  | cons ch chs ih =>
    simp only [List.foldl_cons, List.flatten_cons, ih]
    unfold mergeAll
    rw [List.foldl_append]

/-- **C01 (a change below the row's causal length is ignored).**  Any database, any change. -/
theorem merge_ignores_lower_cl (db : Db) (c : Chg) (h : c.cl < db.cl c.tbl c.pk) :
    merge db c = db :=
  Absorbed.merge_eq ⟨Nat.le_of_lt h, fun e => absurd e (Nat.ne_of_lt h)⟩

/-- **C01 (a dominated change is ignored).**  A column change of the row's current incarnation
whose key `(col_version, value, site)` is not above the stored cell's leaves the database
literally unchanged.  Any database, any change. -/
theorem merge_ignores_dominated (db : Db) (c : Chg) (r : Row) (l : Cell)
    (hr : db.findRow c.tbl c.pk = some r) (hcl : c.cl = r.cl) (hl : r.findCell c.cid = some l)
    (hdom : keyLt l.key c.key = false) : merge db c = db :=
  Absorbed.merge_eq ⟨by rw [hr]; exact Nat.le_of_eq hcl,
    fun _ => Or.inr (Or.inr ⟨r, l, hr, hl, by rw [wins_eq_keyLt]; exact hdom⟩)⟩

/-- a delete or a sentinel carrying the row's current causal length is ignored -/
theorem merge_ignores_same_cl_sentinel (db : Db) (c : Chg) (hcl : c.cl = db.cl c.tbl c.pk)
    (h : c.cl % 2 = 0 ∨ c.cid = sentinel) : merge db c = db :=
  Absorbed.merge_eq ⟨Nat.le_of_eq hcl, fun _ => h.elim Or.inl (fun hs => Or.inr (Or.inl hs))⟩

/-- so the lookups `view` is made of see every stored row and cell (`findRow_of_mem`,
`findCell_of_mem`) -/
theorem reachable_noDup (s : Nat) (P : List Chg) : (mergeAll (Db.empty s) P).NoDup :=
  mergeAll_noDup P ⟨List.Pairwise.nil, fun _ h => by cases h⟩

/-- **C01 ("a node never shows a value that no acknowledged transaction produced").**  Every stored
row of `mergeAll ∅ P` carries the causal length of a change of `P` for that row, and every stored
cell carries the value — and the attribution `(site, db_version, seq)` — of a change of `P` for that
row and column. -/
theorem no_invented_values (s : Nat) (P : List Chg) :
    ∀ r ∈ (mergeAll (Db.empty s) P).rows,
      (∃ c ∈ P, c.tbl = r.tbl ∧ c.pk = r.pk ∧ c.cl = r.cl) ∧
      ∀ l ∈ r.cells, ∃ c ∈ P, c.tbl = r.tbl ∧ c.pk = r.pk ∧ c.cid = l.cid ∧ l.cid ≠ sentinel ∧
        c.val = l.val ∧ c.site = l.clk.site ∧ c.dbv = l.clk.dbv ∧ c.seq = l.clk.seq := by
  intro r hr
  have hnd := reachable_noDup s P
  have hi := inv_mergeAll_empty s P
  have hf := findRow_of_mem hnd hr
  refine ⟨hi.row_prov hf, ?_⟩
  intro l hl
  have hfc := findCell_of_mem (hnd.2 r hr) hl
  exact hi.cell_prov (by rw [Db.cell_eq hf]; exact hfc)

/-- **An INSERT emits a change for every non-key column** (the reason histories of local
transactions are incarnation-complete): the change list of a local transaction consisting of one
INSERT contains, for every non-key column of the table, a change of column version 1 that carries
the row's new (odd) causal length and is attributed to the writing site and the new version. -/
theorem localTx_insert_emits_all_columns {db : Db} {tbl pk : String}
    {assigns : List (String × Val)} {cols : List String} {db' : Db} {ver : Nat} {chs : List Chg}
    (hc : tableCols tbl = some cols)
    (h : localTx db [.ins tbl pk assigns] = .ok (db', some (ver, chs))) :
    db'.cl tbl pk % 2 = 1 ∧ ver = db.dbv + 1 ∧
    ∀ col ∈ cols, ∃ c ∈ chs, c.tbl = tbl ∧ c.pk = pk ∧ c.cid = col ∧ c.cl = db'.cl tbl pk ∧
      c.colv = 1 ∧ c.site = db.site ∧ c.dbv = ver := by
  obtain ⟨db1, k1, h1, _, rfl, ⟨_, _, ho⟩ | ⟨_, rfl, ho⟩⟩ := localTx_ok h
  · cases ho
  cases ho
  simp only [applyStmts] at h1
  cases happ : applyStmt db (db.dbv + 1) 0 (.ins tbl pk assigns) with
  | error e => rw [happ] at h1; cases h1
  | ok res =>
    rw [happ] at h1
    cases h1
    obtain ⟨r, hr, ht, hp, hodd, hsite, hcells⟩ := applyStmt_ins_row hc happ
    have hcl : Db.cl { res.1 with dbv := db.dbv + 1 } tbl pk = r.cl := by
      show lclOf (res.1.findRow tbl pk) = r.cl
      rw [hr]; rfl
    refine ⟨by rw [hcl]; exact hodd, rfl, ?_⟩
    intro col hcol
    obtain ⟨l, hl, h4, h5, h6, h7⟩ := hcells col hcol
    have hmem := mem_changes_of_cell (findRow_some hr).2.2 hl
    refine ⟨_, mem_sortBySeq.mpr (List.mem_filter.mpr ⟨hmem, ?_⟩), ht, hp, h4, hcl.symm, h5, h6, h7⟩
    simp only [decide_eq_true_eq]
    exact ⟨h6, h7, Nat.zero_le _, le_foldl_max hmem 0⟩

/-- the version and change list a local transaction produced (for the example below) -/
def Ex.produced : Except WErr (Db × Option (Nat × List Chg)) → Option (Nat × List Chg)
  | .ok (_, out) => out
  | .error _ => none

/-- the INSERT of the correspondence table `t` (columns `a`, `b`) with only `a` assigned emits
changes for `a` and for `b` (NULL) -/
example : Ex.produced (localTx (Db.empty 1) [.ins "t" "1" [("a", .int 1)]]) = some (1,
    [⟨"t", "1", "a", .int 1, 1, 1, 1, 1, 0⟩, ⟨"t", "1", "b", .null, 1, 1, 1, 1, 1⟩]) := by decide +kernel

/-! Concrete histories: non-vacuity of the hypotheses, and the reason for `Complete`.
Field order of `Chg`: `tbl pk cid val colv cl site dbv seq`. -/

namespace Ex

def e1 : Db := Db.empty 1
def e2 : Db := Db.empty 2

/-- site 1 and site 2 write cell `t/1/a` with the same column version -/
def wA : Chg := ⟨"t", "1", "a", .int 5, 1, 1, 1, 1, 0⟩
def wB : Chg := ⟨"t", "1", "a", .int 7, 1, 1, 2, 1, 0⟩

/-- equal column versions: the larger value wins in both orders -/
example : (view (mergeAll e1 [wA, wB]) "t" "1").cell "a" = some (.int 7, 1) ∧
    (view (mergeAll e2 [wB, wA]) "t" "1").cell "a" = some (.int 7, 1) ∧
    (spec [wA, wB] "t" "1").cell "a" = some (.int 7, 1) := by decide +kernel

/-- the same text written by two sites -/
def tA : Chg := ⟨"t", "1", "a", .text [104, 105], 1, 1, 1, 1, 0⟩
def tB : Chg := ⟨"t", "1", "a", .text [104, 105], 1, 1, 2, 1, 0⟩

/-- equal column versions and equal values: the larger site id keeps the attribution in both
orders (the view does not even show it) -/
example : ((mergeAll e1 [tA, tB]).cell "t" "1" "a").map (·.clk.site) = some 2 ∧
    ((mergeAll e1 [tB, tA]).cell "t" "1" "a").map (·.clk.site) = some 2 ∧
    (view (mergeAll e1 [tA, tB]) "t" "1").cell "a" = (view (mergeAll e1 [tB, tA]) "t" "1").cell "a" := by
  decide +kernel

/-- site 1 inserts row `t/1` (columns `a`, `b`) -/
def insA : Chg := ⟨"t", "1", "a", .int 1, 1, 1, 1, 1, 0⟩
def insB : Chg := ⟨"t", "1", "b", .int 2, 1, 1, 1, 1, 1⟩
/-- site 1 deletes it -/
def del : Chg := ⟨"t", "1", "-1", .null, 2, 2, 1, 2, 0⟩
/-- concurrently site 2 updates column `a` -/
def upd : Chg := ⟨"t", "1", "a", .int 9, 2, 1, 2, 1, 0⟩

/-- a delete racing an update: the row is deleted (cl 2, no cells) in every order -/
example : (view (mergeAll e1 [insA, insB, del, upd]) "t" "1").cl = 2 ∧
    (view (mergeAll e2 [insA, upd, insB, del]) "t" "1").cl = 2 ∧
    (view (mergeAll e2 [upd, del, insB, insA]) "t" "1").cl = 2 ∧
    (mergeAll e1 [insA, insB, del, upd]).cell "t" "1" "a" = none ∧
    (mergeAll e2 [insA, upd, insB, del]).cell "t" "1" "a" = none ∧
    (mergeAll e2 [upd, del, insB, insA]).cell "t" "1" "a" = none ∧
    (mergeAll e2 [upd, del, insB, insA]).cell "t" "1" "b" = none := by decide +kernel

/-- site 1 re-inserts the row: third incarnation -/
def reS : Chg := ⟨"t", "1", "-1", .null, 3, 3, 1, 3, 0⟩
def reA : Chg := ⟨"t", "1", "a", .int 10, 1, 3, 1, 3, 1⟩
def reB : Chg := ⟨"t", "1", "b", .int 20, 1, 3, 1, 3, 2⟩

def hist : List Chg := [insA, insB, del, reS, reA, reB]
/-- the delete is delayed and the chunks of the re-insert arrive column-first -/
def histColumnFirst : List Chg := [insA, insB, reB, reA, reS, del, insA]

example : (∀ c ∈ hist, c.WF) ∧ Complete hist ∧ (∀ c, c ∈ hist ↔ c ∈ histColumnFirst) := by
  refine ⟨by decide +kernel, by decide +kernel, ?_⟩
  intro c; simp only [hist, histColumnFirst, List.mem_cons]; grind

/-- after `reB` the replica that missed the delete shows column `a` as a zeroed leftover
(old value, column version 0) … -/
example : (view (mergeAll e2 [insA, insB, reB]) "t" "1").cl = 3 ∧
    (view (mergeAll e2 [insA, insB, reB]) "t" "1").cell "a" = some (.int 1, 0) ∧
    (view (mergeAll e2 [insA, insB, reB]) "t" "1").cell "b" = some (.int 20, 1) := by decide +kernel

/-- that replica would re-export the leftover with `col_version = 0`: `Chg.WF` is not closed under
relaying, which is why `merge_fold_inv` and `merge_order_irrelevant_strong` do not assume it -/
example : ∃ c ∈ (mergeAll e2 [insA, insB, reB]).changes, ¬ c.WF := by decide +kernel

/-- … which the rest of the re-insert overwrites: both orders end in the same view -/
example : (view (mergeAll e1 hist) "t" "1").cl = 3 ∧
    (view (mergeAll e2 histColumnFirst) "t" "1").cl = 3 ∧
    (view (mergeAll e1 hist) "t" "1").cell "a" = some (.int 10, 1) ∧
    (view (mergeAll e2 histColumnFirst) "t" "1").cell "a" = some (.int 10, 1) ∧
    (view (mergeAll e1 hist) "t" "1").cell "b" = some (.int 20, 1) ∧
    (view (mergeAll e2 histColumnFirst) "t" "1").cell "b" = some (.int 20, 1) ∧
    (spec hist "t" "1").cl = 3 ∧ (spec hist "t" "1").cell "a" = some (.int 10, 1) := by decide +kernel

end Ex

/-- **Why `Complete` is a hypothesis.**  The set `{insert of a at cl 1, sentinel of cl 3}` is
well-formed but not incarnation-complete (column `a` has no change at `cl* = 3`).  Delivered in the
two possible orders it gives two different views: the replica that saw the old incarnation first
keeps `a` as a zeroed leftover `(5, col_version 0)`, the other one has no cell for `a`.  (Both have
`cl = 3`, and the leftover has column version 0, as `merge_order_irrelevant_partial` says.)  In a
real history this state is transient: the re-insert that produced the sentinel also produced a change
for `a` at `cl = 3`, and once it is delivered both replicas show it. -/
theorem leftover_depends_on_order :
    let S : List Chg := [Ex.wA, ⟨"t", "1", "-1", .null, 3, 3, 2, 2, 0⟩]
    (∀ c ∈ S, c.WF) ∧ ¬ Complete S ∧
    (view (mergeAll Ex.e1 S) "t" "1").cell "a" = some (.int 5, 0) ∧
    (view (mergeAll Ex.e1 S.reverse) "t" "1").cell "a" = none ∧
    (view (mergeAll Ex.e1 S) "t" "1").cl = 3 ∧ (view (mergeAll Ex.e1 S.reverse) "t" "1").cl = 3 := by
  decide +kernel

end Corro.Crdt
