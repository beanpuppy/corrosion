/-
C03 — a remote transaction becomes visible atomically, exactly when all chunks arrived.
Property theorems (and two concrete holder nodes), about the executable node model `Corro/Model/Node.lean`
(`process_incomplete_version` = `Node.bufferChunk`, `process_multiple_changes` + background loops =
`Node.deliver`, `process_fully_buffered_changes` = `Node.applyBuffered`).  What the statements are
written in: `Corro/Lemmas/NodeSeq.lean` (sequence rows, buffer), `NodeDeliver.lean` (`Item.incomplete`),
`NodeUnchunked.lean` (`CsOK`, `chunkItem`, `Before`, `After`), `NodeConsistent.lean` (`ItemWF`,
`Consistent`, `NoPending`; described in the header of `Props/C06.lean`).
-/
import Corro.Lemmas.NodeHolder
import Corro.Lemmas.NodeServe
import Corro.Lemmas.NodeDeliverCons
import Corro.Lemmas.NodeEffect
import Corro.Lemmas.NodeExFacts

namespace Corro.Node
open Corro.Crdt

/-- **C03 (the SQL that merges stored seq ranges; DESIGN §4 `seq_merge_spec`).**  For a node whose
sequence rows of `(site, ver)` are canonical (`SeqRowsWF`: forward, pairwise disjoint and
non-adjacent) and a forward chunk range `lo ≤ hi`, `process_incomplete_version`:

1. deletes exactly the rows of `(site, ver)` that overlap or are adjacent to `[lo, hi]`
   (the six-case predicate `touching` says `r.lo ≤ hi + 1 ∧ lo ≤ r.hi + 1`);
2. writes the single row `[min lo (deleted los), max hi (deleted his)]` carrying the chunk's
   `last_seq`, after the surviving rows, and returns that range;
3. leaves the rows of `(site, ver)` canonical;
4. makes their point set `old ∪ [lo, hi]`;
5. does not touch the rows of any other `(site', ver')`. -/
theorem seq_merge_spec (n : Node) (site ver lo hi last : Nat) (cs : List Chg) (hlh : lo ≤ hi)
    (hw : SeqRowsWF n.seqRows site ver) :
    let n' := (n.bufferChunk site ver lo hi last cs).1
    let m := (n.bufferChunk site ver lo hi last cs).2
    (∀ r ∈ rowsOf n.seqRows site ver,
      touching site ver lo hi r = true ↔ (r.lo ≤ hi + 1 ∧ lo ≤ r.hi + 1)) ∧
    n'.seqRows = n.seqRows.filter (fun r => !touching site ver lo hi r) ++ [⟨site, ver, m.1, m.2, last⟩] ∧
    (m.1 = lo ∨ ∃ r ∈ n.seqRows, touching site ver lo hi r = true ∧ m.1 = r.lo) ∧
    (m.2 = hi ∨ ∃ r ∈ n.seqRows, touching site ver lo hi r = true ∧ m.2 = r.hi) ∧
    (m.1 ≤ lo ∧ hi ≤ m.2 ∧ ∀ r ∈ n.seqRows, touching site ver lo hi r = true → m.1 ≤ r.lo ∧ r.hi ≤ m.2) ∧
    SeqRowsWF n'.seqRows site ver ∧
    (∀ x, SeqMem n'.seqRows site ver x ↔ SeqMem n.seqRows site ver x ∨ (lo ≤ x ∧ x ≤ hi)) ∧
    (∀ s' v', ¬ (s' = site ∧ v' = ver) → rowsOf n'.seqRows s' v' = rowsOf n.seqRows s' v') := by
  refine ⟨?_, rfl, mergedLo_attained _ _ _ _ _, mergedHi_attained _ _ _ _ _,
    ⟨mergedLo_le _ _ _ _ _, le_mergedHi _ _ _ _ _,
      fun r hr ht => ⟨mergedLo_le_touching hr ht, touching_le_mergedHi hr ht⟩⟩,
    seqRowsWF_bufferChunk n site ver lo hi last cs hlh hw,
    seqMem_bufferChunk n site ver lo hi last cs hlh hw.1,
    fun s' v' hne => rowsOf_bufferChunk_other n site ver lo hi last cs s' v' hne⟩
  intro r hr
  have hm := mem_rowsOf.mp hr
  rw [touching_iff hlh (hw.1 r hr)]
  exact ⟨fun h => h.2.2, fun h => ⟨hm.2.1, hm.2.2, h⟩⟩

/-- the new row set of a different `(site', ver')` stays canonical as well -/
theorem seq_merge_spec_other (n : Node) (site ver lo hi last : Nat) (cs : List Chg) (s' v' : Nat)
    (hne : ¬ (s' = site ∧ v' = ver)) (hw : SeqRowsWF n.seqRows s' v') :
    SeqRowsWF (n.bufferChunk site ver lo hi last cs).1.seqRows s' v' := by
  unfold SeqRowsWF at *
  rw [rowsOf_bufferChunk_other n site ver lo hi last cs s' v' hne]
  exact hw

/-- **C03 (`seq_merge_case5_total`).**  The fifth case of the SQL reads
`start_seq = :end + 1 AND end_seq` — a bare column used as a truth value, i.e. `end_seq != 0`.
For a forward row that starts at `hi + 1 ≥ 1` it is implied, so the case is the intended
"adjacent on the right". -/
theorem seq_merge_case5_total (r : SeqRow) (hi : Nat) (hr : r.lo ≤ r.hi) (h : r.lo = hi + 1) :
    (r.lo == hi + 1 && r.hi != 0) = true :=
  case5_total hr h

/-- **C03 (buffering: `INSERT … ON CONFLICT DO NOTHING`).**  After buffering a chunk, every change
of the chunk has a buffered row with its `(site, db_version, seq)`; rows that were buffered before
keep their place (the old buffer is a prefix of the new one) and the row found under a key that
was already present is the old one — the first writer wins; every new row is a change of the
chunk; keys stay unique. -/
theorem buffered_rows_first_writer_wins (n : Node) (site ver lo hi last : Nat) (cs : List Chg) :
    let n' := (n.bufferChunk site ver lo hi last cs).1
    (∀ c ∈ cs, ∃ x ∈ n'.buf, x.site = c.site ∧ x.dbv = c.dbv ∧ x.seq = c.seq) ∧
    n.buf <+: n'.buf ∧
    (∀ k, n.buf.any (sameKey k) = true → n'.buf.find? (sameKey k) = n.buf.find? (sameKey k)) ∧
    (∀ x ∈ n'.buf, x ∈ n.buf ∨ x ∈ cs) ∧
    (BufKeysUnique n.buf → BufKeysUnique n'.buf) :=
  ⟨fun _ hc => bufAdd_has_key n.buf cs hc, bufAdd_prefix n.buf cs,
    fun k hk => bufAdd_find_old n.buf cs k hk, fun _ hx => mem_bufAdd hx,
    fun h => bufAdd_keysUnique n.buf cs h⟩

/-- **C03 (buffered rows lie inside the received ranges).**  If every buffered row lies inside a
sequence row of its `(site, version)` (`Node.BufCovered`), the chunk is well formed (`ChunkWF`:
its changes belong to `(site, ver)` and have `lo ≤ seq ≤ hi`) and the stored rows of `(site, ver)`
are forward, the same holds after buffering the chunk. -/
theorem buffered_seqs_covered (n : Node) (site ver lo hi last : Nat) (cs : List Chg) (hlh : lo ≤ hi)
    (hf : ∀ r ∈ rowsOf n.seqRows site ver, r.lo ≤ r.hi) (hcw : ChunkWF site ver lo hi cs)
    (hb : n.BufCovered) : (n.bufferChunk site ver lo hi last cs).1.BufCovered := by
  intro c hc
  rcases mem_bufAdd (show c ∈ bufAdd n.buf cs from hc) with h | h
  · exact seqMem_bufferChunk_mono n site ver lo hi last cs hlh hf (hb c h)
  · obtain ⟨h1, h2, h3⟩ := hcw c h
    rw [h1, h2]
    exact (seqMem_bufferChunk n site ver lo hi last cs hlh hf c.seq).mpr (Or.inr h3)

/-- **C03 ("none of its changes is visible in the replicated tables until the union of received
chunks covers the whole transaction").**  Delivering ANY batch that consists only of incomplete
chunks (`Item.incomplete`: `lo ≤ hi`, not `0..=last_seq`; any actors, versions, order, duplicates,
overlaps; known versions are simply skipped) to a node whose in-memory partials are canonical
(`Node.BookWF`) leaves the store `n.db` literally unchanged, unless the batch completed a partial:
i.e. whenever no chunk of the batch belongs to a version whose partial in the resulting bookkeeping
is complete. -/
theorem invisible_until_covered (n : Node) (batch : List Item) (hinc : ∀ it ∈ batch, it.incomplete)
    (hwf : n.BookWF)
    (hno : ∀ site ver lo hi last cs, Item.full site ver lo hi last cs ∈ batch →
      ∀ q, ((n.deliver batch).booked site).partial? ver = some q → q.complete = false) :
    (n.deliver batch).db = n.db := by
  rcases deliver_incomplete_alive n batch hinc hwf with h | ⟨site, ver, lo, hi, last, cs, q, hm, hq, hc⟩
  · exact h
  · rw [hno site ver lo hi last cs hm q hq] at hc; cases hc

/-- the same, read the other way: if a batch of incomplete chunks changed the store, then one of
its chunks belongs to a version whose partial is now complete (no gap in `0..=last_seq`) -/
theorem visible_only_if_covered (n : Node) (batch : List Item) (hinc : ∀ it ∈ batch, it.incomplete)
    (hwf : n.BookWF) (hch : (n.deliver batch).db ≠ n.db) :
    ∃ site ver lo hi last cs q, Item.full site ver lo hi last cs ∈ batch ∧
      ((n.deliver batch).booked site).partial? ver = some q ∧
      RSet.gaps q.seqs (0, q.last) = [] := by
  rcases deliver_incomplete_alive n batch hinc hwf with h | ⟨site, ver, lo, hi, last, cs, q, hm, hq, hc⟩
  · exact absurd h hch
  · refine ⟨site, ver, lo, hi, last, cs, q, hm, hq, ?_⟩
    unfold Partial.complete at hc
    exact List.isEmpty_iff.mp hc

/-- **C03 (dead apply loop).**  A node whose background apply loop is not running
(`alive = false`, the state between a crash and the restart) never changes its store on a batch
of incomplete chunks, covered or not. -/
theorem invisible_while_dead (n : Node) (batch : List Item) (hinc : ∀ it ∈ batch, it.incomplete)
    (hd : n.alive = false) : (n.deliver batch).db = n.db := by
  -- store, liveness flag and (no) clear jobs along the fold over the actors; `BookWF` is not assumed,
  -- so `deliverFold_incomplete` does not apply
  have hinv : (deliverFold n batch).1.db = n.db ∧ (deliverFold n batch).1.alive = n.alive ∧
      (deliverFold n batch).2.2 = [] := by
    refine foldl_inv (fun acc : Node × List (Nat × Nat) × List (Nat × Nat × Nat) =>
        acc.1.db = n.db ∧ acc.1.alive = n.alive ∧ acc.2.2 = []) _ _ _
      ⟨rfl, rfl, rfl⟩ (fun acc s _ hacc => ?_)
    obtain ⟨h1, h2, h3⟩ := processActor_incomplete_db acc.1 s ((unknownOf n batch).filter (·.site = s))
      (fun it hit => hinc it (mem_unknownOf (List.mem_filter.mp hit).1))
    exact ⟨h1.trans hacc.1, h2.trans hacc.2.1, by show acc.2.2 ++ _ = []; rw [hacc.2.2, h3]; rfl⟩
  obtain ⟨h1, h2, h3⟩ := hinv
  rw [deliver_eq']
  unfold finish
  rw [h3, clearAll_nil, h2, hd]
  exact h1

/-- **C03 ("at that point all of them become visible in one step with the same result as applying
the unchunked transaction … independent of chunk boundaries, arrival order, duplicates, overlap").**
Let `cs` be the change list of version `(site, ver)` (`CsOK`: strictly sorted by seq, attributed to
the version, seqs in `0..=last`), and let the chunk with seq range `r` be
`chunkItem site ver last cs r = Full site ver r last (the changes of cs with seq in r)`.
Deliver ANY list of chunks `chunks` (forward ranges inside `0..=last`; any order, duplicates,
overlaps), one chunk per batch, to an alive, consistent node with nothing pending and unique buffer
keys that does not know the version (no partial, `containsVersion = false`).  Then:

1. after any such list — covering or not — the store is either still literally `n.db` or literally
   `mergeAll n.db cs` (all or nothing);
2. if the ranges cover `0..=last`, the final store is literally `mergeAll n.db cs`, **equal as
   databases** (not only under the CRDT view: the buffered rows are applied sorted by seq, which is
   the order of `cs`);
3. which is the store obtained by delivering the unchunked changeset. -/
theorem apply_eq_unchunked {L : Nat → Nat → Nat} {n : Node} {site ver last : Nat} {cs : List Chg}
    (hc : Consistent L n) (hal : n.alive = true) (hnp : NoPending n) (hk : BufKeysUnique n.buf)
    (hpn : (n.booked site).partial? ver = none) (hcv : (n.booked site).containsVersion ver = false)
    (hcs : CsOK site ver last cs) (hL : L site ver = last) (chunks : List (Nat × Nat))
    (hch : ∀ r ∈ chunks, r.1 ≤ r.2 ∧ r.2 ≤ last) :
    let final := chunks.foldl (fun m r => m.deliver [chunkItem site ver last cs r]) n
    (final.db = n.db ∨ final.db = mergeAll n.db cs) ∧
    ((∀ x, x ≤ last → ∃ r ∈ chunks, r.1 ≤ x ∧ x ≤ r.2) → final.db = mergeAll n.db cs) ∧
    (n.deliver [Item.full site ver 0 last last cs]).db = mergeAll n.db cs := by
  have h0 : Before L site ver cs n.db n := Before.init hc hal hnp hk hpn hcv
  refine ⟨?_, fun hcov => chunks_apply h0 hcs hL chunks hch hcov, ?_⟩
  · rcases chunks_inv h0 hcs hL chunks hch with ⟨h, _⟩ | h
    · exact Or.inl h.db
    · exact Or.inr h.db
  · have := (h0.step_complete hcs hL).db
    unfold chunkItem at this
    rw [chunkOf_all hcs] at this
    exact this

/-- **C03 (the covering step, spelled out).**  In a state where the version is not applied yet
(`Before`), one more chunk either leaves the store alone and adds its range to the received ranges,
or applies the version: the store becomes `mergeAll db0 cs` — the buffered rows are merged exactly
once, sorted by seq — and from then on every chunk of the version is known and ignored. -/
theorem covered_applied_once {L : Nat → Nat → Nat} {m : Node} {site ver last : Nat} {cs : List Chg}
    {db0 : Db} (h : Before L site ver cs db0 m) (hcs : CsOK site ver last cs) (hL : L site ver = last)
    (r : Nat × Nat) (hlh : r.1 ≤ r.2) (hr : r.2 ≤ last) :
    let m' := m.deliver [chunkItem site ver last cs r]
    (Before L site ver cs db0 m' ∧ m'.db = db0 ∧
      ∀ x, (SeqMem m.seqRows site ver x ∨ (r.1 ≤ x ∧ x ≤ r.2)) → SeqMem m'.seqRows site ver x) ∨
    (m'.db = mergeAll db0 cs ∧
      ∀ r', r'.2 ≤ last → m'.deliver [chunkItem site ver last cs r'] = m') := by
  rcases h.step hcs hL r hlh hr with ⟨hb, hm⟩ | ha
  · exact Or.inl ⟨hb, hb.db, hm⟩
  · exact Or.inr ⟨ha.db, fun r' hr' => ha.step r' hr'⟩

/-- the two-chunk case `[0..k]`, `[k+1..last]`, in both orders -/
theorem apply_eq_unchunked_two {L : Nat → Nat → Nat} {n : Node} {site ver last : Nat} {cs : List Chg}
    (hc : Consistent L n) (hal : n.alive = true) (hnp : NoPending n) (hk : BufKeysUnique n.buf)
    (hpn : (n.booked site).partial? ver = none) (hcv : (n.booked site).containsVersion ver = false)
    (hcs : CsOK site ver last cs) (hL : L site ver = last) (k : Nat) (hkl : k < last) :
    ((n.deliver [chunkItem site ver last cs (0, k)]).deliver [chunkItem site ver last cs (k + 1, last)]).db =
      mergeAll n.db cs ∧
    ((n.deliver [chunkItem site ver last cs (k + 1, last)]).deliver [chunkItem site ver last cs (0, k)]).db =
      mergeAll n.db cs := by
  have h0 : Before L site ver cs n.db n := Before.init hc hal hnp hk hpn hcv
  -- any list made of the two chunks covers `0..=last`
  have key : ∀ chunks : List (Nat × Nat), (∀ r, r ∈ chunks ↔ r = (0, k) ∨ r = (k + 1, last)) →
      (chunks.foldl (fun m r => m.deliver [chunkItem site ver last cs r]) n).db = mergeAll n.db cs := by
    intro chunks hm
    refine chunks_apply h0 hcs hL chunks (fun r hr => ?_) (fun x hx => ?_)
    · rcases (hm r).mp hr with rfl | rfl
      · exact ⟨Nat.zero_le _, Nat.le_of_lt hkl⟩
      · exact ⟨hkl, Nat.le_refl _⟩
    · rcases Nat.lt_or_ge k x with h | h
      · exact ⟨_, (hm _).mpr (Or.inr rfl), h, hx⟩
      · exact ⟨_, (hm _).mpr (Or.inl rfl), Nat.zero_le _, h⟩
  have h1 := key [(0, k), (k + 1, last)] (fun r => by simp)
  have h2 := key [(k + 1, last), (0, k)] (fun r => by simp [or_comm])
  -- unfold the two folds by rewriting: left to unification, `deliver` would be unfolded first
  simp only [List.foldl_cons, List.foldl_nil] at h1 h2
  exact ⟨h1, h2⟩

/-- **C03 ("every partially received version is eventually applied or discarded (and its buffered
copies removed) once its missing ranges have been answered by a peer that holds the version").**
The receiver `n` (consistent, alive, nothing pending) holds `(site, ver)` as the incomplete partial
`p` and receives, in one batch, exactly what `handleNeed h site (Partial ver (gaps of p in
0..=last))` returns from a holder `h` that holds the version:
* either `h` has live changes of the version whose largest seq is the version's `last_seq`
  (`L site ver`) — it answers one `Full` changeset per gap;
* or every change of the version was overwritten on `h` (no live change, no buffered row, not
  needed) — it answers `Empty ver..=ver`.
Afterwards the version is not partial on the receiver any more: it has no partial or a complete one,
no sequence rows and no buffered rows (a complete partial without rows is one that has been applied), and
it is not needed.  That `p` is incomplete (`hinc`) matters only for the `Empty` answer, which the receiver
would skip as known if `p` were complete. -/
theorem partial_resolved_by_holder {L : Nat → Nat → Nat} {n h : Node} {site ver : Nat} {p : Partial}
    (hc : Consistent L n) (hal : n.alive = true) (hnp : NoPending n)
    (hp : (n.booked site).partial? ver = some p) (hinc : p.complete = false)
    (hholder : ((h.live site ver).isEmpty = false ∧ maxSeq (h.live site ver) = L site ver) ∨
      ((h.live site ver).isEmpty = true ∧ (∀ c ∈ h.buf, ¬ (c.site = site ∧ c.dbv = ver)) ∧
        ¬ RSet.Mem (h.booked site).needed ver)) :
    let n' := n.deliver (handleNeed h site (.part ver (RSet.gaps p.seqs (0, p.last))))
    ((n'.booked site).partial? ver = none ∨
      ∃ q, (n'.booked site).partial? ver = some q ∧ q.complete = true) ∧
    rowsOf n'.seqRows site ver = [] ∧ bufOf n'.buf site ver = [] ∧
    ¬ RSet.Mem (n'.booked site).needed ver := by
  rcases hholder with ⟨hl, hlast⟩ | ⟨hl, hb, hg⟩
  · -- live rows on the holder: one well-formed `Full` per gap (`hwf`), all contained afterwards (`deliver_eff`)
    intro n'
    have hca := hc.actor site
    have hwp := hca.pwf.of_partial? hp
    have hpl := hca.part_last ver p hp
    have hbatch : handleNeed h site (.part ver (RSet.gaps p.seqs (0, p.last))) =
        (RSet.gaps p.seqs (0, p.last)).filterMap (livePart h site ver) := by
      rw [handleNeed_part, hl]; rfl
    have hwf : ∀ it ∈ handleNeed h site (.part ver (RSet.gaps p.seqs (0, p.last))), ItemWF L it := by
      intro it hit
      rw [hbatch] at hit
      obtain ⟨r, hr, hlp⟩ := List.mem_filterMap.mp hit
      rw [livePart_isSome hl r] at hlp
      simp only [Option.some.injEq] at hlp
      subst hlp
      have hin := RSet.gaps_inside p.seqs 0 p.last 0 hwp r hr
      refine ⟨hlast, by rw [hlast, ← hpl]; exact hin.2.2, ?_⟩
      intro c hcm
      have hcm' := List.mem_filter.mp hcm
      have := mem_live.mp hcm'.1
      simp only [decide_eq_true_eq] at hcm'
      exact ⟨this.2.1, this.2.2.1, hcm'.2.1, hcm'.2.2⟩
    have hc' : Consistent L n' := deliver_consistent' hc _ hwf
    have hnp' : NoPending n' := deliver_noPending' hc _ hwf hal hnp
    have hca' := hc'.actor site
    -- `p` and the answered gaps of `p` cover `0..=last`: the version is settled, or its partial is complete
    have hW : WillHold (n'.booked site) ver := by
      refine (deliver_eff hca.needed_wf hca.pwf hca.keys _).of_ranges hca'.pwf
        ((containsVersion_iff _ _).mpr ⟨(hca.part_known ver p hp).2, (hca.part_known ver p hp).1⟩) hp (fun x hx => ?_)
      by_cases hmx : RSet.Mem p.seqs x
      · exact Or.inl hmx
      · obtain ⟨r, hr, hx1, hx2⟩ := (RSet.mem_gaps p.seqs 0 p.last x 0 hwp).mpr ⟨⟨Nat.zero_le _, hx⟩, hmx⟩
        have hm := List.mem_filterMap.mpr ⟨r, hr, livePart_isSome hl r⟩
        rw [← hbatch] at hm
        exact Or.inr ⟨r.1, r.2, _, _, hm, hx1, hx2⟩
    have hnn := ((containsVersion_iff _ _).mp hW.1).1
    cases h1 : (n'.booked site).partial? ver with
    | none =>
      have hnr : ¬ HasRows n' site ver := hca'.no_rows_of_no_partial h1
      exact ⟨Or.inl rfl, noRows_of_not_hasRows hnr, noBuf_of_not_hasRows hca' hnr, hnn⟩
    | some q =>
      have hnr : ¬ HasRows n' site ver := hnp' site ver q h1 (hW.2 q h1)
      exact ⟨Or.inr ⟨q, rfl, hW.2 q h1⟩, noRows_of_not_hasRows hnr, noBuf_of_not_hasRows hca' hnr, hnn⟩
  · have hbatch : handleNeed h site (.part ver (RSet.gaps p.seqs (0, p.last))) = [Item.empty site ver ver] := by
      apply handleNeed_part_empty h site ver _ hl (hasBuf_false_iff.mpr hb)
      cases hgg : h.inGaps site ver with
      | false => rfl
      | true => exact absurd (inGaps_iff.mp hgg) hg
    rw [hbatch]
    have := resolved_by_empty n site ver p hp hinc (hc.actor site).needed_wf
    exact ⟨Or.inl this.1, this.2.1, this.2.2.1, this.2.2.2⟩

/-- the `Empty` branch needs nothing but a canonical `needed` set on the receiver (dead or alive,
any state).  It rests on `BookedVersions::contains(v, None)` being false for an incomplete partial
(/repo commit 0a29c94): were it true, the `Empty` would be dropped as "already known" and the
partial would stay forever -/
theorem partial_resolved_by_empty (n : Node) (site ver : Nat) (p : Partial)
    (hp : (n.booked site).partial? ver = some p) (hinc : p.complete = false)
    (hw : RSet.WF (n.booked site).needed) :
    (n.booked site).contains ver none = false ∧
    ((n.deliver [Item.empty site ver ver]).booked site).partial? ver = none ∧
    rowsOf (n.deliver [Item.empty site ver ver]).seqRows site ver = [] ∧
    bufOf (n.deliver [Item.empty site ver ver]).buf site ver = [] ∧
    ¬ RSet.Mem ((n.deliver [Item.empty site ver ver]).booked site).needed ver :=
  ⟨contains_none_incomplete _ _ _ hp hinc, resolved_by_empty n site ver p hp hinc hw⟩

/-! ### concrete states (non-vacuity) -/

namespace Ex

/-- `srv` (`Lemmas/NodeEx.lean`) holds seqs 0..1 of version 3 of actor 1 (`last_seq = 3`) -/
example : SeqRowsWF srv.seqRows 1 3 ∧ srv.BookWF ∧ srv.BufCovered ∧ Consistent L srv ∧ NoPending srv ∧
    BufKeysUnique srv.buf :=
  ⟨by decide +kernel, srv_consistent.bookWF, srv_consistent.bufCovered, srv_consistent, srv_noPending,
    by unfold BufKeysUnique; decide +kernel⟩

/-- a chunk that touches the stored row on the right is merged with it (case 5 of the SQL) -/
example : (srv.bufferChunk 1 3 2 2 3 [ch "4" "a" 1 3 2]).1.seqRows = [⟨1, 3, 0, 2, 3⟩] ∧
    (srv.bufferChunk 1 3 3 3 3 [ch "4" "b" 1 3 3]).1.seqRows = [⟨1, 3, 0, 1, 3⟩, ⟨1, 3, 3, 3, 3⟩] := by
  decide +kernel

/-- `invisible_until_covered` on `srv`: the chunk `3..=3` does not complete version 3 (seq 2 is
missing): the hypotheses hold and the store is unchanged; then the chunk `2..=2` completes it and
all four changes appear at once -/
example :
    (∀ it ∈ [Item.full 1 3 3 3 3 [ch "4" "b" 1 3 3]], it.incomplete) ∧
    ((srv.deliver [Item.full 1 3 3 3 3 [ch "4" "b" 1 3 3]]).booked 1).partial? 3 = some ⟨[(0, 1), (3, 3)], 3⟩ ∧
    (srv.deliver [Item.full 1 3 3 3 3 [ch "4" "b" 1 3 3]]).db.rows = srv.db.rows ∧
    ((srv.deliver [Item.full 1 3 3 3 3 [ch "4" "b" 1 3 3]]).deliver
      [Item.full 1 3 2 2 3 [ch "4" "a" 1 3 2]]).live 1 3 = v3 := by decide +kernel

/-- `apply_eq_unchunked` on a fresh node: version 3 in two chunks, in both orders, and in four
overlapping / duplicated chunks, gives the rows of the unchunked delivery -/
example : CsOK 1 3 3 v3 ∧
    (((Node.fresh 9).deliver [chunkItem 1 3 3 v3 (2, 3)]).deliver [chunkItem 1 3 3 v3 (0, 1)]).db.rows =
      ((Node.fresh 9).deliver [Item.full 1 3 0 3 3 v3]).db.rows ∧
    ((((Node.fresh 9).deliver [chunkItem 1 3 3 v3 (1, 2)]).deliver [chunkItem 1 3 3 v3 (1, 2)]).deliver
      [chunkItem 1 3 3 v3 (2, 3)]).db.rows = (Node.fresh 9).db.rows ∧
    (((((Node.fresh 9).deliver [chunkItem 1 3 3 v3 (1, 2)]).deliver [chunkItem 1 3 3 v3 (1, 2)]).deliver
      [chunkItem 1 3 3 v3 (2, 3)]).deliver [chunkItem 1 3 3 v3 (0, 1)]).db.rows =
      ((Node.fresh 9).deliver [Item.full 1 3 0 3 3 v3]).db.rows := by
  exact ⟨v3_ok, by decide +kernel⟩

/-- a holder with the whole version 3 live -/
def holderLive : Node := (Node.fresh 8).deliver [Item.full 1 3 0 3 3 v3]
/-- a holder on which version 3 was cleared -/
def holderCleared : Node := (Node.fresh 7).deliver [Item.empty 1 3 3]

/-- `partial_resolved_by_holder` on `srv`: the hypotheses hold for both holders; the live holder
answers the gap `2..=3` and version 3 gets applied, the cleared holder answers `Empty` and the
partial is discarded with its rows -/
example :
    ((srv.booked 1).partial? 3 = some ⟨[(0, 1)], 3⟩) ∧
    (holderLive.live 1 3).isEmpty = false ∧ maxSeq (holderLive.live 1 3) = L 1 3 ∧
    handleNeed holderLive 1 (.part 3 (RSet.gaps [(0, 1)] (0, 3))) = [Item.full 1 3 2 3 3 v3hi] ∧
    (srv.deliver (handleNeed holderLive 1 (.part 3 (RSet.gaps [(0, 1)] (0, 3))))).live 1 3 = v3 ∧
    (srv.deliver (handleNeed holderLive 1 (.part 3 (RSet.gaps [(0, 1)] (0, 3))))).seqRows = [] ∧
    (holderCleared.live 1 3).isEmpty = true ∧
    handleNeed holderCleared 1 (.part 3 (RSet.gaps [(0, 1)] (0, 3))) = [Item.empty 1 3 3] ∧
    ((srv.deliver [Item.empty 1 3 3]).booked 1).partial? 3 = none ∧
    (srv.deliver [Item.empty 1 3 3]).seqRows = [] ∧ (srv.deliver [Item.empty 1 3 3]).buf = [] := by
  decide +kernel

end Ex

end Corro.Node
