/-
Cluster model for the protocol-level half of C01: a list of `Node`s (ids = positions), the global log
`L` of acknowledged local transactions `(site, version) ↦ change list as produced` (monotone
history, NEWEST FIRST), and — ghost state — for every node the list `R i` of changes it has merged
into its store so far.

Everything a node ever receives is either an original chunk cut from `L` (`Op.deliverOrigin`) or
something another node SERVED from its own state through `Node.serve` (`Op.sync`).  Changesets are
delivered ONE PER BATCH (`Node.deliver [it]`): a sync session hands the kept answers to
`process_multiple_changes` one at a time, in the order the op gives.  Loss, reordering and
duplication inside a session are the op's `keep` list (indices into the server's answer list, any
order, repeats allowed, missing indices = lost answers).

Executable, import-free apart from the other model files.
-/
import Corro.Model.Node

namespace Corro.ClusterSys
open Corro.Crdt Corro.Node
open Corro.Needs (computeAvailableNeeds)

/-- the global log, newest transaction first: `((site, version), change list as produced)` -/
abbrev Log := List ((Nat × Nat) × List Chg)

/-- the change list of `(site, version)` (`[]` if there is no such transaction) -/
def Log.get (L : Log) (a v : Nat) : List Chg :=
  ((L.find? (fun e => e.1.1 = a ∧ e.1.2 = v)).map (·.2)).getD []

def Log.has (L : Log) (a v : Nat) : Bool := L.any (fun e => e.1.1 = a ∧ e.1.2 = v)

/-- all changes of all acknowledged transactions -/
def Log.all (L : Log) : List Chg := L.flatMap (·.2)

/-- number of versions site `a` has produced -/
def Log.head (L : Log) (a : Nat) : Nat := (L.filter (fun e => e.1.1 = a)).length

structure Cluster where
  nodes : List Node
  log : Log := []
  /-- ghost: `recv[i]` = the changes node `i` has merged into its store so far (own writes included) -/
  recv : List (List Chg) := []
deriving Inhabited

def Cluster.init (k : Nat) : Cluster :=
  { nodes := (List.range k).map Node.fresh, log := [], recv := List.replicate k [] }

/-- the ghost received-list of node `i` -/
def Cluster.R (c : Cluster) (i : Nat) : List Chg := (c.recv[i]?).getD []

inductive Op where
  /-- a local transaction on node `i` -/
  | write (i : Nat) (stmts : List Stmt)
  /-- node `i` receives the chunk `[lo, hi]` of the ORIGINAL change list of `(site, ver)`, with the
  original `last_seq` -/
  | deliverOrigin (i site ver lo hi : Nat)
  /-- a sync session of client `i` with server `j`; `keep` selects (by index, in delivery order)
  which of the server's answers reach the client -/
  | sync (i j : Nat) (keep : List Nat)
  | kill (i : Nat)
  | restart (i : Nat)
deriving Repr, Inhabited

/-- the chunk `[lo, hi]` of the original transaction `(site, ver)`, as its origin would send it -/
def originItem (L : Log) (site ver lo hi : Nat) : Item :=
  let cs := L.get site ver
  .full site ver lo hi (maxSeq cs) (cs.filter (fun c => lo ≤ c.seq ∧ c.seq ≤ hi))

/-- what `n.deliver [it]` merges into the store (ghost bookkeeping; `received_set_exact` in
`Props/C01Cluster.lean` proves `(n.deliver [it]).db = mergeAll n.db (mergedBy n it)`) -/
def mergedBy (n : Node) (it : Item) : List Chg :=
  match it with
  | .empty .. => []
  | .full site ver lo hi last cs =>
    if (n.booked site).containsAll ver ver (some (lo, hi)) then []
    else if lo == 0 && hi == last then cs
    else if hi < lo then []
    else
      let r := n.bufferChunk site ver lo hi last cs
      let p := (((n.booked site).insertDb [(ver, ver)]).insertPartial ver ⟨[r.2], last⟩).2
      if p.complete && n.alive then sortBySeq (r.1.buf.filter (fun c => c.site = site ∧ c.dbv = ver))
      else []

/-- one changeset through `process_multiple_changes`, with the ghost list -/
def deliverOne (s : Node × List Chg) (it : Item) : Node × List Chg :=
  (s.1.deliver [it], mergedBy s.1 it ++ s.2)

/-- what the re-scheduled applies of a restart merge, in order (ghost bookkeeping) -/
def restartMerged (n : Node) : List Chg :=
  let tasks : List (Nat × Nat) :=
    (n.knownActors.map (fun a => (a, n.fromConn a))).flatMap
      (fun e => (e.2.partials.filter (fun vp => vp.2.complete)).map (fun vp => (e.1, vp.1)))
  (tasks.foldl (fun (s : List Chg × List Chg) t =>
      (s.1 ++ sortBySeq (s.2.filter (fun c => c.site = t.1 ∧ c.dbv = t.2)),
        s.2.filter (fun c => !decide (c.site = t.1 ∧ c.dbv = t.2)))) ([], n.buf)).1

/-- everything server `nj` sends in a session with client `ni`: the client computes its needs from
the two advertised states, the server answers every need -/
def answers (ni nj : Node) : List Item :=
  (computeAvailableNeeds ni.syncState nj.syncState).flatMap
    (fun an => an.2.flatMap (fun need => nj.serve an.1 need))

def pick (l : List Item) (keep : List Nat) : List Item := keep.filterMap (fun k => l[k]?)

def Cluster.setNode (c : Cluster) (i : Nat) (s : Node × List Chg) : Cluster :=
  { c with nodes := c.nodes.set i s.1, recv := c.recv.set i s.2 }

def step (c : Cluster) : Op → Cluster
  | .write i stmts =>
    match c.nodes[i]? with
    | none => c
    | some n =>
      match n.localWrite stmts with
      | .ok (n', some (ver, chs)) =>
        { nodes := c.nodes.set i n', log := ((n.id, ver), chs) :: c.log,
          recv := c.recv.set i (chs ++ c.R i) }
      | _ => c
  | .deliverOrigin i site ver lo hi =>
    match c.nodes[i]? with
    | none => c
    | some n =>
      if c.log.has site ver && decide (lo ≤ hi) && decide (hi ≤ maxSeq (c.log.get site ver)) then
        c.setNode i (deliverOne (n, c.R i) (originItem c.log site ver lo hi))
      else c
  | .sync i j keep =>
    match c.nodes[i]?, c.nodes[j]? with
    | some ni, some nj =>
      if i = j then c
      else c.setNode i ((pick (answers ni nj) keep).foldl deliverOne (ni, c.R i))
    | _, _ => c
  | .kill i =>
    match c.nodes[i]? with
    | none => c
    | some n => c.setNode i (n.kill, c.R i)
  | .restart i =>
    match c.nodes[i]? with
    | none => c
    | some n => c.setNode i (n.restart, restartMerged n ++ c.R i)

def run (c : Cluster) (ops : List Op) : Cluster := ops.foldl step c

/-- no node has a sequence row of a version without a buffered row of that version -/
def nodeClean (n : Node) : Bool :=
  n.seqRows.all (fun r => n.buf.any (fun c => c.site = r.site ∧ c.dbv = r.ver))

def Cluster.clean (c : Cluster) : Bool := c.nodes.all nodeClean

end Corro.ClusterSys
