import Corro.Props.C07
#print axioms Corro.LocalTx.tx_all_or_nothing
#print axioms Corro.LocalTx.error_only_if_failing
#print axioms Corro.LocalTx.noop_consumes_nothing
#print axioms Corro.LocalTx.changes_nothing_is_noop
#print axioms Corro.LocalTx.unacknowledged_no_effect
#print axioms Corro.LocalTx.ack_version_succ
#print axioms Corro.LocalTx.acked_versions_consecutive_with_remote
#print axioms Corro.LocalTx.acked_versions_consecutive
#print axioms Corro.LocalTx.acked_versions_from_fresh
#print axioms Corro.LocalTx.reachable_good
#print axioms Corro.LocalTx.own_never_needed_step
#print axioms Corro.LocalTx.own_never_needed
#print axioms Corro.LocalTx.tx_changes_attributed
#print axioms Corro.LocalTx.broadcast_tiles
#print axioms Corro.LocalTx.broadcast_covers_once
#print axioms Corro.LocalTx.broadcast_tiles_run
#print axioms Corro.LocalTx.remote_keeps_own
#print axioms Corro.LocalTx.remote_id
#print axioms Corro.LocalTx.submit_id
#print axioms Corro.LocalTx.reachable_good_with_remote
#print axioms Corro.LocalTx.own_never_needed_with_remote
