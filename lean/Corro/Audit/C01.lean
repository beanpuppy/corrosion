import Corro.Props.C01
import Corro.Props.C01Cluster
import Corro.Props.C01ClusterCrash
import Corro.Props.C01ClusterBatch
import Corro.Props.C01ClusterFull
#print axioms Corro.Crdt.wins_order_strict_total
#print axioms Corro.Crdt.val_order_strict_total
#print axioms Corro.Crdt.row_cl_is_max
#print axioms Corro.Crdt.merge_order_irrelevant_strong
#print axioms Corro.Crdt.merge_order_irrelevant
#print axioms Corro.Crdt.replicas_converge
#print axioms Corro.Crdt.merge_order_irrelevant_partial
#print axioms Corro.Crdt.merge_idempotent
#print axioms Corro.Crdt.merge_idempotent_view
#print axioms Corro.Crdt.merge_redelivery
#print axioms Corro.Crdt.merge_chunks_flatten
#print axioms Corro.Crdt.merge_ignores_lower_cl
#print axioms Corro.Crdt.merge_ignores_dominated
#print axioms Corro.Crdt.merge_ignores_same_cl_sentinel
#print axioms Corro.Crdt.reachable_noDup
#print axioms Corro.Crdt.no_invented_values
#print axioms Corro.Crdt.localTx_insert_emits_all_columns
#print axioms Corro.Crdt.leftover_depends_on_order
#print axioms Corro.ClusterSys.store_from_log_partial
#print axioms Corro.ClusterSys.no_invented_values_cluster_partial
#print axioms Corro.ClusterSys.received_set_partial
#print axioms Corro.ClusterSys.received_set_exact
#print axioms Corro.ClusterSys.held_inv_partial
#print axioms Corro.ClusterSys.relay_serves_nondominated_partial
#print axioms Corro.ClusterSys.served_chunks_ok_partial
#print axioms Corro.ClusterSys.converged_at_quiescence_partial
#print axioms Corro.ClusterSys.replicas_agree_at_quiescence_partial
#print axioms Corro.ClusterSys.allHeld_of_quiescent
#print axioms Corro.ClusterSys.converged_when_quiescent_partial
#print axioms Corro.ClusterSys.sync_round_progress_partial
#print axioms Corro.ClusterSys.origin_holds_own_partial
#print axioms Corro.ClusterSys.eventual_convergence_partial
#print axioms Corro.ClusterSys.Ex.cA_reach
#print axioms Corro.ClusterSys.Ex.cA'_reach
#print axioms Corro.ClusterSys.converged_at_quiescence_ties_counterexample
#print axioms Corro.ClusterSys.held_inv_needs_clean_counterexample
#print axioms Corro.ClusterSys.crash_runs_subsume_live_runs
#print axioms Corro.ClusterSys.held_inv_crash_partial
#print axioms Corro.ClusterSys.held_iff
#print axioms Corro.ClusterSys.killed_pending_not_held
#print axioms Corro.ClusterSys.kill_keeps_held
#print axioms Corro.ClusterSys.partial_states_crash_partial
#print axioms Corro.ClusterSys.restart_applies_pending_crash_partial
#print axioms Corro.ClusterSys.merged_versions_complete_crash_partial
#print axioms Corro.ClusterSys.relay_serves_nondominated_crash_partial
#print axioms Corro.ClusterSys.served_chunks_ok_crash_partial
#print axioms Corro.ClusterSys.converged_node_crash_partial
#print axioms Corro.ClusterSys.converged_at_quiescence_crash_partial
#print axioms Corro.ClusterSys.replicas_agree_at_quiescence_crash_partial
#print axioms Corro.ClusterSys.converged_when_quiescent_crash_partial
#print axioms Corro.ClusterSys.sync_round_progress_crash_partial
#print axioms Corro.ClusterSys.origin_holds_own_crash_partial
#print axioms Corro.ClusterSys.eventual_convergence_alive_nodes_crash_partial
#print axioms Corro.ClusterSys.eventual_convergence_crash_partial
#print axioms Corro.ClusterSys.ExCrash.cD_reach
#print axioms Corro.ClusterSys.linv_rheld_crash_counterexample
#print axioms Corro.ClusterSys.eventual_convergence_needs_restart_counterexample
#print axioms Corro.ClusterSys.restart_sync_state_roundtrip_counterexample
#print axioms Corro.ClusterSys.received_set_exact_batch
#print axioms Corro.ClusterSys.batch_preserves_inv
#print axioms Corro.ClusterSys.store_from_log_batch_partial
#print axioms Corro.ClusterSys.no_invented_values_batch_partial
#print axioms Corro.ClusterSys.received_set_batch_partial
#print axioms Corro.ClusterSys.held_inv_batch_partial
#print axioms Corro.ClusterSys.relay_serves_nondominated_batch_partial
#print axioms Corro.ClusterSys.served_chunks_ok_batch_partial
#print axioms Corro.ClusterSys.converged_at_quiescence_batch_partial
#print axioms Corro.ClusterSys.replicas_agree_at_quiescence_batch_partial
#print axioms Corro.ClusterSys.converged_when_quiescent_batch_partial
#print axioms Corro.ClusterSys.batch_keeps_held
#print axioms Corro.ClusterSys.sync_round_progress_batch_partial
#print axioms Corro.ClusterSys.origin_holds_own_batch_partial
#print axioms Corro.ClusterSys.eventual_convergence_batch_partial
#print axioms Corro.ClusterSys.ExB.nodeOf_some
#print axioms Corro.ClusterSys.ExB.cD2_reach
#print axioms Corro.ClusterSys.ExB.cF_reach
#print axioms Corro.ClusterSys.batch_is_no_sequence_of_singletons_counterexample
#print axioms Corro.ClusterSys.empty_after_chunk_dropped_counterexample
#print axioms Corro.ClusterSys.full_runs_subsume_batch_runs
#print axioms Corro.ClusterSys.full_runs_subsume_crash_runs
#print axioms Corro.ClusterSys.batch_preserves_inv_full
#print axioms Corro.ClusterSys.store_from_log_full_partial
#print axioms Corro.ClusterSys.no_invented_values_full_partial
#print axioms Corro.ClusterSys.received_set_full_partial
#print axioms Corro.ClusterSys.held_inv_full_partial
#print axioms Corro.ClusterSys.partial_states_full_partial
#print axioms Corro.ClusterSys.restart_applies_pending_full_partial
#print axioms Corro.ClusterSys.merged_versions_complete_full_partial
#print axioms Corro.ClusterSys.relay_serves_nondominated_full_partial
#print axioms Corro.ClusterSys.served_chunks_ok_full_partial
#print axioms Corro.ClusterSys.converged_node_full_partial
#print axioms Corro.ClusterSys.converged_at_quiescence_full_partial
#print axioms Corro.ClusterSys.replicas_agree_at_quiescence_full_partial
#print axioms Corro.ClusterSys.converged_when_quiescent_full_partial
#print axioms Corro.ClusterSys.sync_round_progress_full_partial
#print axioms Corro.ClusterSys.origin_holds_own_full_partial
#print axioms Corro.ClusterSys.eventual_convergence_alive_nodes_full_partial
#print axioms Corro.ClusterSys.eventual_convergence_full_partial
#print axioms Corro.ClusterSys.ExFull.cG_reach
#print axioms Corro.ClusterSys.logOK_is_logOKre_and_cl_le_two
#print axioms Corro.ClusterSys.held_inv_needs_no_reinsertion_counterexample
